import Model.FramingBodies
import Lemmas.Framing
/-!
  The sequential readers of Model/FramingBodies.lean undo the encoders, and the record parsers of
  the MRT bodies undo their serialisers, in both directions.
-/
namespace Framing

@[simp] theorem getU8_enc (n : Nat) (r : Bytes) (h : n < 256) : getU8 (enc8 n ++ r) = some (n, r) := by
  simp [getU8, enc8, Nat.mod_eq_of_lt h]

@[simp] theorem getU16_enc (n : Nat) (r : Bytes) (h : n < 65536) : getU16 (enc16 n ++ r) = some (n, r) := by
  simp [getU16, enc16, Octets.horner16 h]

@[simp] theorem getU32_enc (n : Nat) (r : Bytes) (h : n < 4294967296) : getU32 (enc32 n ++ r) = some (n, r) := by
  simp [getU32, enc32, Octets.horner32 h]

@[simp] theorem getN_append (a r : Bytes) (n : Nat) (h : a.length = n) : getN n (a ++ r) = some (a, r) := by
  subst h
  simp [getN]

/-- an embedded BGP message is cut out by its own Length field -/
theorem bgpFrame_mk (body r : Bytes) (h1 : 1 ≤ body.length) (h2 : 18 + body.length + r.length < 65536) :
    bgpFrame (mkBgpMsg body ++ r) = some (mkBgpMsg body, r) := by
  have hl : (mkBgpMsg body).length = 18 + body.length := by
    simp only [mkBgpMsg, List.length_append, List.length_replicate, enc16_length]
  have hlen : (mkBgpMsg body ++ r).length = 18 + body.length + r.length := by
    rw [List.length_append, hl]
  have hrd : rd16 (mkBgpMsg body ++ r) 16 = 18 + body.length := by
    simp [mkBgpMsg, show 18 + body.length < 65536 by omega]
  have hmark : List.take 16 (mkBgpMsg body ++ r) = List.replicate 16 255 := by
    simp only [mkBgpMsg, List.append_assoc]
    exact List.take_left' List.length_replicate
  unfold bgpFrame
  rw [hlen, if_neg (by omega), hmark, if_neg (by simp)]
  simp only [hrd]
  rw [if_neg (by omega), if_neg (by omega), List.take_left' hl, List.drop_left' hl]

theorem bgpFrame_mk_nil (body : Bytes) (h1 : 1 ≤ body.length) (h2 : 18 + body.length < 65536) :
    bgpFrame (mkBgpMsg body) = some (mkBgpMsg body, []) := by
  have := bgpFrame_mk body [] h1 h2
  rwa [List.append_nil] at this

namespace Mrt

/-- well-formed peer entry: what NewPeer builds from IPv4/IPv6 addresses and a fitting AS -/
def PeerWF (p : Peer) : Prop :=
  p.typ < 256 ∧ p.bgpid.length = 4 ∧ p.addr.length = (if p.typ % 2 = 1 then 16 else 4) ∧
  p.asn < (if p.typ / 2 % 2 = 1 then 4294967296 else 65536)

theorem parsePeer_ser (p : Peer) (h : PeerWF p) :
    ∃ bs, serPeer p = some bs ∧ ∀ r, parsePeer (bs ++ r) = some (p, r) := by
  obtain ⟨typ, id, addr, asn⟩ := p
  obtain ⟨h1, h2, h3, h4⟩ := h
  simp only [] at *
  by_cases ha : typ / 2 % 2 = 1
  · rw [if_pos ha] at h4
    refine ⟨_, if_pos ha, fun r => ?_⟩
    simp [parsePeer, copyInto_exact, *]
  · rw [if_neg ha] at h4
    refine ⟨_, (if_neg ha).trans (if_neg (Nat.not_lt.mpr (Nat.le_of_lt_succ h4))), fun r => ?_⟩
    simp [parsePeer, copyInto_exact, *]

theorem parsePeers_ser (ps : List Peer) (h : ∀ p ∈ ps, PeerWF p) :
    ∃ bs, serPeers ps = some bs ∧ ∀ r, parsePeers ps.length (bs ++ r) = some (ps, r) := by
  induction ps with
  | nil => exact ⟨[], rfl, fun _ => rfl⟩
  | cons p ps ih =>
    obtain ⟨b1, hs1, hp1⟩ := parsePeer_ser p (h p (List.mem_cons_self ..))
    obtain ⟨b2, hs2, hp2⟩ := ih (fun q hq => h q (List.mem_cons_of_mem _ hq))
    refine ⟨b1 ++ b2, by simp only [serPeers, hs1, hs2], fun r => ?_⟩
    simp only [List.length_cons, parsePeers, List.append_assoc, hp1, hp2]

def EntryWF (addPath : Bool) (e : Entry) : Prop :=
  e.peerIndex < 65536 ∧ e.time < 4294967296 ∧ e.attrs.length < 65536 ∧
  (if addPath then e.pathId < 4294967296 else e.pathId = 0)

theorem parseEntry_ser (ap : Bool) (e : Entry) (r : Bytes) (h : EntryWF ap e) :
    parseEntry ap (serEntry ap e ++ r) = some (e, r) := by
  obtain ⟨pi, tm, pid, attrs⟩ := e
  obtain ⟨h1, h2, h3, h4⟩ := h
  cases ap <;> simp at h4 <;> simp [parseEntry, serEntry, *]

theorem parseEntries_ser (ap : Bool) (es : List Entry) (r : Bytes) (h : ∀ e ∈ es, EntryWF ap e) :
    parseEntries ap es.length (serEntries ap es ++ r) = some (es, r) := by
  induction es with
  | nil => rfl
  | cons e es ih =>
    simp only [List.length_cons, parseEntries, serEntries, List.append_assoc,
      parseEntry_ser ap e _ (h e (List.mem_cons_self ..)), ih (fun q hq => h q (List.mem_cons_of_mem _ hq))]

/-- IPAddrPrefix.decodeFromBytes accepts a prefix of `bits` bits in ⌈bits/8⌉ octets whose trailing
    bits are already cleared, and hands it back unchanged -/
theorem parseIPPrefix_ser (afi bits : Nat) (p r : Bytes) (hb : bits ≤ (if afi = 2 then 128 else 32))
    (hl : p.length = (bits + 7) / 8) (hm : bits % 8 ≠ 0 → maskLast (8 - bits % 8) p = p) :
    parseIPPrefix afi (bits :: p ++ r) = some (bits :: p, r) := by
  simp only [parseIPPrefix, List.cons_append, getU8, getN_append p r _ hl, if_neg (Nat.not_lt.mpr hb)]
  by_cases hr : bits % 8 = 0
  · rw [if_pos hr]
  · rw [if_neg hr, hm hr]

def Bgp4mpHdrWF (as4 : Bool) (h : Bgp4mpHdr) : Prop :=
  h.peerAS < (if as4 then 4294967296 else 65536) ∧ h.localAS < (if as4 then 4294967296 else 65536) ∧
  h.ifIndex < 65536 ∧
  ((h.afi = 1 ∧ h.peerAddr.length = 4 ∧ h.localAddr.length = 4) ∨
   (h.afi = 2 ∧ h.peerAddr.length = 16 ∧ h.localAddr.length = 16))

theorem parseBgp4mpHdr_ser (as4 : Bool) (h : Bgp4mpHdr) (hw : Bgp4mpHdrWF as4 h) :
    ∃ bs, serBgp4mpHdr as4 h = some bs ∧ ∀ r, parseBgp4mpHdr as4 (bs ++ r) = some (h, r) := by
  obtain ⟨pa, la, ifi, afi, p, l⟩ := h
  obtain ⟨h1, h2, h3, h4⟩ := hw
  simp only [] at *
  rcases h4 with ⟨rfl, hp, hl⟩ | ⟨rfl, hp, hl⟩
  · refine ⟨_, by simp only [serBgp4mpHdr, if_true]; rfl, fun r => ?_⟩
    cases as4 <;> simp at h1 h2 <;> simp [parseBgp4mpHdr, copyInto_exact, *]
  · refine ⟨_, by simp only [serBgp4mpHdr, if_true, if_neg (show ¬ 2 = 1 by decide)]; rfl, fun r => ?_⟩
    cases as4 <;> simp at h1 h2 <;> simp [parseBgp4mpHdr, copyInto_exact, *]

end Mrt

def Octets (d : Bytes) : Prop := ∀ x ∈ d, x < 256

theorem octets_append_right (a b : Bytes) (h : Octets (a ++ b)) : Octets b :=
  fun x hx => h x (List.mem_append_right a hx)
theorem octets_append_left (a b : Bytes) (h : Octets (a ++ b)) : Octets a :=
  fun x hx => h x (by simp [hx])

/-! One step of a parser: `match reader d with | none => none | some (v, r) => k v r`. If the
  whole answers `some y`, the reader succeeded, the octets it consumed are the encoding of `v`,
  and the continuation answered `y` on what is left. -/
theorem getU8_bind {α : Type} {d : Bytes} {k : Nat → Bytes → Option α} {y : α} (ho : Octets d)
    (h : (match getU8 d with | none => none | some (n, r) => k n r) = some y) :
    ∃ n r, d = enc8 n ++ r ∧ n < 256 ∧ Octets r ∧ k n r = some y := by
  match d, ho, h with
  | a :: r, ho, h =>
    have ha : a < 256 := ho a (List.mem_cons_self ..)
    exact ⟨a, r, by simp [enc8, Nat.mod_eq_of_lt ha], ha, octets_append_right [a] r ho, h⟩

theorem getU16_bind {α : Type} {d : Bytes} {k : Nat → Bytes → Option α} {y : α} (ho : Octets d)
    (h : (match getU16 d with | none => none | some (n, r) => k n r) = some y) :
    ∃ n r, d = enc16 n ++ r ∧ n < 65536 ∧ Octets r ∧ k n r = some y := by
  match d, ho, h with
  | a :: b :: r, ho, h =>
    have ha : a < 256 := ho a (by simp)
    have hb : b < 256 := ho b (by simp)
    exact ⟨a * 256 + b, r, congrArg (· ++ r) (enc16_be a b ha hb).symm, by omega, octets_append_right [a, b] r ho, h⟩

theorem getU32_bind {α : Type} {d : Bytes} {k : Nat → Bytes → Option α} {y : α} (ho : Octets d)
    (h : (match getU32 d with | none => none | some (n, r) => k n r) = some y) :
    ∃ n r, d = enc32 n ++ r ∧ n < 4294967296 ∧ Octets r ∧ k n r = some y := by
  match d, ho, h with
  | a :: b :: c :: e :: r, ho, h =>
    have ha : a < 256 := ho a (by simp)
    have hb : b < 256 := ho b (by simp)
    have hc : c < 256 := ho c (by simp)
    have he : e < 256 := ho e (by simp)
    exact ⟨((a * 256 + b) * 256 + c) * 256 + e, r, congrArg (· ++ r) (enc32_be a b c e ha hb hc he).symm, by omega,
      octets_append_right [a, b, c, e] r ho, h⟩

theorem getN_bind {α : Type} {n : Nat} {d : Bytes} {k : Bytes → Bytes → Option α} {y : α} (ho : Octets d)
    (h : (match getN n d with | none => none | some (x, r) => k x r) = some y) :
    ∃ x r, d = x ++ r ∧ x.length = n ∧ Octets r ∧ k x r = some y := by
  unfold getN at h
  by_cases hn : d.length < n
  · rw [if_pos hn] at h
    cases h
  · rw [if_neg hn] at h
    refine ⟨d.take n, d.drop n, (List.take_append_drop n d).symm, ?_, ?_, h⟩
    · rw [List.length_take]; omega
    · exact octets_append_right (d.take n) _ (by rwa [List.take_append_drop])

theorem parsePeer_inv (d r : Bytes) (p : Mrt.Peer) (h : Mrt.parsePeer d = some (p, r)) (ho : Octets d) :
    ∃ bs, Mrt.serPeer p = some bs ∧ bs ++ r = d ∧ Octets r := by
  unfold Mrt.parsePeer at h
  obtain ⟨t, d, rfl, ht, ho, h⟩ := getU8_bind ho h
  obtain ⟨id, d, rfl, hid, ho, h⟩ := getN_bind ho h
  obtain ⟨a, d, rfl, -, ho, h⟩ := getN_bind ho h
  by_cases h4 : t / 2 % 2 = 1
  · rw [if_pos h4] at h
    obtain ⟨asn, d, rfl, -, ho, h⟩ := getU32_bind ho h
    cases h
    exact ⟨_, if_pos h4, by simp [copyInto_exact, hid], ho⟩
  · rw [if_neg h4] at h
    obtain ⟨asn, d, rfl, hasn, ho, h⟩ := getU16_bind ho h
    cases h
    exact ⟨_, (if_neg h4).trans (if_neg (Nat.not_lt.mpr (Nat.le_of_lt_succ hasn))),
      by simp [copyInto_exact, hid], ho⟩

theorem parsePeers_inv (n : Nat) : ∀ (d r : Bytes) (ps : List Mrt.Peer), Mrt.parsePeers n d = some (ps, r) → Octets d →
    ∃ bs, Mrt.serPeers ps = some bs ∧ bs ++ r = d ∧ ps.length = n ∧ Octets r := by
  induction n with
  | zero =>
    intro d r ps h ho
    cases h
    exact ⟨[], rfl, rfl, rfl, ho⟩
  | succ k ih =>
    intro d r ps h ho
    unfold Mrt.parsePeers at h
    split at h
    · cases h
    next p d1 h1 =>
      split at h
      · cases h
      next ps' d2 h2 =>
        cases h
        obtain ⟨b1, hs1, he1, ho1⟩ := parsePeer_inv d d1 p h1 ho
        obtain ⟨b2, hs2, he2, hl2, ho2⟩ := ih d1 r ps' h2 ho1
        exact ⟨b1 ++ b2, by simp only [Mrt.serPeers, hs1, hs2], by rw [List.append_assoc, he2, he1],
          congrArg (· + 1) hl2, ho2⟩

theorem parseEntry_inv (ap : Bool) (d r : Bytes) (e : Mrt.Entry) (h : Mrt.parseEntry ap d = some (e, r)) (ho : Octets d) :
    Mrt.serEntry ap e ++ r = d ∧ Octets r := by
  unfold Mrt.parseEntry at h
  obtain ⟨pi, d, rfl, -, ho, h⟩ := getU16_bind ho h
  obtain ⟨tm, d, rfl, -, ho, h⟩ := getU32_bind ho h
  cases ap
  · simp only [Bool.false_eq_true, if_false] at h
    obtain ⟨al, d, rfl, -, ho, h⟩ := getU16_bind ho h
    obtain ⟨a, d, rfl, ha, ho, h⟩ := getN_bind ho h
    cases h
    exact ⟨by simp [Mrt.serEntry, ha], ho⟩
  · simp only [if_true] at h
    obtain ⟨pid, d, rfl, -, ho, h⟩ := getU32_bind ho h
    obtain ⟨al, d, rfl, -, ho, h⟩ := getU16_bind ho h
    obtain ⟨a, d, rfl, ha, ho, h⟩ := getN_bind ho h
    cases h
    exact ⟨by simp [Mrt.serEntry, ha], ho⟩

theorem parseEntries_inv (ap : Bool) (n : Nat) : ∀ (d r : Bytes) (es : List Mrt.Entry),
    Mrt.parseEntries ap n d = some (es, r) → Octets d → Mrt.serEntries ap es ++ r = d ∧ es.length = n := by
  induction n with
  | zero =>
    intro d r es h _
    cases h
    exact ⟨rfl, rfl⟩
  | succ k ih =>
    intro d r es h ho
    unfold Mrt.parseEntries at h
    split at h
    · cases h
    next e d1 h1 =>
      split at h
      · cases h
      next es' d2 h2 =>
        cases h
        obtain ⟨he1, ho1⟩ := parseEntry_inv ap d d1 e h1 ho
        obtain ⟨he2, hl2⟩ := ih d1 r es' h2 ho1
        exact ⟨by simp only [Mrt.serEntries, List.append_assoc, he2, he1], congrArg (· + 1) hl2⟩

end Framing
