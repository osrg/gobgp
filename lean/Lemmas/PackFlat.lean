import Lemmas.PackSplit
import Lemmas.PackRecv
/-! The route changes carried by the packed messages are, up to order, exactly the de-duplicated
    input changes (`flat_pack`). -/
namespace Pack

def chWd (f : Nat) (n : Nlri) : Change := ⟨f, n, none⟩
def chAnn (f : Nat) (a : Ann) : Change := ⟨f, a.n, some a.r⟩

theorem one_le_maxN (o : Opts) (a : Nat) : 1 ≤ maxN o a := Nat.le_max_left 1 _

theorem flatMap_flat_map (M : List Nlri → Msg) (mk : Nlri → Change)
    (hM : ∀ ns, flat (M ns) = ns.map mk) :
    ∀ L : List (List Nlri), (L.map M).flatMap flat = L.flatten.map mk := by
  intro L
  induction L with
  | nil => rfl
  | cons c r ih => rw [List.map_cons, List.flatMap_cons, List.flatten_cons, List.map_append, ih, hM]

theorem eorMsg_flat (f : Nat) (e : Bool) : (eorMsg f e).flatMap flat = [] := by
  cases e <;> rfl

theorem mem_eorMsg {f : Nat} {e : Bool} {m : Msg} : m ∈ eorMsg f e ↔ e = true ∧ m = .eor f := by
  cases e
  · exact ⟨nofun, fun h => nomatch h.1⟩
  · exact ⟨fun h => ⟨rfl, List.mem_singleton.mp h⟩, fun h => List.mem_singleton.mpr h.2⟩

theorem split_wd_ann (f : Nat) : ∀ (ps : List Path), (∀ p ∈ ps, p.c.fam = f) →
    ((ps.filterMap wdOf).map (chWd f) ++ (ps.filterMap annOf).map (chAnn f)).Perm (ps.map (·.c)) := by
  intro ps
  induction ps with
  | nil => intro _; exact .nil
  | cons p r ih =>
    intro h
    have ih' := ih (fun q hq => h q (List.mem_cons_of_mem _ hq))
    obtain ⟨⟨fam, n, act⟩, hash, grp⟩ := p
    obtain rfl : fam = f := h _ List.mem_cons_self
    cases act with
    | none => exact ih'.cons _
    | some r' => exact List.perm_middle.trans (ih'.cons _)

theorem flat_cages {κ : Type} [DecidableEq κ] (key : Ann → κ) (f : Nat) (H : κ × List Ann → List Msg)
    (l : List Ann) (hH : ∀ g ∈ groupBy key l.length l, (H g).flatMap flat = g.2.map (chAnn f)) :
    (((groupBy key l.length l).flatMap H).flatMap flat).Perm (l.map (chAnn f)) := by
  rw [List.flatMap_assoc, List.map_eq_flatMap]
  refine groupBy_flatMap_perm key _ _ _ l (Nat.le_refl _) (fun g hg => ?_)
  rw [hH g hg, List.map_eq_flatMap]

theorem flat_cage (f : Nat) (a : Attrs) (nh : Option NH) (M : List Nlri → Msg)
    (hM : ∀ ns, flat (M ns) = ns.map (fun n => ⟨f, n, some ⟨a, nh⟩⟩))
    (L : List (List Nlri)) (as : List Ann) (hL : L.flatten = as.map (·.n))
    (has : ∀ x ∈ as, x.r.attrs = a ∧ x.r.nh = nh) :
    (L.map M).flatMap flat = as.map (chAnn f) := by
  rw [flatMap_flat_map M _ hM, hL, List.map_map]
  refine List.map_congr_left (fun x hx => ?_)
  obtain ⟨rfl, rfl⟩ := has x hx
  rfl

theorem flat_singles (l : List Ann) :
    (l.map (fun a => Msg.reach 0 a.r.attrs a.r.nh [a.n])).flatMap flat = l.map (chAnn 0) :=
  (List.flatMap_map ..).trans List.map_eq_flatMap.symm

theorem flat_packV4 (o : Opts) (ps : List Path) (e : Bool) (hf : ∀ p ∈ ps, p.c.fam = 0) :
    ((packV4 o ps e).flatMap flat).Perm (ps.map (·.c)) := by
  unfold packV4
  simp only [List.flatMap_append, eorMsg_flat, List.append_nil]
  rw [flatMap_flat_map Msg.wd4 (chWd 0) (fun _ => rfl),
    chunkN_flatten _ (one_le_maxN o _) _ _ (Nat.le_refl _)]
  rw [flat_singles]
  refine (((flat_cages _ 0 _ _ (fun g hg => ?_)).append_left _).append_right _).trans ?_
  · refine flat_cage 0 _ _ _ (fun _ => rfl) _ g.2
      (chunkN_flatten _ (one_le_maxN o _) _ _ (Nat.le_of_eq (List.length_map _))) (fun x hx => ?_)
    have hkey := ((groupBy_key _ _ _ g hg).2 x hx).1
    exact ⟨congrArg (·.2.1) hkey, congrArg (·.2.2.1) hkey⟩
  · -- the cages and the RFC 5549 paths are the announcements, split by a filter
    rw [List.append_assoc, ← List.map_append]
    exact (((List.filter_append_perm _ _).map _).append_left _).trans (split_wd_ann 0 ps hf)

theorem flat_packMP (o : Opts) (f : Nat) (ps : List Path) (e : Bool) (hf : ∀ p ∈ ps, p.c.fam = f) :
    ((packMP o f ps e).flatMap flat).Perm (ps.map (·.c)) := by
  unfold packMP
  simp only [List.flatMap_append, eorMsg_flat, List.append_nil]
  rw [flatMap_flat_map (Msg.unreach f) (chWd f) (fun _ => rfl), splitMP_flatten]
  refine ((flat_cages _ f _ _ (fun g hg => ?_)).append_left _).trans (split_wd_ann f ps hf)
  obtain ⟨hne, hk⟩ := groupBy_key _ _ _ g hg
  obtain ⟨k, xs⟩ := g
  cases xs with
  | nil => exact absurd rfl hne
  | cons a0 rest =>
    refine flat_cage f _ _ _ (fun _ => rfl) _ (a0 :: rest) (splitMP_flatten ..) (fun x hx => ?_)
    have hkey := (hk x hx).1
    exact ⟨congrArg (·.1) hkey, congrArg (·.2) hkey⟩

def chItem (i : Item) : List Change := ((pathOf i).map (·.c)).toList

theorem changes_eq_flatMap : ∀ (is : List Item), changes is = is.flatMap chItem := by
  intro is
  induction is with
  | nil => rfl
  | cons i r ih =>
    cases i with
    | eor f => rw [changes_cons_eor, List.flatMap_cons, ih]; rfl
    | path p => rw [changes_cons_path, List.flatMap_cons, ih]; rfl

theorem flat_packFam (o : Opts) (f : Nat) (xs : List Item) (hf : ∀ x ∈ xs, famOf x = f) :
    ((packFam o f xs).flatMap flat).Perm (changes xs) := by
  have hp : ∀ p ∈ xs.filterMap pathOf, p.c.fam = f := fun p hp => hf _ (mem_filterMap_pathOf.mp hp)
  rw [changes_eq_map]
  unfold packFam
  split
  · rename_i h0; subst h0; exact flat_packV4 o _ _ hp
  · exact flat_packMP o f _ _ hp

/-- every route change of the de-duplicated input is carried by exactly one message, with its
    own attributes and next hop, and nothing else is carried -/
theorem flat_pack (o : Opts) (is : List Item) :
    ((pack o is).flatMap flat).Perm (changes (dedup o is)) := by
  unfold pack
  rw [List.flatMap_assoc, changes_eq_flatMap]
  refine groupBy_flatMap_perm famOf _ chItem _ _ (Nat.le_refl _) (fun g hg => ?_)
  rw [← changes_eq_flatMap]
  exact flat_packFam o g.1 g.2 (fun x hx => ((groupBy_key _ _ _ g hg).2 x hx).1)

end Pack
