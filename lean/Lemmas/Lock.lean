import Model.Lock
/-
Helper lemmas for C20: invariants of the abstract lock machine.
No deadlock: under a ranked lock order a blocked thread holds only locks ranked below the one it waits for
(`OrdInv`); so the potential `mu` of a blocked thread — twice the rank of the lock it waits for, plus one for
a writer, so that a reader queued behind a pending writer on the same lock lies below it — increases strictly
along every wait-for edge into a blocked thread, and such edges form no cycle.
Mutual exclusion: a writer is alone on its lock (`WriterAlone`).
-/
namespace Lock

variable {ok : LockId → LockId → Prop} {s s' : St} {t : Tid} {l : LockId} {m : Mode}

@[simp] theorem init_held (t : Tid) (l : LockId) : St.init.held t l = none := rfl
@[simp] theorem init_wait (t : Tid) : St.init.wait t = none := rfl

@[simp] theorem setWait_wait (w : Option (LockId × Mode)) (t' : Tid) :
    (setWait s t w).wait t' = if t' = t then w else s.wait t' := rfl
@[simp] theorem setWait_held (w : Option (LockId × Mode)) : (setWait s t w).held = s.held := rfl
@[simp] theorem setHeld_held (m : Option Mode) (t' : Tid) (l' : LockId) :
    (setHeld s t l m).held t' l' = if t' = t ∧ l' = l then m else s.held t' l' := rfl
@[simp] theorem setHeld_wait (m : Option Mode) : (setHeld s t l m).wait = s.wait := rfl

theorem grantable_no_writer (hg : grantable s t l m) (t' : Tid) : s.held t' l ≠ some .W := by
  cases m with
  | W => rw [hg t']; nofun
  | R => exact hg.1 t'

def OrdInv (rank : LockId → Nat) (s : St) : Prop :=
  ∀ t l m l', s.wait t = some (l, m) → (s.held t l').isSome → rank l' < rank l

theorem ordInv_step {rank : LockId → Nat} (hok : ∀ a b, ok a b → rank a < rank b)
    (hinv : OrdInv rank s) (hs : Step ok s s') : OrdInv rank s' := by
  intro t' l1 m1 l' hw hh
  cases hs with
  | request t l m _ hdisc =>
    rw [setWait_wait] at hw
    split at hw
    · subst t'
      cases hw
      exact hok _ _ (hdisc l' hh)
    · exact hinv t' l1 m1 l' hw hh
  | grant t l m _ _ =>
    rw [setHeld_wait, setWait_wait] at hw
    split at hw
    · cases hw
    · rw [setHeld_held, if_neg (fun h => ‹t' ≠ t› h.1)] at hh
      exact hinv t' l1 m1 l' hw hh
  | release t l _ _ =>
    rw [setHeld_held] at hh
    split at hh
    · cases hh
    · exact hinv t' l1 m1 l' hw hh

theorem ordInv_reachable {rank : LockId → Nat} (hok : ∀ a b, ok a b → rank a < rank b)
    (hr : Reachable ok s) : OrdInv rank s := by
  induction hr with
  | init => intro t l m l' hw; cases hw
  | step _ hs ih => exact ordInv_step hok ih hs

def Mode.weight : Mode → Nat
  | .R => 0
  | .W => 1

theorem Mode.weight_le_one (m : Mode) : m.weight ≤ 1 := by cases m <;> decide

def mu (rank : LockId → Nat) (s : St) (t : Tid) : Nat :=
  match s.wait t with
  | some (l, m) => 2 * rank l + m.weight
  | none => 0

theorem path_head {α : Type} {r : α → α → Prop} {a b : α} (p : Path r a b) : ∃ c, r a c := by
  cases p with
  | single h => exact ⟨_, h⟩
  | cons h _ => exact ⟨_, h⟩

theorem edge_increases {rank : LockId → Nat} (hinv : OrdInv rank s) {a b : Tid}
    (hab : waitsFor s a b) (hb : ∃ c, waitsFor s b c) : mu rank s a < mu rank s b := by
  obtain ⟨l, m, hwa, hcase⟩ := hab
  obtain ⟨c, l2, m2, hwb, _⟩ := hb
  unfold mu
  rw [hwa, hwb]
  cases hcase with
  | inl hheld =>
    have hlt : rank l < rank l2 := hinv b l2 m2 l hwb hheld
    calc 2 * rank l + m.weight < 2 * (rank l + 1) := Nat.add_lt_add_left (Nat.lt_succ_of_le m.weight_le_one) _
      _ ≤ 2 * rank l2 := Nat.mul_le_mul_left 2 hlt
      _ ≤ 2 * rank l2 + m2.weight := Nat.le_add_right _ _
  | inr hpend =>
    obtain ⟨rfl, hwb'⟩ := hpend
    cases hwb.symm.trans hwb'
    exact Nat.lt_succ_self _

theorem path_increases {rank : LockId → Nat} (hinv : OrdInv rank s) {a b : Tid}
    (p : Path (waitsFor s) a b) (hb : ∃ c, waitsFor s b c) : mu rank s a < mu rank s b := by
  induction p with
  | single h => exact edge_increases hinv h hb
  | cons h q ih => exact Nat.lt_trans (edge_increases hinv h (path_head q)) (ih hb)

def WriterAlone (s : St) : Prop :=
  ∀ t1 t2 l, t1 ≠ t2 → s.held t1 l = some .W → s.held t2 l = none

theorem writerAlone_step (hinv : WriterAlone s) (hs : Step ok s s') : WriterAlone s' := by
  cases hs with
  | request t l m _ _ => exact hinv
  | grant t l m _ hg =>
    intro t1 t2 l1 hne h1
    rw [setHeld_held, setWait_held] at h1 ⊢
    split at h1
    · -- `t1` is the thread that was granted `l`, for writing: nobody held it
      obtain ⟨rfl, rfl⟩ := ‹t1 = t ∧ l1 = l›
      cases h1
      rw [if_neg (fun h => hne h.1.symm)]
      exact hg t2
    · split
      · obtain ⟨rfl, rfl⟩ := ‹t2 = t ∧ l1 = l›
        exact absurd h1 (grantable_no_writer hg t1)
      · exact hinv t1 t2 l1 hne h1
  | release t l _ _ =>
    intro t1 t2 l1 hne h1
    rw [setHeld_held] at h1 ⊢
    split at h1
    · cases h1
    · split
      · rfl
      · exact hinv t1 t2 l1 hne h1

theorem writerAlone_reachable (hr : Reachable ok s) : WriterAlone s := by
  induction hr with
  | init => intro t1 t2 l _ h1; cases h1
  | step _ hs ih => exact writerAlone_step ih hs

theorem setWait_cancel (h : s.wait t = none) (w : Option (LockId × Mode)) :
    setWait (setWait s t w) t none = s := by
  cases s
  simp only [setWait, St.mk.injEq, true_and]
  funext t'
  split
  · subst t'; exact h.symm
  · rfl

theorem Reachable.acquire (hr : Reachable ok s) (hw : s.wait t = none)
    (hok : ∀ l', (s.held t l').isSome → ok l' l) (hg : grantable s t l m) :
    Reachable ok (setHeld s t l (some m)) := by
  have hg' : grantable (setWait s t (some (l, m))) t l m := by
    cases m with
    | W => exact hg
    | R => exact ⟨hg.1, fun t' hne => by rw [setWait_wait, if_neg hne]; exact hg.2 t' hne⟩
  have := (hr.step (.request s t l m hw hok)).step (.grant _ t l m (by simp) hg')
  rwa [setWait_cancel hw] at this

end Lock
