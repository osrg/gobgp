/-
  The operations of a route-server client, one by one: each keeps `RSInv` and is an `RsFrame`
  step (DeletePeer: an `RsFrame` step, then the client is removed).  The initial state.
-/
import Lemmas.RouteServerInv
import Lemmas.WorldAdj
namespace RouteServer
open BestPath World

theorem isRS_eq {s : S} {i : Nat} {ps : PeerSt} (hp : s.base.peer? i = some ps) :
    s.isRS i = ps.cfg.isRSClient := by
  unfold S.isRS
  rw [hp]

theorem rsRecvAnn_step (s : S) (idx : Nat) (r0 : Cand) (hrs : s.isRS idx = true) (h : RSInv s) :
    RSInv (rsRecvAnn s idx r0) ∧ RsFrame s (rsRecvAnn s idx r0) := by
  unfold rsRecvAnn
  split
  · exact ⟨h, .refl s⟩
  · rename_i ps hp
    have hc : ps.cfg.isRSClient = true := (isRS_eq hp).symm.trans hrs
    by_cases hu : (!ps.up) = true
    · rw [if_pos hu]
      exact ⟨h, .refl s⟩
    · rw [if_neg hu]
      refine ⟨rsPropagate_inv _ _ _ (h.updPeer _ idx _ (fun _ => rfl) h.views) fun _ =>
        ⟨ps.cfg, hc, (adjAnnounce_ret _ _ _).1⟩, RsFrame.trans ?_ (rsPropagate_frame _ _ _)⟩
      exact rs_upd_frame h.peers hp hc fun _ => rfl

theorem rsRecvWd_step (s : S) (idx pfx pathId : Nat) (hrs : s.isRS idx = true) (h : RSInv s) :
    RSInv (rsRecvWd s idx pfx pathId) ∧ RsFrame s (rsRecvWd s idx pfx pathId) := by
  unfold rsRecvWd
  split
  · exact ⟨h, .refl s⟩
  · rename_i ps hp
    have hc : ps.cfg.isRSClient = true := (isRS_eq hp).symm.trans hrs
    by_cases hu : (!ps.up) = true
    · rw [if_pos hu]
      exact ⟨h, .refl s⟩
    · rw [if_neg hu]
      refine ⟨rsPropagate_inv _ _ true (h.updPeer _ idx _ (fun _ => rfl) h.views)
        (fun e => nomatch e), RsFrame.trans ?_ (rsPropagate_frame _ _ _)⟩
      exact rs_upd_frame h.peers hp hc fun _ => rfl

theorem rsTransfer_step_eq (g : Global) (t : PeerCfg) (h : t.isRSClient = true) (v : View)
    (e : Nat × List Cand) :
    rsTransferStep g t v e = transferStep g (asOrd t) v (e.1, (clientBest t e.2).toList) := by
  unfold rsTransferStep transferStep
  rw [Option.head?_toList]
  cases hb : clientBest t e.2 with
  | none => rfl
  | some b =>
    simp only
    rw [sfilter_asOrd g t h ⟨b, false⟩ none (clientBest_some hb).2 (fun o ho => by cases ho)]
    rfl

/-- a client's initial table transfer is the ordinary transfer, toward the eBGP peer `asOrd t`,
    of a table that holds for every destination the client's best path only -/
theorem rsTransfer_eq (g : Global) (t : PeerCfg) (h : t.isRSClient = true)
    (L : List (Nat × List Cand)) :
    rsTransfer g L t =
      (L.map fun e => (e.1, (clientBest t e.2).toList)).foldl (transferStep g (asOrd t)) [] := by
  unfold rsTransfer
  rw [List.foldl_map]
  congr 1
  funext v e
  exact rsTransfer_step_eq g t h v e

theorem rsTransfer_held {s : S} (h : RSInv s) (t : PeerCfg) (ht : t.isRSClient = true) (q : Nat) :
    heldOf (rsTransfer s.base.g s.rsRib t) q = rsWant s.base.g t (s.rsRibOf q) := by
  have hfind : (s.rsRib.map fun e => (e.1, (clientBest t e.2).toList)).find? (fun e => e.1 == q) =
      (s.rsRib.find? (fun e => e.1 == q)).map fun e => (e.1, (clientBest t e.2).toList) :=
    List.find?_map
  rw [rsTransfer_eq _ t ht, transfer_fold s.base.g (asOrd t) _ [] ?_ ?_ (fun _ _ => rfl) q, hfind]
  · unfold S.rsRibOf
    cases s.rsRib.find? (fun e => e.1 == q) with
    | none => rfl
    | some e => exact (rsWant_eq s.base.g t ht e.2).symm
  · exact List.pairwise_map.mpr h.keys
  · intro e' he' r hr
    obtain ⟨e, he, rfl⟩ := List.mem_map.mp he'
    exact (h.rib e he r (clientBest_some (Option.mem_toList.mp hr)).1).1

theorem rsSessionUp_step (s : S) (idx : Nat) (hrs : s.isRS idx = true) (h : RSInv s) :
    RSInv (rsSessionUp s idx) ∧ RsFrame s (rsSessionUp s idx) := by
  unfold rsSessionUp
  split
  · exact ⟨h, .refl s⟩
  · rename_i ps hp
    exact ⟨h.updPeer _ idx _ (fun _ => rfl) fun q _ _ hq pfx => rsTransfer_held h q.cfg hq pfx,
      rs_upd_frame h.peers hp ((isRS_eq hp).symm.trans hrs) fun _ => rfl⟩

theorem rsSessionDown_step (s : S) (idx : Nat) (hrs : s.isRS idx = true) (h : RSInv s) :
    RSInv (rsSessionDown s idx) ∧ RsFrame s (rsSessionDown s idx) := by
  unfold rsSessionDown
  split
  · exact ⟨h, .refl s⟩
  · rename_i ps hp
    obtain ⟨hi, hf⟩ := rs_fold_withdraw ps.adj.entries _
      (h.updPeer (s.base.tick + 1) idx (fun q => { q with up := false, view := [], adj := {} })
        (fun _ => rfl) fun _ _ hu => nomatch hu)
    refine ⟨hi, RsFrame.trans ?_ hf⟩
    exact rs_upd_frame h.peers hp ((isRS_eq hp).symm.trans hrs) fun _ => rfl

theorem rsDelPeer_step (s : S) (idx : Nat) (hrs : s.isRS idx = true) (h : RSInv s) :
    RSInv (rsDelPeer s idx) ∧ (rsDelPeer s idx).base.rib = s.base.rib ∧
    Untouched (fun c => !c.isRSClient) s.base (rsDelPeer s idx).base := by
  unfold rsDelPeer
  split
  · exact ⟨h, rfl, (MapFrame.refl _ _).untouched⟩
  · rename_i ps hp
    have hc : ps.cfg.isRSClient = true := (isRS_eq hp).symm.trans hrs
    obtain ⟨hi, hf⟩ := rs_fold_withdraw ps.adj.entries _
      (h.updPeer (s.base.tick + 1) idx (fun q => { q with adj := {} }) (fun _ => rfl) h.views)
    have hf := RsFrame.trans
      (rs_upd_frame h.peers hp hc (f := fun q => { q with adj := {} }) fun _ => rfl) hf
    exact ⟨hi.of_base rfl (peersWF_filter hi.peers _) fun q hq _ _ => (List.mem_filter.mp hq).1,
      hf.2,
      hf.1.untouched_remove h.peers hp (congrArg not hc) rfl rfl⟩

/-- the speaker before anything happened: configured neighbours (ordinary ones and route-server
    clients), all sessions down, both tables empty -/
def init (g : Global) (cfgs : List PeerCfg) : S := { base := World.init g cfgs }

theorem init_inv (g : Global) (cfgs : List PeerCfg)
    (haddr : cfgs.Pairwise (fun a b => a.addr ≠ b.addr))
    (hidx : cfgs.Pairwise (fun a b => a.idx ≠ b.idx)) : RSInv (init g cfgs) := by
  refine ⟨⟨List.pairwise_map.mpr haddr, List.pairwise_map.mpr hidx⟩, List.Pairwise.nil,
    (fun e he => nomatch he), fun ps hps hup => ?_⟩
  obtain ⟨c, _, rfl⟩ := List.mem_map.mp hps
  cases hup

end RouteServer
