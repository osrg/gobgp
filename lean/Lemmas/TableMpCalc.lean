/-
C02 (table level): `destination.Calculate` (model `Tbl.locCalc`) keeps
"one path per (source, path-id)".
-/
import Lemmas.TableMp
namespace Tbl

/-- the local-id allocation only rewrites `lid` -/
theorem allocIds_keys : ∀ (l : List TPath) (ids : List Nat),
    (allocIds l ids).1.map (fun x => (x.src, x.rid)) = l.map (fun x => (x.src, x.rid)) := by
  intro l
  induction l with
  | nil => intro ids; rfl
  | cons p r ih =>
    intro ids
    unfold allocIds
    split
    · simp only [List.map_cons, ih]
    · simp only [List.map_cons, ih]

theorem allocIds_keysNodup (l : List TPath) (ids : List Nat) (h : KeysNodup l) :
    KeysNodup (allocIds l ids).1 := by
  unfold KeysNodup
  rw [allocIds_keys]
  exact h

theorem insertByRank_perm (x : TPath) : ∀ (l : List TPath), (insertByRank l x).Perm (x :: l) := by
  intro l
  induction l with
  | nil => exact List.Perm.refl _
  | cons y r ih =>
    unfold insertByRank
    split
    · exact List.Perm.refl _
    · exact (List.Perm.cons y ih).trans (List.Perm.swap x y r)

theorem sameKey_iff (x : TPath) (s r : Nat) :
    x.sameKey s r = true ↔ (x.src, x.rid) = (s, r) := by
  simp only [TPath.sameKey, Bool.and_eq_true, beq_iff_eq, Prod.mk.injEq]

theorem insertByRank_keysNodup (l : List TPath) (x : TPath) (hl : KeysNodup l)
    (hx : ∀ y ∈ l, (y.src, y.rid) ≠ (x.src, x.rid)) : KeysNodup (insertByRank l x) := by
  unfold KeysNodup
  rw [((insertByRank_perm x l).map _).nodup_iff]
  rw [List.map_cons, List.nodup_cons]
  refine ⟨?_, hl⟩
  intro hm
  obtain ⟨y, hy, hk⟩ := List.mem_map.mp hm
  exact hx y hy hk

theorem eraseIdx_first_key (s r : Nat) : ∀ (l : List TPath) (i : Nat), KeysNodup l →
    l.findIdx? (fun x => x.sameKey s r) = some i →
    ∀ x ∈ l.eraseIdx i, (x.src, x.rid) ≠ (s, r) := by
  intro l
  induction l with
  | nil => intro i _ h; simp at h
  | cons y t ih =>
    intro i hl h x hx
    have hl' := keysNodup_cons.1 hl
    rw [List.findIdx?_cons] at h
    cases hy : y.sameKey s r with
    | true =>
      rw [hy] at h
      simp only [if_true, Option.some.injEq] at h
      subst h
      rw [List.eraseIdx_cons_zero] at hx
      intro hk
      apply hl'.1
      rw [(sameKey_iff y s r).mp hy, ← hk]
      exact List.mem_map.mpr ⟨x, hx, rfl⟩
    | false =>
      rw [hy] at h
      simp only [Bool.false_eq_true, if_false] at h
      cases hj : t.findIdx? (fun x => x.sameKey s r) with
      | none => rw [hj] at h; cases h
      | some j =>
        rw [hj] at h
        simp only [Option.map_some, Option.some.injEq] at h
        subst h
        rw [List.eraseIdx_cons_succ] at hx
        rcases List.mem_cons.mp hx with hx | hx
        · subst hx
          intro hk
          rw [(sameKey_iff x s r).mpr hk] at hy
          cases hy
        · exact ih j hl'.2 hj x hx

/-- `Calculate` keeps at most one path per (source, path-id): the announcement's implicit withdraw
    removes the path with the same key before the new one is inserted; a withdrawal only removes;
    the local-id allocation does not touch keys -/
theorem locCalc_keysNodup (d : TDest) (op : TOp) (hd : KeysNodup d.paths) :
    KeysNodup (locCalc d op).paths := by
  cases op with
  | wd src rid dropped =>
    simp only [locCalc]
    apply allocIds_keysNodup
    split
    · exact hd
    · exact keysNodup_sublist (List.eraseIdx_sublist _ _) hd
  | ann p =>
    simp only [locCalc]
    apply allocIds_keysNodup
    cases h : d.paths.findIdx? (fun x => x.sameKey p.src p.rid) with
    | none =>
      dsimp only
      apply insertByRank_keysNodup _ _ hd
      intro y hy hk
      have := List.findIdx?_eq_none_iff.mp h y hy
      rw [(sameKey_iff y p.src p.rid).mpr hk] at this
      cases this
    | some i =>
      dsimp only
      apply insertByRank_keysNodup _ _ (keysNodup_sublist (List.eraseIdx_sublist _ _) hd)
      exact eraseIdx_first_key p.src p.rid d.paths i hd h

end Tbl
