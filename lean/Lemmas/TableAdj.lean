/-
C02 (table level): the partial operations of a multi-family Adj-RIB-In
(`AdjRib.Drop / StaleAll / DropStale` on a subset of the families).
-/
import Lemmas.Table
namespace Tbl
variable {δ : Type}

theorem mapDests_get (f : δ → δ) (h : Pfx → Nat) (t : Dests δ) (p : Pfx) :
    get h (mapDests f t) p = (get h t p).map f := by
  unfold get mapDests
  rw [mget_eq, mget_eq, afind_map]
  cases afind t (h p) with
  | none => rfl
  | some c => simp only [Option.map_some, chainFind_eq, afind_map]

theorem mapDests_wf (f : δ → δ) {h : Pfx → Nat} {t : Dests δ} (hw : WF h t) : WF h (mapDests f t) := by
  -- neither the keys nor the prefixes of any chain change
  have hfst : ∀ c : Chain δ, (c.map (fun e => (e.1, f e.2))).map Prod.fst = c.map Prod.fst :=
    fun c => List.map_map
  refine ⟨?_, fun kc hm => ?_⟩
  · have : (mapDests f t).map Prod.fst = t.map Prod.fst := List.map_map
    rw [this]; exact hw.1
  · obtain ⟨kc0, hm0, rfl⟩ := List.mem_map.1 hm
    exact chainOK_of_keys_eq (hfst kc0.2) (hw.2 kc0 hm0)

theorem adjDropStale_wf {h : Pfx → Nat} {t : Dests TDest} (hw : WF h t) : WF h (adjDropStale h t).1 := by
  unfold adjDropStale
  generalize staleWds t = l
  suffices hs : ∀ (acc : Dests TDest × Int), WF h acc.1 →
      WF h (l.foldl (fun acc o =>
        let old := (get h acc.1 o.1).getD (adjOps.fresh o.1)
        (update adjOps h acc.1 o.1 o.2, acc.2 + adjAccDelta old o.2)) acc).1 from hs (t, 0) hw
  induction l with
  | nil => exact fun _ ha => ha
  | cons o r ih => exact fun acc ha => ih _ (wf_update adjOps ha o.1 o.2)

/-- an operation restricted to some families does `g` to each family named and leaves every other
    family's table and counter alone -/
theorem fam_adjOn (fams : List Nat) (g : Dests TDest × Int → Dests TDest × Int) (a : AdjRibM)
    (f : Nat) : (adjOn fams g a).fam f = if f ∈ fams then (a.fam f).map g else a.fam f := by
  induction a with
  | nil => exact (ite_self _).symm
  | cons x r ih =>
    show AdjRibM.fam ((if fams.contains x.1 then (x.1, g x.2) else x) :: adjOn fams g r) f = _
    rw [AdjRibM.fam, AdjRibM.fam, ih]
    by_cases hx : x.1 = f
    · subst hx
      by_cases hf : x.1 ∈ fams
      · simp only [List.contains_iff_mem.2 hf, hf, if_true, Option.map_some]
      · simp only [Bool.eq_false_iff.2 (mt List.contains_iff_mem.1 hf), hf, if_true, if_false,
          Bool.false_eq_true]
    · have : (if fams.contains x.1 then (x.1, g x.2) else x).1 = x.1 := by split <;> rfl
      rw [this, if_neg hx, if_neg hx]

theorem adjOn_other (fams : List Nat) (g : Dests TDest × Int → Dests TDest × Int) (a : AdjRibM)
    (f : Nat) (hf : f ∉ fams) : (adjOn fams g a).fam f = a.fam f :=
  (fam_adjOn fams g a f).trans (if_neg hf)

theorem adjOn_named (fams : List Nat) (g : Dests TDest × Int → Dests TDest × Int) (a : AdjRibM)
    (f : Nat) (hf : f ∈ fams) : (adjOn fams g a).fam f = (a.fam f).map g :=
  (fam_adjOn fams g a f).trans (if_pos hf)

end Tbl
