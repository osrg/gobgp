/-
C13 — semantic lemmas: what the expressions of the recognised shapes match.
-/
import Lemmas.C13Regex
namespace Regex

theorem lit_mem (c x : Nat) : (CS.mem ⟨false, [(c, c)]⟩ x = true) ↔ x = c := by
  simp [CS.mem, inRanges]; omega

theorem match_lit {t : List Nat} {c i k : Nat} : Match t (lit c) i k ↔ t[i]? = some c ∧ k = i + 1 := by
  simp only [lit, match_chr, lit_mem]
  exact ⟨fun ⟨_, h, rfl, hk⟩ => ⟨h, hk⟩, fun ⟨h, hk⟩ => ⟨c, h, rfl, hk⟩⟩

theorem drop_eq_cons_iff {α : Type} {t l : List α} {i : Nat} {c : α} :
    t.drop i = c :: l ↔ t[i]? = some c ∧ t.drop (i + 1) = l := by
  constructor
  · intro h
    have h0 : (t.drop i)[0]? = some c := by rw [h]; rfl
    have h1 : (t.drop i).tail = l := by rw [h]; rfl
    rw [List.getElem?_drop] at h0
    rw [List.tail_drop] at h1
    exact ⟨h0, h1⟩
  · rintro ⟨hc, rfl⟩
    obtain ⟨hi, rfl⟩ := List.getElem?_eq_some_iff.1 hc
    exact List.drop_eq_getElem_cons hi

theorem drop_of_getElem? {t : List Nat} {i c : Nat} (h : t[i]? = some c) : t.drop i = c :: t.drop (i + 1) :=
  drop_eq_cons_iff.2 ⟨h, rfl⟩

theorem getElem?_of_drop {t : List Nat} {i c : Nat} {l : List Nat} (h : t.drop i = c :: l) : t[i]? = some c :=
  (drop_eq_cons_iff.1 h).1

theorem match_lits {t : List Nat} {Y : List R} {j : Nat} : ∀ (w : List Nat) (i : Nat),
    Match t (catList (w.map lit ++ Y)) i j ↔
      (t.drop i = w ++ t.drop (i + w.length) ∧ Match t (catList Y) (i + w.length) j) := by
  intro w
  induction w with
  | nil => intro i; simp
  | cons c w ih =>
    intro i
    have e : i + (c :: w).length = i + 1 + w.length := by rw [List.length_cons]; omega
    -- peel off the first literal: both sides become `t[i]? = some c` and the claim for `w` at `i + 1`
    simp only [e, List.map_cons, List.cons_append, catList, match_cat, match_lit, and_assoc,
      exists_and_left, exists_eq_left, ih (i + 1), drop_eq_cons_iff]

theorem match_bot_cat {t : List Nat} {X : R} {i j : Nat} : Match t (.cat .bot X) i j ↔ i = 0 ∧ Match t X 0 j := by
  simp only [match_cat, match_bot]
  exact ⟨fun ⟨_, ⟨hi, rfl⟩, h⟩ => ⟨hi, h⟩, fun ⟨hi, h⟩ => ⟨0, ⟨hi, rfl⟩, h⟩⟩

theorem match_eot_end {t : List Nat} {i j : Nat} : Match t (catList [.eot]) i j ↔ i = t.length ∧ j = t.length := by
  simp only [catList, match_cat, match_eot, match_eps]
  exact ⟨fun ⟨_, ⟨hi, rfl⟩, hj⟩ => ⟨hi, hj⟩, fun ⟨hi, hj⟩ => ⟨_, ⟨hi, rfl⟩, hj⟩⟩

theorem search_lits {w t : List Nat} {Y : List R} :
    search (catList (.bot :: (w.map lit ++ Y))) t = true ↔
      ∃ L j, t = w ++ L ∧ Match t (catList Y) w.length j := by
  rw [search_iff]
  simp only [catList]
  constructor
  · rintro ⟨i, j, _, h⟩
    rcases match_bot_cat.1 h with ⟨rfl, h'⟩
    rcases (match_lits w 0).1 h' with ⟨hd, hm⟩
    rw [Nat.zero_add] at hd hm
    exact ⟨_, j, hd, hm⟩
  · rintro ⟨L, j, rfl, hm⟩
    refine ⟨0, j, Nat.zero_le _, match_bot_cat.2 ⟨rfl, (match_lits w 0).2 ⟨?_, ?_⟩⟩⟩
    · rw [Nat.zero_add, List.drop_left]; rfl
    · rw [Nat.zero_add]; exact hm

theorem search_anchored_lits (w t : List Nat) :
    search (catList (.bot :: (w.map lit ++ [.eot]))) t = (t == w) := by
  rw [Bool.eq_iff_iff, search_lits, beq_iff_eq]
  simp only [match_eot_end]
  constructor
  · rintro ⟨L, j, rfl, hl, _⟩
    rw [List.length_append] at hl
    rw [List.length_eq_zero_iff.1 (Nat.add_eq_left.1 hl.symm), List.append_nil]
  · rintro rfl
    exact ⟨[], _, (List.append_nil _).symm, rfl, rfl⟩

theorem search_prefix {w t : List Nat} {Y : List R}
    (h : search (catList (.bot :: (w.map lit ++ Y))) t = true) : ∃ u, t = w ++ u :=
  let ⟨L, _, hL, _⟩ := search_lits.1 h
  ⟨L, hL⟩

theorem star_to_end {t : List Nat} {s : CS} : ∀ (n k : Nat), t.length - k = n → k ≤ t.length →
    (∀ x ∈ t.drop k, s.mem x = true) → Match t (.star (.chr s)) k t.length := by
  intro n
  induction n with
  | zero =>
    intro k h1 h2 _
    have : k = t.length := by omega
    subst this
    exact .star0 _
  | succ n ih =>
    intro k h1 h2 hall
    have hk : k < t.length := by omega
    have hd : t.drop k = t[k] :: t.drop (k + 1) := List.drop_eq_getElem_cons hk
    have hm : s.mem t[k] = true := hall _ (hd ▸ List.mem_cons_self)
    refine .starS (.chr (List.getElem?_eq_getElem hk) hm) (Nat.lt_succ_self _) ?_
    exact ih (k + 1) (by omega) (by omega) (fun x hx => hall x (hd ▸ List.mem_cons_of_mem _ hx))

end Regex
