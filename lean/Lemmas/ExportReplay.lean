import Model.ExportReplay
/-
  Lemmas about Model/ExportReplay.lean: along every receive history each stored Adj-RIB-In entry
  carries the verdict of the loop checks on its own path (`marked_run`), which is what the replay
  theorems of Props/C09.lean read the stored flag by.
-/
namespace Export

/-- every stored entry carries the verdict of the loop checks on its own path -/
def Marked (g : Global) (l a : Nat) (ib : Bool) (adj : List AdjIn) : Prop :=
  ∀ e ∈ adj, e.rejected = inboundReject g l a ib e.path

theorem mem_upsert {e x : AdjIn} {adj : List AdjIn} (h : x ∈ upsert e adj) : x = e ∨ x ∈ adj := by
  induction adj with
  | nil => exact .inl (List.mem_singleton.1 h)
  | cons y rest ih =>
    rw [upsert] at h
    split at h
    · exact (List.mem_cons.1 h).imp_right (List.mem_cons_of_mem y)
    · rcases List.mem_cons.1 h with h | h
      · exact .inr (h ▸ List.mem_cons_self)
      · exact (ih h).imp_right (List.mem_cons_of_mem y)

theorem marked_step (g : Global) (l a : Nat) (ib : Bool) (adj : List AdjIn) (ev : InEv)
    (h : Marked g l a ib adj) : Marked g l a ib (inStep g l a ib adj ev) := by
  intro e he
  cases ev with
  | ann k p =>
    rcases mem_upsert he with h' | h'
    · rw [h']
    · exact h e h'
  | wd k => exact h e (List.mem_filter.1 he).1

theorem marked_run (g : Global) (l a : Nat) (ib : Bool) (evs : List InEv) :
    Marked g l a ib (runIn g l a ib evs) := by
  unfold runIn
  suffices H : ∀ adj, Marked g l a ib adj → Marked g l a ib (evs.foldl (inStep g l a ib) adj) from
    H [] (fun e he => nomatch he)
  induction evs with
  | nil => intro adj h; exact h
  | cons ev rest ih => intro adj h; exact ih _ (marked_step g l a ib adj ev h)

end Export
