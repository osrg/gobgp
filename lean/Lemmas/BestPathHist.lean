/-
  History-level lemmas for C03/C02: `calcStep` (destination.Calculate on knownPathList) keeps
  the list sorted, keeps at most one entry per (source, path-id), and refines the abstract
  "latest un-withdrawn route per (source, path-id)" map.
-/
import Lemmas.BestPath
namespace BestPath

theorem srcEqual_symm (a b : Src) : a.equal b = b.equal a := by
  unfold Src.equal
  rw [Bool.beq_comm (a := a.as), Bool.beq_comm (a := a.rid), Bool.beq_comm (a := a.localRid),
    Bool.beq_comm (a := a.addr)]

theorem srcEqual_trans (a b c : Src) (h1 : a.equal b = true) (h2 : b.equal c = true) :
    a.equal c = true := by
  rw [srcEqual_iff] at *
  exact ⟨h1.1.trans h2.1, h1.2.1.trans h2.2.1, h1.2.2.1.trans h2.2.2.1, h1.2.2.2.trans h2.2.2.2⟩

theorem srcEqual_of_eq {a b : Src} (h : a = b) : a.equal b = true :=
  srcEqual_iff.mpr (h ▸ ⟨rfl, rfl, rfl, rfl⟩)

theorem sameKey_iff {a b : Cand} :
    sameKey a b = true ↔ a.src.equal b.src = true ∧ a.pathId = b.pathId := by
  rw [sameKey, Bool.and_eq_true, beq_iff_eq]

theorem sameKey_symm (a b : Cand) : sameKey a b = sameKey b a := by
  unfold sameKey
  rw [srcEqual_symm, Bool.beq_comm (a := a.pathId)]

theorem sameKey_trans (a b c : Cand) (h1 : sameKey a b = true) (h2 : sameKey b c = true) :
    sameKey a c = true := by
  rw [sameKey_iff] at *
  exact ⟨srcEqual_trans _ _ _ h1.1 h2.1, h1.2.trans h2.2⟩

/-- at most one entry per (source, path-id) -/
def NodupKey (l : List Cand) : Prop := l.Pairwise (fun a b => sameKey a b = false)

theorem eq_of_pairwise_ne {α β : Type} {f : α → β} {l : List α}
    (h : l.Pairwise (fun a b => f a ≠ f b)) {a b : α} (ha : a ∈ l) (hb : b ∈ l) (e : f a = f b) :
    a = b :=
  List.Pairwise.forall_of_forall_of_flip (R := fun a b => f a = f b → a = b) (fun _ _ _ => rfl)
    (h.imp fun hne e => absurd e hne) (h.imp fun hne e => absurd e.symm hne) ha hb e

theorem NodupKey.inj {l : List Cand} (h : NodupKey l) {x y : Cand} (hx : x ∈ l) (hy : y ∈ l)
    (e : sameKey x y = true) : x = y :=
  List.Pairwise.forall_of_forall_of_flip (R := fun a b => sameKey a b = true → a = b)
    (fun _ _ _ => rfl) (h.imp fun hf e => by rw [hf] at e; cases e)
    (h.imp fun hf e => by rw [sameKey_symm, hf] at e; cases e) hx hy e

theorem NodupKey.unique {y : Cand} {rest : List Cand} (h : NodupKey (y :: rest)) {x : Cand}
    (hxy : sameKey x y = true) : ∀ z ∈ rest, sameKey x z = false := fun z hz =>
  Bool.eq_false_iff.mpr fun hxz =>
    Bool.false_ne_true ((List.pairwise_cons.mp h).1 z hz ▸
      sameKey_trans y x z (sameKey_symm x y ▸ hxy) hxz)

theorem implicitWithdraw_eq_filter (l : List Cand) (x : Cand) (h : NodupKey l) :
    implicitWithdraw l x = l.filter (fun y => !sameKey x y) := by
  induction l with
  | nil => rfl
  | cons y rest ih =>
    unfold implicitWithdraw
    cases hxy : sameKey x y
    · simp only [Bool.false_eq_true, if_false, List.filter_cons, hxy, Bool.not_false, if_true]
      rw [ih (List.pairwise_cons.mp h).2]
    · simp only [if_true, List.filter_cons, hxy, Bool.not_true, Bool.false_eq_true, if_false]
      exact (List.filter_eq_self.mpr fun z hz => congrArg (!·) (h.unique hxy z hz)).symm

theorem explicitWithdraw_eq_filter (l : List Cand) (x : Cand) (h : NodupKey l) :
    explicitWithdraw l x = l.filter (fun y => !sameKey y x) := by
  induction l with
  | nil => rfl
  | cons y rest ih =>
    unfold explicitWithdraw
    cases hyx : sameKey y x
    · simp only [Bool.false_and, Bool.false_eq_true, if_false, List.filter_cons, hyx,
        Bool.not_false, if_true]
      rw [ih (List.pairwise_cons.mp h).2]
    · have hnone : ∀ z ∈ rest, sameKey z x = false := fun z hz =>
        sameKey_symm x z ▸ h.unique (sameKey_symm y x ▸ hyx) z hz
      have hany : rest.any (fun z => sameKey z x) = false :=
        List.any_eq_false.mpr fun z hz => hnone z hz ▸ Bool.false_ne_true
      simp only [hany, Bool.not_false, Bool.and_true, if_true, List.filter_cons, hyx,
        Bool.not_true, Bool.false_eq_true, if_false]
      exact (List.filter_eq_self.mpr fun z hz => congrArg (!·) (hnone z hz)).symm

/-- the abstract content: latest un-withdrawn candidate per (source, path-id) -/
def specStep (S : List Cand) : Op → List Cand
  | .ann c => c :: S.filter (fun y => !sameKey c y)
  | .wd c  => S.filter (fun y => !sameKey y c)

def spec (ops : List Op) : List Cand := ops.foldl specStep []

/-- every candidate an operation can install -/
def Op.cands : Op → List Cand
  | .ann c => [c]
  | .wd _ => []

def opCands (ops : List Op) : List Cand := ops.flatMap Op.cands

theorem mem_specStep {S : List Cand} {op : Op} {c : Cand} (h : c ∈ specStep S op) :
    c ∈ op.cands ∨ c ∈ S := by
  cases op with
  | ann d =>
    rcases List.mem_cons.mp h with rfl | h
    · exact Or.inl List.mem_cons_self
    · exact Or.inr (List.mem_filter.mp h).1
  | wd d => exact Or.inr (List.mem_filter.mp h).1

theorem mem_foldl_specStep : ∀ (ops : List Op) (S : List Cand) (c : Cand),
    c ∈ ops.foldl specStep S → c ∈ opCands ops ∨ c ∈ S
  | [], _, _, h => Or.inr h
  | op :: rest, S, c, h => by
    rw [opCands, List.flatMap_cons, List.mem_append]
    rcases mem_foldl_specStep rest _ c h with h | h
    · exact Or.inl (Or.inr h)
    · exact (mem_specStep h).imp_left Or.inl

theorem mem_opCands_of_mem_spec {ops : List Op} {c : Cand} (h : c ∈ spec ops) :
    c ∈ opCands ops :=
  (mem_foldl_specStep ops [] c h).resolve_right List.not_mem_nil

theorem nodupKey_filter (l : List Cand) (p : Cand → Bool) (h : NodupKey l) :
    NodupKey (l.filter p) :=
  List.Pairwise.filter p h

theorem mem_calcStep_wd (o : Opts) (l : List Cand) (c : Cand) (hn : NodupKey l) (y : Cand) :
    y ∈ calcStep o l (.wd c) ↔ y ∈ l ∧ sameKey y c = false := by
  rw [calcStep, explicitWithdraw_eq_filter l c hn, List.mem_filter, Bool.not_eq_eq_eq_not,
    Bool.not_true]

theorem mem_calcStep_ann (o : Opts) (l : List Cand) (c : Cand) (hn : NodupKey l) (y : Cand) :
    y ∈ calcStep o l (.ann c) ↔ y = c ∨ (y ∈ l ∧ sameKey c y = false) := by
  rw [calcStep, implicitWithdraw_eq_filter l c hn, (insertSort_perm o _ c).mem_iff, List.mem_cons,
    List.mem_filter, Bool.not_eq_eq_eq_not, Bool.not_true]

theorem calcStep_nodup (o : Opts) (l : List Cand) (op : Op) (hn : NodupKey l) :
    NodupKey (calcStep o l op) := by
  cases op with
  | wd c =>
    rw [calcStep, explicitWithdraw_eq_filter l c hn]
    exact nodupKey_filter l _ hn
  | ann c =>
    rw [calcStep, implicitWithdraw_eq_filter l c hn]
    have hnk : NodupKey (c :: l.filter (fun y => !sameKey c y)) :=
      List.pairwise_cons.mpr
        ⟨fun y hy => (Bool.not_eq_true' _).mp (List.mem_filter.mp hy).2, nodupKey_filter l _ hn⟩
    exact hnk.perm (insertSort_perm o _ c).symm fun {a b} hab => sameKey_symm a b ▸ hab

theorem calcStep_perm (o : Opts) {l S : List Cand} (op : Op) (hn : NodupKey l) (hp : l.Perm S) :
    (calcStep o l op).Perm (specStep S op) := by
  cases op with
  | wd c =>
    rw [calcStep, explicitWithdraw_eq_filter l c hn]
    exact hp.filter _
  | ann c =>
    rw [calcStep, implicitWithdraw_eq_filter l c hn]
    exact (insertSort_perm o _ c).trans ((hp.filter _).cons c)

theorem calcStep_sorted {o : Opts} {U : List Cand} (wf : SetWF o U) {l : List Cand} {op : Op}
    (hop : ∀ c ∈ op.cands, c ∈ U) (hU : ∀ c ∈ l, c ∈ U) (hs : Sorted o l) (hn : NodupKey l) :
    Sorted o (calcStep o l op) := by
  cases op with
  | wd c =>
    rw [calcStep, explicitWithdraw_eq_filter l c hn]
    exact List.Pairwise.filter _ hs
  | ann c =>
    rw [calcStep, implicitWithdraw_eq_filter l c hn]
    refine insertSort_sorted o _ c (wf.sub fun y hy => ?_) (List.Pairwise.filter _ hs)
    rcases List.mem_cons.mp hy with rfl | hy
    · exact hop y List.mem_cons_self
    · exact hU y (List.mem_filter.mp hy).1

theorem run_inv_aux (o : Opts) (U : List Cand) (wf : SetWF o U) :
    ∀ (ops : List Op) (l S : List Cand), (∀ c ∈ opCands ops, c ∈ U) → (∀ c ∈ S, c ∈ U) →
      Sorted o l → NodupKey l → l.Perm S →
      Sorted o (ops.foldl (calcStep o) l) ∧ NodupKey (ops.foldl (calcStep o) l) ∧
        (ops.foldl (calcStep o) l).Perm (ops.foldl specStep S)
  | [], _, _, _, _, hs, hn, hp => ⟨hs, hn, hp⟩
  | op :: rest, l, S, hops, hU, hs, hn, hp => by
    rw [opCands, List.flatMap_cons] at hops
    have hop : ∀ c ∈ op.cands, c ∈ U := fun c hc => hops c (List.mem_append_left _ hc)
    exact run_inv_aux o U wf rest _ _ (fun c hc => hops c (List.mem_append_right _ hc))
      (fun c hc => (mem_specStep hc).elim (hop c) (hU c))
      (calcStep_sorted wf hop (fun c hc => hU c (hp.subset hc)) hs hn)
      (calcStep_nodup o l op hn) (calcStep_perm o op hn hp)

theorem run_inv (o : Opts) (ops : List Op) (wf : SetWF o (opCands ops)) :
    Sorted o (run o ops) ∧ NodupKey (run o ops) ∧ (run o ops).Perm (spec ops) :=
  run_inv_aux o (opCands ops) wf ops [] [] (fun _ h => h) (fun _ h => nomatch h)
    List.Pairwise.nil List.Pairwise.nil (List.Perm.refl _)

theorem run_eq_of_spec_perm (o : Opts) {ops1 ops2 : List Op} (wf1 : SetWF o (opCands ops1))
    (wf2 : SetWF o (opCands ops2))
    (distinct : (spec ops1).Pairwise (fun a b => key o a ≠ key o b))
    (same : (spec ops1).Perm (spec ops2)) : run o ops1 = run o ops2 := by
  obtain ⟨s1, _, p1⟩ := run_inv o ops1 wf1
  obtain ⟨s2, _, p2⟩ := run_inv o ops2 wf2
  -- two sorted permutations of one set are equal once mutual `better` forces equality
  refine List.Perm.eq_of_pairwise (le := fun a b => better o a b = true) ?_ s1 s2
    (p1.trans (same.trans p2.symm))
  intro a b ha hb hab hba
  have ha1 : a ∈ spec ops1 := p1.subset ha
  have hb1 : b ∈ spec ops1 := same.symm.subset (p2.subset hb)
  have ma := mem_opCands_of_mem_spec ha1
  have mb := mem_opCands_of_mem_spec hb1
  exact eq_of_pairwise_ne distinct ha1 hb1
    (better_antisymm o a b (wf1 a ma b mb) (wf1 b mb a ma) hab hba)

end BestPath
