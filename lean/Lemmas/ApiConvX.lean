import Model.ApiConvX
import Lemmas.ApiConv
/-! What the theorems of Props/C18X share: the option-valued list traversals, `padTo`, next-hop
addresses, and what the two path converters return when they succeed. -/
namespace ApiConv
open Wire

theorem allSome_map {α β} (f : α → Option β) (g : α → β) :
    ∀ l : List α, (∀ a ∈ l, f a = some (g a)) → allSome f l = some (l.map g)
  | [], _ => rfl
  | a :: as, h => by
    simp only [allSome, h a (.head _), allSome_map f g as fun x hx => h x (.tail _ hx), List.map_cons]

theorem allSome_none {α β} (f : α → Option β) :
    ∀ l : List α, (∃ a ∈ l, f a = none) → allSome f l = none
  | [], h => by obtain ⟨a, ha, _⟩ := h; cases ha
  | a :: as, h => by
    obtain ⟨x, hx, hn⟩ := h
    rcases List.mem_cons.mp hx with rfl | hx'
    · simp [allSome, hn]
    · have := allSome_none f as ⟨x, hx', hn⟩
      simp only [allSome, this]
      cases f a <;> rfl

theorem allSome_trip {α β} (f : α → Option β) (f' : β → Option α) (g : α → α) :
    ∀ l : List α, (∀ a ∈ l, ∃ b, f a = some b ∧ f' b = some (g a)) →
      ∃ lb, allSome f l = some lb ∧ allSome f' lb = some (l.map g)
  | [], _ => ⟨[], rfl, rfl⟩
  | a :: as, h => by
    obtain ⟨b, hb, hb'⟩ := h a (.head _)
    obtain ⟨lb, hl, hl'⟩ := allSome_trip f f' g as fun x hx => h x (.tail _ hx)
    exact ⟨b :: lb, by simp only [allSome, hb, hl], by simp only [allSome, hb', hl', List.map_cons]⟩

theorem padTo_of_length {n : Nat} {v : Bytes} (h : v.length = n) : padTo n v = v := by
  unfold padTo
  rw [List.take_append_of_le_length (by omega)]
  rw [← h, List.take_length]

theorem be16_mod' (n : Nat) : be16 (n % 65536) = be16 n := be16_mod n

theorem fromApiNlris_map {α} (f : α → ApiNlri) (g : α → Nlri) :
    ∀ l : List α, (∀ a ∈ l, fromApiNlri (f a) = some (g a)) →
      fromApiNlris (l.map f) = some (l.map g)
  | [], _ => rfl
  | a :: as, h => by
    simp only [List.map_cons, fromApiNlris, h a (.head _),
      fromApiNlris_map f g as fun x hx => h x (.tail _ hx)]

theorem encExts_map (g : ExtComm → ExtComm) :
    ∀ l : List ExtComm, (∀ e ∈ l, encExt (g e) = encExt e) → encExts (l.map g) = encExts l
  | [], _ => rfl
  | e :: es, h => by
    simp only [List.map_cons, encExts, h e (.head _), encExts_map g es fun x hx => h x (.tail _ hx)]

theorem isLinkLocal_length {b : Bytes} (h : isLinkLocal b = true) : b.length = 16 := by
  simp only [isLinkLocal, Bool.and_eq_true, beq_iff_eq] at h
  exact h.1.1

theorem validAddr_unmap {b : Bytes} (h : validAddr b = true) : validAddr (unmap b) = true := by
  unfold unmap
  split
  · rename_i hc
    simp [validAddr, List.length_drop, hc.1]
  · exact h

theorem mkMpReach_val {afi safi : Nat} {nlris : List (Nat × Nlri)} {nh ll : Bytes} {a : XAttr}
    (h : mkMpReach afi safi nlris nh ll = some a) (hnh : validAddr nh = true) :
    a.val = .mpReach afi safi nh (if nhIsV6 afi nh && isLinkLocal ll then ll else []) nlris := by
  unfold mkMpReach at h
  split at h
  · cases h
  · cases Option.some.inj h
    cases nhIsV6 afi nh <;> cases isLinkLocal ll <;> simp [hnh]

theorem parseOrZero_idem (b : Bytes) : parseOrZero (parseOrZero b) = parseOrZero b := by
  by_cases h : validAddr b = true
  · have e : parseOrZero b = b := if_pos h
    rw [e, e]
  · have e : parseOrZero b = [] := if_neg h
    rw [e]; rfl

theorem api2apiutil_some {p : ApiPath} {u : UPath} (h : api2apiutil p = some u) :
    ∃ n as, fromApiNlri p.nlri = some n ∧ fromApiAnysAux [] p.pattrs = some as ∧
      ¬(p.sourceAsn ≠ 0 ∧ validAddr (parseOrZero p.sourceId) = false) ∧
      u = { afi := (fromApiFamily p.family).1, safi := (fromApiFamily p.family).2, nlri := n,
            age := if p.ageSet then p.ageSec else 0, best := p.best, attrs := as, stale := p.stale,
            withdrawal := p.isWithdraw, peerAsn := p.sourceAsn, peerId := parseOrZero p.sourceId,
            peerAddress := parseOrZero p.neighborIp, isFromExternal := p.isFromExternal,
            noImplicitWithdraw := p.noImplicitWithdraw, isNexthopInvalid := false,
            sendMaxFiltered := false, filtered := false, validation := none,
            remoteId := p.identifier, localId := p.localIdentifier } := by
  unfold api2apiutil at h
  split at h
  · cases h
  · split at h
    · cases h
    · split at h
      · cases h
      · exact ⟨_, _, ‹_›, ‹_›, ‹_›, (Option.some.inj h).symm⟩

theorem apiutil2table_some {isVrf del : Bool} {u : UPath} {t : TPath}
    (h : apiutil2table isVrf del u = some t) :
    ∃ kept nh ll, ¬(u.afi = 0 ∧ u.safi = 0) ∧ scanAttrs [] [] [] u.attrs = some (kept, nh, ll) ∧
      ¬(!u.withdrawal && !validAddr nh) = true ∧
      t = { afi := u.afi, safi := u.safi,
            source := if u.peerAsn ≠ 0 then some (u.peerAsn, u.peerId, u.peerAddress) else none,
            nlri := u.nlri, remoteId := u.remoteId, localId := 0, isWithdraw := del || u.withdrawal,
            attrs := kept ++ nextHopAttr isVrf u.afi u.safi u.nlri nh ll, timestamp := u.age,
            noImplicitWithdraw := u.noImplicitWithdraw, isFromExternal := u.isFromExternal,
            stale := false, isNexthopInvalid := false } := by
  unfold apiutil2table at h
  split at h
  · cases h
  · split at h
    · cases h
    · split at h
      · cases h
      · exact ⟨_, _, _, ‹_›, ‹_›, ‹_›, (Option.some.inj h).symm⟩

end ApiConv
