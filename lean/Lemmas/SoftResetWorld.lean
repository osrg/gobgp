/-
  Lemmas for the whole-speaker C15 theorems, about the compositional model of
  Model/SoftResetWorld.lean. Every reachable state satisfies, destination by destination, the
  invariant `DInv`: well-formed candidates, what the established peers hold, and Loc-RIB and
  Adj-RIB-In as functions of a ghost history of events, each with the import function in force
  when it arrived.
-/
import Model.SoftResetWorld
import Lemmas.SoftReset
import Lemmas.SoftResetIn
import Lemmas.SoftResetWorldAux
namespace SoftResetWorld
open BestPath World SoftReset SoftResetIn

/-- `c'` is `c` as far as source, path-id, ORIGIN and destination go -/
structure SameId (c' c : Cand) : Prop where
  src    : c'.src = c.src
  pathId : c'.pathId = c.pathId
  origin : c'.origin = c.origin
  pfx    : c'.pfx = c.pfx

theorem SameId.trans {a b c : Cand} (h1 : SameId a b) (h2 : SameId b c) : SameId a c :=
  ⟨h1.src.trans h2.src, h1.pathId.trans h2.pathId, h1.origin.trans h2.origin, h1.pfx.trans h2.pfx⟩

/-- what an import function keeps -/
def Pres (f : Cand → Option Cand) : Prop := ∀ c c', f c = some c' → SameId c' c

theorem Pres.keyPres {f : Cand → Option Cand} (h : Pres f) : KeyPres f :=
  fun c c' hc => ⟨(h c c' hc).src, (h c c' hc).pathId⟩

theorem modify_pres (s : Stmt) (r : Cand) : SameId (s.modify r) r := by
  unfold Stmt.modify
  cases s.addComm <;> cases s.setMed <;> cases s.setLp <;> exact ⟨rfl, rfl, rfl, rfl⟩

theorem evalStmts_pres (d : Bool) (i : Nat) (ss : List Stmt) :
    ∀ (r r' : Cand), evalStmts d i ss r = some r' → SameId r' r := by
  induction ss with
  | nil =>
    intro r r' h
    unfold evalStmts at h
    cases d <;> simp at h
    subst h; exact ⟨rfl, rfl, rfl, rfl⟩
  | cons s rest ih =>
    intro r r' h
    unfold evalStmts at h
    cases hm : s.matches i r with
    | false => simp only [hm, Bool.false_eq_true, if_false] at h; exact ih r r' h
    | true =>
      simp only [hm, if_true] at h
      by_cases h1 : s.route = 1
      · simp only [h1, if_true, Option.some.injEq] at h
        subst h; exact modify_pres s r
      · by_cases h2 : s.route = 2
        · simp [h2] at h
        · simp only [h1, h2, if_false] at h
          exact (ih _ _ h).trans (modify_pres s r)

theorem stripLP_pres (g : Global) (x : PeerCfg) (c : Cand) : SameId (stripLP g x c) c := by
  unfold stripLP; split <;> exact ⟨rfl, rfl, rfl, rfl⟩

theorem impFn_pres (g : Global) (imp : Pol) (cfgs : List PeerCfg) : Pres (impFn g imp cfgs) := by
  intro c c' h
  unfold impFn at h
  cases hf : cfgs.find? (fun x => fromPeer x c) with
  | none => simp [hf] at h
  | some x =>
    simp only [hf] at h
    exact (evalStmts_pres _ _ _ _ _ h).trans (stripLP_pres g x c)

/-! ### MED comparable throughout: always-compare-med and the mandatory ORIGIN -/

/-- a received route: ORIGIN present, learned from a neighbour (not locally originated) -/
def Good (c : Cand) : Prop := c.origin.isSome = true ∧ c.src.addr.isSome = true

theorem pairWF_of_good (o : Opts) (h : o.alwaysCompareMed = true) (a b : Cand) (ha : Good a)
    (hb : Good b) : PairWF o a b := by
  refine ⟨?_, ha.1, hb.1, ?_⟩
  · unfold medComparable; simp [h]
  · intro hl
    unfold Cand.isLocal at hl
    have := ha.2
    cases hx : a.src.addr <;> simp [hx] at hl this

theorem setWF_of_good (o : Opts) (h : o.alwaysCompareMed = true) (l : List Cand)
    (hl : ∀ c ∈ l, Good c) : SetWF o l :=
  fun a ha b hb => pairWF_of_good o h a b (hl a ha) (hl b hb)

theorem good_image {f : Cand → Option Cand} (hf : Pres f) {c c' : Cand} (h : f c = some c')
    (hc : Good c) : Good c' := by
  obtain ⟨h1, _, h3, _⟩ := hf c c' h
  unfold Good at *
  rw [h1, h3]; exact hc

/-! ### one destination: Loc-RIB and Adj-RIB-In as functions of the event history -/

/-- the events received for a destination, each with the import function in force when it arrived -/
abbrev Hist := List (Ev × (Cand → Option Cand))

def kf (k : Ctx) : Cand → Option Cand := impFn k.g k.imp k.cfgs

/-- the Loc-RIB path list `L` is the run of the event history, the Adj-RIB-In `A` the history's
    abstract content -/
structure Tracks (o : Opts) (L A : List Cand) (evs : Hist) : Prop where
  rib   : L = BestPath.run o (hist evs)
  adj   : A.Perm (adjOf (evs.map (·.1)))
  nodup : NodupKey A
  pres  : ∀ p ∈ evs, Pres p.2
  good  : ∀ p ∈ evs, ∀ c, p.1 = Ev.ann c → Good c

theorem tracks_nil (o : Opts) : Tracks o [] [] [] :=
  ⟨rfl, List.Perm.refl _, List.Pairwise.nil, fun _ h => (nomatch h), fun _ h => (nomatch h)⟩

theorem run_snoc (o : Opts) (ops : List Op) (op : Op) :
    BestPath.run o (ops ++ [op]) = calcStep o (BestPath.run o ops) op := by
  unfold BestPath.run; rw [List.foldl_append]; rfl

theorem hist_snoc (evs : Hist) (p : Ev × (Cand → Option Cand)) :
    hist (evs ++ [p]) = hist evs ++ [opOf p.2 p.1] := by
  unfold hist; rw [List.map_append]; rfl

theorem adjOf_snoc (E : List Ev) (ev : Ev) : adjOf (E ++ [ev]) = specStep (adjOf E) (rawOp ev) := by
  unfold adjOf spec; rw [List.map_append, List.foldl_append]; rfl

theorem track_dEv (k : Ctx) (st : DSt) (evs : Hist) (ev : Ev)
    (t : Tracks k.opts st.rib st.adj evs) (hg : ∀ c, ev = Ev.ann c → Good c) :
    Tracks k.opts (dEv k st ev).rib (dEv k st ev).adj (evs ++ [(ev, kf k)]) := by
  have hmem : ∀ p ∈ evs ++ [(ev, kf k)], p ∈ evs ∨ p = (ev, kf k) := fun p hp =>
    (List.mem_append.mp hp).imp id List.mem_singleton.mp
  refine ⟨?_, ?_, adjInPlace_nodup st.adj ev t.nodup, ?_, ?_⟩
  · rw [hist_snoc, run_snoc, ← t.rib]; rfl
  · rw [List.map_append, List.map_singleton, adjOf_snoc]
    exact adjInPlace_perm st.adj _ ev t.nodup t.adj
  · intro p hp
    rcases hmem p hp with h | rfl
    · exact t.pres p h
    · exact impFn_pres _ _ _
  · intro p hp
    rcases hmem p hp with h | rfl
    · exact t.good p h
    · exact hg

theorem cands_opOf_ann (f : Cand → Option Cand) (c : Cand) : (opOf f (.ann c)).cands = (f c).toList := by
  simp only [opOf]
  cases f c <;> rfl

theorem mem_cands_opOf {f : Cand → Option Cand} {ev : Ev} {c' : Cand} (h : c' ∈ (opOf f ev).cands) :
    ∃ c, ev = Ev.ann c ∧ f c = some c' := by
  cases ev with
  | wd c => exact absurd h List.not_mem_nil
  | ann c =>
    rw [cands_opOf_ann] at h
    exact ⟨c, rfl, Option.mem_toList.mp h⟩

/-- replaying `B` under `f` is a history of announcements, all evaluated under `f` -/
theorem hist_replays (evs : Hist) (f : Cand → Option Cand) (B : List Cand) :
    hist (evs ++ B.map (fun c => (Ev.ann c, f))) = hist evs ++ softOps f B := by
  unfold hist softOps
  rw [List.map_append, List.map_map]
  rfl

theorem good_opCands_hist {evs : Hist} (hp : ∀ p ∈ evs, Pres p.2)
    (hg : ∀ p ∈ evs, ∀ c, p.1 = Ev.ann c → Good c) : ∀ c' ∈ opCands (hist evs), Good c' := by
  intro c' hc'
  obtain ⟨op, hop, hc'⟩ := List.mem_flatMap.mp hc'
  obtain ⟨p, hpe, rfl⟩ := List.mem_map.mp hop
  obtain ⟨c, h1, h2⟩ := mem_cands_opOf hc'
  exact good_image (hp p hpe) h2 (hg p hpe c h1)

theorem hist_all (f1 : Cand → Option Cand) (evs : Hist)
    (hall : ∀ p ∈ evs, p.2 = f1) : hist evs = (evs.map (·.1)).map (opOf f1) := by
  unfold hist
  rw [List.map_map]
  apply List.map_congr_left
  intro p hp
  simp [hall p hp]

/-- **one destination, import side**: whatever policies the events of the soft-reset speaker
    were evaluated under, replaying its accepted Adj-RIB-In (in any order) under `f1` gives the
    Loc-RIB path list of the speaker that evaluated the same Adj-RIB-In content under `f1`
    throughout -/
theorem dest_soft_in_equals_fresh (o : Opts) (halw : o.alwaysCompareMed = true)
    (L1 L2 A : List Cand) (evs1 evs2 : Hist) (f1 : Cand → Option Cand)
    (hf1 : Pres f1) (t1 : Tracks o L1 A evs1) (t2 : Tracks o L2 A evs2)
    (hall : ∀ p ∈ evs2, p.2 = f1)
    (B : List Cand) (hB : B.Perm A) (hgB : ∀ c ∈ B, Good c)
    (hties : L2.Pairwise (fun a b => key o a ≠ key o b)) :
    BestPath.run o (hist evs1 ++ softOps f1 B) = L2 := by
  -- every candidate of either history is a good one, so MED is comparable throughout
  have g2 := good_opCands_hist t2.pres t2.good
  have g1 : ∀ c ∈ opCands (hist evs1 ++ softOps f1 B), Good c := by
    rw [← hist_replays]
    apply good_opCands_hist
    · intro p hp
      rcases List.mem_append.mp hp with h | h
      · exact t1.pres p h
      · obtain ⟨c, _, rfl⟩ := List.mem_map.mp h; exact hf1
    · intro p hp c hc
      rcases List.mem_append.mp hp with h | h
      · exact t1.good p h c hc
      · obtain ⟨x, hx, rfl⟩ := List.mem_map.mp h
        cases hc; exact hgB c hx
  -- no ties among the live candidates of the fresh history: they are its Loc-RIB
  obtain ⟨_, _, p2⟩ := run_inv o (hist evs2) (setWF_of_good o halw _ g2)
  rw [t2.rib] at hties ⊢
  have distinct := hties.perm p2 (fun {x y} h => fun e => h e.symm)
  rw [hist_all f1 evs2 hall] at g2 distinct ⊢
  refine soft_in_run_eq o f1 evs1 evs2 hf1.keyPres (fun p hp => (t1.pres p hp).keyPres) B
    (hB.trans t1.adj) (t2.adj.symm.trans t1.adj) ?_ distinct
  exact setWF_of_good o halw _ (fun c hc => (List.mem_append.mp hc).elim (g2 c) (g1 c))

/-- the peers have pairwise different indices and addresses, none is a route-server client -/
structure CfgWF (k : Ctx) : Prop where
  idx  : k.cfgs.Pairwise (fun a b => a.idx ≠ b.idx)
  addr : k.cfgs.Pairwise (fun a b => a.addr ≠ b.addr)
  nors : ∀ t ∈ k.cfgs, t.isRSClient = false

/-- a route of destination `dst` learned from a configured peer, ORIGIN present -/
def CandWF (k : Ctx) (dst : Nat) (c : Cand) : Prop :=
  (∃ x ∈ k.cfgs, c.src = x.srcInfo k.g) ∧ c.pfx = dst ∧ c.origin.isSome = true

theorem CandWF.good {k : Ctx} {dst : Nat} {c : Cand} (h : CandWF k dst c) : Good c := by
  obtain ⟨⟨x, _, hx⟩, _, ho⟩ := h
  exact ⟨ho, by rw [hx]; rfl⟩

theorem CandWF.image {k : Ctx} {dst : Nat} {f : Cand → Option Cand} (hf : Pres f) {c c' : Cand}
    (h : f c = some c') (hc : CandWF k dst c) : CandWF k dst c' := by
  obtain ⟨h1, _, h3, h4⟩ := hf c c' h
  unfold CandWF at *
  rw [h1, h3, h4]; exact hc

theorem fromPeerWF_of {k : Ctx} (cw : CfgWF k) {dst : Nat} {t : PeerCfg} (ht : t ∈ k.cfgs) {o : Cand}
    (hc : CandWF k dst o) : FromPeerWF k.g t o := by
  intro ha
  obtain ⟨⟨x, hx, hs⟩, _, _⟩ := hc
  rw [hs] at ha ⊢
  have : x.addr = t.addr := Option.some.inj ha
  rw [eq_of_pairwise_ne (f := (·.addr)) cw.addr hx ht this]

theorem srcEq_of {k : Ctx} (cw : CfgWF k) {d1 d2 : Nat} {b o : Cand} (hb : CandWF k d1 b)
    (ho : CandWF k d2 o) (e : b.src.equal o.src = true) : b.src = o.src := by
  obtain ⟨⟨x, hx, hs⟩, _, _⟩ := hb
  obtain ⟨⟨y, hy, hs'⟩, _, _⟩ := ho
  rw [hs, hs'] at e ⊢
  have : x.addr = y.addr := Option.some.inj (srcEqual_addr e)
  rw [eq_of_pairwise_ne (f := (·.addr)) cw.addr hx hy this]

structure DWF (k : Ctx) (dst : Nat) (L A : List Cand) : Prop where
  rib : ∀ c ∈ L, CandWF k dst c
  adj : ∀ c ∈ A, CandWF k dst c

def EvWF (k : Ctx) (dst : Nat) (ev : Ev) : Prop := ∀ c, ev = Ev.ann c → CandWF k dst c

theorem mem_adjInPlace (l : List Cand) (ev : Ev) (c : Cand) (h : c ∈ adjInPlace l ev) :
    c ∈ l ∨ ev = Ev.ann c := by
  cases ev with
  | wd x =>
    left
    rw [adjInPlace_wd] at h
    exact (List.mem_filter.mp h).1
  | ann x =>
    rw [adjInPlace_ann] at h
    split at h
    · obtain ⟨y, hy, he⟩ := List.mem_map.mp h
      split at he
      · right; rw [he]
      · left; rw [← he]; exact hy
    · rcases List.mem_append.mp h with h | h
      · left; exact h
      · right; rw [List.mem_singleton.mp h]

theorem dEv_dwf {k : Ctx} {dst : Nat} {st : DSt} {ev : Ev} (w : DWF k dst st.rib st.adj)
    (hev : EvWF k dst ev) : DWF k dst (dEv k st ev).rib (dEv k st ev).adj := by
  refine ⟨?_, ?_⟩
  · intro c hc
    rcases mem_calcStep _ _ _ c hc with h | h
    · exact w.rib c h
    · -- the new path is the image of the announced route under the import function
      have hc' : c ∈ (opOf (kf k) ev).cands := by
        show c ∈ (opOf (impFn k.g k.imp k.cfgs) ev).cands
        rw [h]; exact List.mem_singleton_self c
      obtain ⟨x, rfl, hf⟩ := mem_cands_opOf hc'
      exact CandWF.image (impFn_pres _ _ _) hf (hev x rfl)
  · intro c hc
    rcases mem_adjInPlace _ _ c hc with h | h
    · exact w.adj c h
    · exact hev c h

theorem DWF.congr {k k' : Ctx} {dst : Nat} {L A : List Cand} (w : DWF k dst L A) (hg : k'.g = k.g)
    (hc : k'.cfgs = k.cfgs) : DWF k' dst L A := by
  have : ∀ c, CandWF k dst c → CandWF k' dst c := by
    intro c h; unfold CandWF at *; rw [hg, hc]; exact h
  exact ⟨fun c h => this c (w.rib c h), fun c h => this c (w.adj c h)⟩

theorem CfgWF.congr {k k' : Ctx} (w : CfgWF k) (hc : k'.cfgs = k.cfgs) : CfgWF k' := by
  refine ⟨?_, ?_, ?_⟩
  · rw [hc]; exact w.idx
  · rw [hc]; exact w.addr
  · rw [hc]; exact w.nors

/-! ### what the peers hold for one destination

  Two relations between a peer, the Loc-RIB path list and what the peer holds are carried
  through the histories: the weak invariant of Lemmas/SoftReset.lean (any history) and "holds
  exactly the export of the best path" (as long as the export policy does not change). Both are
  kept by the fan-out, both hold right after a soft reset out, and the second implies the first;
  that is all the lemmas below use, so they are stated for any such relation. -/

abbrev PeerRel := Global → Pol → PeerCfg → List Cand → Option Held → Prop

def Weak : PeerRel := fun g _ t L h => WeakInv g t L h
def Exact : PeerRel := fun g e t L h => h = wantOfP g e t L

structure Kept (R : PeerRel) : Prop where
  step : ∀ g e t (oldL newL : List Cand) h, t.isRSClient = false →
    (∀ o, oldL.head? = some o → FromPeerWF g t o) →
    (∀ b o, newL.head? = some b → oldL.head? = some o → b.src.equal o.src = true → b.src = o.src) →
    (∀ b o, newL.head? = some b → oldL.head? = some o → b.pfx = o.pfx) →
    R g e t oldL h → R g e t newL (heldApplyP g t h (deltaForP g e t oldL newL))
  want : ∀ g e t L, R g e t L (wantOfP g e t L)
  weak : ∀ g e t L h, R g e t L h → WeakInv g t L h

theorem kept_weak : Kept Weak :=
  ⟨fun g e t oldL newL h hrs wfO wfEq _ inv => weak_inv_step g e t hrs oldL newL h wfO wfEq inv,
   weak_of_want, fun _ _ _ _ _ h => h⟩

theorem kept_exact : Kept Exact := by
  refine ⟨?_, fun _ _ _ _ => rfl, ?_⟩
  · intro g e t oldL newL h hrs wfO wfEq wfP inv
    show heldApplyP g t h (deltaForP g e t oldL newL) = wantOfP g e t newL
    rw [show h = wantOfP g e t oldL from inv]
    exact delta_correct_P g e t hrs oldL newL wfO wfEq wfP
  · intro g e t L h inv
    rw [show h = wantOfP g e t L from inv]
    exact weak_of_want g e t L

def ExpFree (R : PeerRel) : Prop := ∀ g e e' t L h, R g e t L h → R g e' t L h

theorem expFree_weak : ExpFree Weak := fun _ _ _ _ _ _ h => h

def View (R : PeerRel) (k : Ctx) (L : List Cand) (held : Nat → Option Held) : Prop :=
  ∀ i t, k.cfg? i = some t → k.up i = true → R k.g k.exp t L (held i)

/-- the weak invariant of Lemmas/SoftReset.lean for every established peer: `View Weak` -/
def ViewInv (k : Ctx) (st : DSt) : Prop :=
  ∀ i t, k.cfg? i = some t → k.up i = true → WeakInv k.g t st.rib (st.held i)

/-- every established peer holds exactly the export of the best path under the export policy:
    `View Exact` -/
def ViewEq (k : Ctx) (st : DSt) : Prop :=
  ∀ i t, k.cfg? i = some t → k.up i = true → st.held i = wantOfP k.g k.exp t st.rib

theorem viewEq_inv {k : Ctx} {st : DSt} (v : ViewEq k st) : ViewInv k st :=
  fun i t hc hu => kept_exact.weak _ _ _ _ _ (v i t hc hu)

theorem viewEq_congr {k k' : Ctx} {st : DSt} (v : ViewEq k st) (hg : k'.g = k.g)
    (hc : k'.cfgs = k.cfgs) (he : k'.exp = k.exp) (hu : k'.up = k.up) : ViewEq k' st := by
  intro i t hc' hu'
  have h1 : k.cfg? i = some t := by unfold Ctx.cfg? at hc' ⊢; rw [← hc]; exact hc'
  rw [hg, he]
  exact v i t h1 (by rw [← hu]; exact hu')

theorem fanoutD_up {k : Ctx} (cw : CfgWF k) {i : Nat} {t : PeerCfg} (hc : k.cfg? i = some t)
    (hu : k.up i = true) (oldL newL : List Cand) (held : Nat → Option Held) :
    fanoutD k oldL newL held i = heldApplyP k.g t (held i) (deltaForP k.g k.exp t oldL newL) := by
  unfold fanoutD
  simp [hc, hu, cw.nors t (cfg?_some hc).1]

theorem dEv_view {R : PeerRel} (hR : Kept R) {k : Ctx} (cw : CfgWF k) {dst : Nat} {st : DSt} {ev : Ev}
    (w : DWF k dst st.rib st.adj) (hev : EvWF k dst ev) (v : View R k st.rib st.held) :
    View R k (dEv k st ev).rib (dEv k st ev).held := by
  intro i t hc hu
  have w' := dEv_dwf w hev
  show R k.g k.exp t (dEv k st ev).rib (fanoutD k st.rib (dEv k st ev).rib st.held i)
  rw [fanoutD_up cw hc hu]
  have ht := (cfg?_some hc).1
  exact hR.step k.g k.exp t st.rib _ (st.held i) (cw.nors t ht)
    (fun o ho => fromPeerWF_of cw ht (w.rib o (List.mem_of_mem_head? ho)))
    (fun b o hb ho e =>
      srcEq_of cw (w'.rib b (List.mem_of_mem_head? hb)) (w.rib o (List.mem_of_mem_head? ho)) e)
    (fun b o hb ho => by
      rw [(w'.rib b (List.mem_of_mem_head? hb)).2.1, (w.rib o (List.mem_of_mem_head? ho)).2.1])
    (v i t hc hu)

theorem view_upd_want {R : PeerRel} (hR : Kept R) {k : Ctx} {L : List Cand} {held : Nat → Option Held}
    {i : Nat} {t : PeerCfg} (hc : k.cfg? i = some t)
    (v : ∀ j t', j ≠ i → k.cfg? j = some t' → k.up j = true → R k.g k.exp t' L (held j)) :
    View R k L (upd held i (wantOfP k.g k.exp t L)) := by
  intro j t' hc' hu
  unfold upd
  by_cases hj : j = i
  · subst hj
    rw [if_pos rfl, Option.some.inj (hc.symm.trans hc')]
    exact hR.want _ _ _ _
  · rw [if_neg hj]; exact v j t' hj hc' hu

/-- sessions going down and the policies other than the export policy do not matter -/
theorem View.frame {R : PeerRel} {k k' : Ctx} {L : List Cand} {held held' : Nat → Option Held}
    (v : View R k L held) (hg : k'.g = k.g) (hc : k'.cfgs = k.cfgs) (he : k'.exp = k.exp)
    (h : ∀ j, k'.up j = true → k.up j = true ∧ held' j = held j) : View R k' L held' := by
  intro j t hc' hu'
  have h1 : k.cfg? j = some t := by unfold Ctx.cfg? at hc' ⊢; rw [← hc]; exact hc'
  rw [hg, he, (h j hu').2]
  exact v j t h1 (h j hu').1

structure DInv (R : PeerRel) (k : Ctx) (dst : Nat) (st : DSt) (evs : Hist) : Prop where
  wf   : DWF k dst st.rib st.adj
  view : View R k st.rib st.held
  tr   : Tracks k.opts st.rib st.adj evs

theorem dEv_dinv {R : PeerRel} (hR : Kept R) {k : Ctx} (cw : CfgWF k) {dst : Nat} {st : DSt} {evs : Hist}
    {ev : Ev} (h : DInv R k dst st evs) (hev : EvWF k dst ev) :
    DInv R k dst (dEv k st ev) (evs ++ [(ev, kf k)]) :=
  ⟨dEv_dwf h.wf hev, dEv_view hR cw h.wf hev h.view,
   track_dEv k st evs ev h.tr (fun c hc => (hev c hc).good)⟩

theorem fold_dinv {R : PeerRel} (hR : Kept R) {k : Ctx} (cw : CfgWF k) {dst : Nat} (evL : List Ev) :
    ∀ (st : DSt) (evs : Hist), DInv R k dst st evs → (∀ ev ∈ evL, EvWF k dst ev) →
      DInv R k dst (evL.foldl (dEv k) st) (evs ++ evL.map (fun ev => (ev, kf k))) := by
  induction evL with
  | nil => intro st evs h _; rw [List.map_nil, List.append_nil]; exact h
  | cons ev rest ih =>
    intro st evs h hev
    rw [List.map_cons, List.append_cons]
    exact ih _ _ (dEv_dinv hR cw h (hev ev List.mem_cons_self))
      (fun e he => hev e (List.mem_cons_of_mem _ he))

theorem fold_adj (k : Ctx) (evL : List Ev) (st : DSt) :
    (evL.foldl (dEv k) st).adj = evL.foldl adjInPlace st.adj :=
  (List.foldl_hom DSt.adj fun _ _ => rfl).symm

theorem dSoftIn_adj (k : Ctx) (x : PeerCfg) (st : DSt) (hn : NodupKey st.adj) :
    (dSoftIn k x st).adj = st.adj := by
  unfold dSoftIn
  rw [fold_adj]
  -- every replayed entry is in the list already
  refine List.foldlRecOn (motive := (· = st.adj)) _ adjInPlace rfl fun l hl ev hev => ?_
  obtain ⟨c, hc, rfl⟩ := List.mem_map.mp hev
  rw [hl]
  exact adjInPlace_replay st.adj c hn (List.mem_filter.mp hc).1

theorem dSoftIn_dinv {R : PeerRel} (hR : Kept R) {k : Ctx} (cw : CfgWF k) {dst : Nat} (x : PeerCfg)
    (st : DSt) (evs : Hist) (h : DInv R k dst st evs) :
    DInv R k dst (dSoftIn k x st) (evs ++ (st.adj.filter (fromPeer x)).map (fun c => (Ev.ann c, kf k))) := by
  have := fold_dinv hR cw ((st.adj.filter (fromPeer x)).map Ev.ann) st evs h (by
    intro ev he c hc
    obtain ⟨y, hy, rfl⟩ := List.mem_map.mp he
    cases hc
    exact h.wf.adj c (List.mem_filter.mp hy).1)
  rw [List.map_map] at this
  exact this

def dSoftInAll (k : Ctx) (cs : List PeerCfg) (st : DSt) : DSt :=
  cs.foldl (fun st x => dSoftIn k x st) st

theorem dSoftInAll_adj (k : Ctx) (cs : List PeerCfg) (st : DSt) (hn : NodupKey st.adj) :
    (dSoftInAll k cs st).adj = st.adj :=
  List.foldlRecOn (motive := fun st' => st'.adj = st.adj) cs _ rfl fun st' h x _ =>
    (dSoftIn_adj k x st' (by rw [h]; exact hn)).trans h

theorem dSoftInAll_dinv {R : PeerRel} (hR : Kept R) {k : Ctx} (cw : CfgWF k) {dst : Nat}
    (cs : List PeerCfg) : ∀ (st : DSt) (evs : Hist), DInv R k dst st evs →
      DInv R k dst (dSoftInAll k cs st)
        (evs ++ (cs.flatMap (fun x => st.adj.filter (fromPeer x))).map (fun c => (Ev.ann c, kf k))) := by
  induction cs with
  | nil => intro st evs h; rw [List.flatMap_nil, List.map_nil, List.append_nil]; exact h
  | cons x rest ih =>
    intro st evs h
    have h2 := ih (dSoftIn k x st) _ (dSoftIn_dinv hR cw x st evs h)
    rw [dSoftIn_adj k x st h.tr.nodup] at h2
    rw [List.flatMap_cons, List.map_append, ← List.append_assoc]
    exact h2

theorem replays_perm {k : Ctx} (cw : CfgWF k) {dst : Nat} {L A : List Cand} (w : DWF k dst L A) :
    (k.cfgs.flatMap (fun x => A.filter (fromPeer x))).Perm A := by
  apply flatMap_filter_perm k.cfgs A fromPeer
  · intro a ha
    obtain ⟨⟨x, hx, hs⟩, _, _⟩ := w.adj a ha
    exact ⟨x, hx, by unfold fromPeer; rw [hs]; simp [PeerCfg.srcInfo]⟩
  · apply cw.addr.imp
    intro x y hxy a _ hboth
    unfold fromPeer at hboth
    have h1 : a.src.addr = some x.addr := by simpa using hboth.1
    have h2 : a.src.addr = some y.addr := by simpa using hboth.2
    rw [h1] at h2
    exact hxy (Option.some.inj h2)

theorem dSoftOut_eq (k : Ctx) (t : PeerCfg) (st : DSt) (hw : WeakInv k.g t st.rib (st.held t.idx)) :
    dSoftOut k t st = { st with held := upd st.held t.idx (wantOfP k.g k.exp t st.rib) } := by
  unfold dSoftOut
  rw [SoftReset.soft_out_restores k.g k.exp t st.rib _ hw]

theorem dUp_eq (k : Ctx) (t : PeerCfg) (st : DSt) :
    dUp k t st = { st with held := upd st.held t.idx (wantOfP k.g k.exp t st.rib) } := by
  have := SoftReset.soft_out_restores k.g k.exp t st.rib none (weakInv_none _ _ _)
  exact congrArg (fun h => { st with held := upd st.held t.idx h }) this

theorem dSoftOut_dinv {R : PeerRel} (hR : Kept R) {k : Ctx} {dst : Nat} {i : Nat} {t : PeerCfg}
    (hc : k.cfg? i = some t) (hu : k.up i = true) (st : DSt) (evs : Hist) (h : DInv R k dst st evs) :
    DInv R k dst (dSoftOut k t st) evs := by
  have hti := (cfg?_some hc).2
  rw [dSoftOut_eq k t st (by rw [hti]; exact hR.weak _ _ _ _ _ (h.view i t hc hu)), hti]
  exact ⟨h.wf, view_upd_want hR hc (fun j t' _ => h.view j t'), h.tr⟩

theorem dUp_dinv {R : PeerRel} (hR : Kept R) {k : Ctx} {dst : Nat} {i : Nat} {t : PeerCfg}
    (hc : k.cfg? i = some t) (st : DSt) (evs : Hist) (h : DInv R k dst st evs) :
    DInv R { k with up := upd k.up i true } dst (dUp { k with up := upd k.up i true } t st) evs := by
  rw [dUp_eq, (cfg?_some hc).2]
  refine ⟨h.wf.congr rfl rfl, view_upd_want hR hc (fun j t' hj hc' hu' => h.view j t' hc' ?_), h.tr⟩
  have : upd k.up i true j = true := hu'
  unfold upd at this
  rw [if_neg hj] at this
  exact this

theorem dDown_dinv {R : PeerRel} (hR : Kept R) {k : Ctx} (cw : CfgWF k) {dst : Nat} {i : Nat}
    {x : PeerCfg} (hc : k.cfg? i = some x) (st : DSt) (evs : Hist) (h : DInv R k dst st evs) :
    DInv R { k with up := upd k.up i false } dst (dDown { k with up := upd k.up i false } x st)
      (evs ++ ((st.adj.filter (fromPeer x)).map Ev.wd).map
        (fun ev => (ev, kf { k with up := upd k.up i false }))) := by
  have cw' : CfgWF { k with up := upd k.up i false } := cw.congr rfl
  unfold dDown
  apply fold_dinv hR cw' _ { st with held := upd st.held x.idx none } evs
  · refine ⟨h.wf.congr rfl rfl, h.view.frame rfl rfl rfl ?_, h.tr⟩
    intro j hu'
    have hu' : upd k.up i false j = true := hu'
    unfold upd at hu' ⊢
    by_cases hj : j = i
    · rw [if_pos hj] at hu'; cases hu'
    · rw [if_neg hj] at hu'
      rw [(cfg?_some hc).2]
      exact ⟨hu', if_neg hj⟩
  · intro ev he c hc
    obtain ⟨y, _, rfl⟩ := List.mem_map.mp he
    cases hc

/-- the invariant of every reachable state, with the (ghost) event history of every destination -/
def WI (R : PeerRel) (s : SW) (E : Nat → Hist) : Prop := CfgWF s.k ∧ ∀ d, DInv R s.k d (s.d d) (E d)

/-- the histories grew only by events evaluated under the import function of `k` -/
def NewEvs (k : Ctx) (E E' : Nat → Hist) : Prop := ∀ d p, p ∈ E' d → p ∈ E d ∨ p.2 = kf k

theorem NewEvs.refl (k : Ctx) (E : Nat → Hist) : NewEvs k E E := fun _ _ h => Or.inl h

theorem newEvs_append (k : Ctx) (E : Nat → Hist) (L : Nat → Hist) (hL : ∀ d, ∀ p ∈ L d, p.2 = kf k) :
    NewEvs k E (fun d => E d ++ L d) :=
  fun d p hp => (List.mem_append.mp hp).imp id (hL d p)

theorem WI.keep {R : PeerRel} {s : SW} {E : Nat → Hist} (h : WI R s E) (k : Ctx) :
    ∃ E', WI R s E' ∧ NewEvs k E E' := ⟨E, h, NewEvs.refl _ _⟩

/-- whichever timestamp it gets, an announced route is `r0` with the peer as its source -/
theorem annEv_ann {g : Global} {x : PeerCfg} {tick : Nat} {adj : List Cand} {r0 c : Cand}
    (h : annEv g x tick adj r0 = Ev.ann c) :
    c.src = x.srcInfo g ∧ c.pfx = r0.pfx ∧ c.origin = r0.origin := by
  unfold annEv at h
  extract_lets r at h
  split at h
  · cases h
  · split at h
    · split at h <;> (rw [← Ev.ann.inj h]; exact ⟨rfl, rfl, rfl⟩)
    · rw [← Ev.ann.inj h]; exact ⟨rfl, rfl, rfl⟩

theorem annEv_wf (k : Ctx) (x : PeerCfg) (hx : x ∈ k.cfgs) (tick : Nat) (adj : List Cand) (r0 : Cand)
    (ho : r0.origin.isSome = true) : EvWF k r0.pfx (annEv k.g x tick adj r0) := by
  intro c hc
  obtain ⟨h1, h2, h3⟩ := annEv_ann hc
  exact ⟨⟨x, hx, h1⟩, h2, by rw [h3]; exact ho⟩

theorem wdEv_wf (k : Ctx) (dst : Nat) (x : PeerCfg) (tick pfx pid : Nat) :
    EvWF k dst (wdEv k.g x tick pfx pid) := by
  intro c hc; unfold wdEv at hc; cases hc

/-- what `recvAnn` and `recvWd` do to the state: nothing unless peer `i` is configured and
    established, else one event for destination `dst`, the other destinations untouched -/
def recvEv (s : SW) (i dst : Nat) (ev : PeerCfg → Ev) : SW :=
  match s.k.cfg? i with
  | none => s
  | some x =>
    if !s.k.up i then s
    else { s with tick := s.tick + 1, d := upd s.d dst (dEv s.k (s.d dst) (ev x)) }

theorem recvAnn_eq (s : SW) (i : Nat) (r0 : Cand) :
    recvAnn s i r0 = recvEv s i r0.pfx (fun x => annEv s.k.g x (s.tick + 1) (s.d r0.pfx).adj r0) := rfl

theorem recvWd_eq (s : SW) (i pfx pid : Nat) :
    recvWd s i pfx pid = recvEv s i pfx (fun x => wdEv s.k.g x (s.tick + 1) pfx pid) := rfl

theorem recvEv_k (s : SW) (i dst : Nat) (ev : PeerCfg → Ev) : (recvEv s i dst ev).k = s.k := by
  unfold recvEv
  cases s.k.cfg? i with
  | none => rfl
  | some x => simp only; split <;> rfl

theorem recvEv_wi {R : PeerRel} (hR : Kept R) {s : SW} {E : Nat → Hist} (h : WI R s E) (i dst : Nat)
    (ev : PeerCfg → Ev) (hev : ∀ x ∈ s.k.cfgs, EvWF s.k dst (ev x)) :
    ∃ E', WI R (recvEv s i dst ev) E' ∧ NewEvs s.k E E' := by
  unfold recvEv
  cases hc : s.k.cfg? i with
  | none => exact h.keep _
  | some x =>
    simp only
    split
    · exact h.keep _
    · refine ⟨upd E dst (E dst ++ [(ev x, kf s.k)]), ⟨h.1, fun d => ?_⟩, fun d p hp => ?_⟩
      · show DInv R s.k d (upd s.d dst _ d) (upd E dst _ d)
        unfold upd
        by_cases hd : d = dst
        · subst hd
          rw [if_pos rfl, if_pos rfl]
          exact dEv_dinv hR h.1 (h.2 d) (hev x (cfg?_some hc).1)
        · rw [if_neg hd, if_neg hd]; exact h.2 d
      · unfold upd at hp
        by_cases hd : d = dst
        · subst hd
          rw [if_pos rfl] at hp
          rcases List.mem_append.mp hp with hp | hp
          · exact Or.inl hp
          · rw [List.mem_singleton.mp hp]; exact Or.inr rfl
        · rw [if_neg hd] at hp; exact Or.inl hp

theorem setImp_wi {R : PeerRel} {s : SW} {E : Nat → Hist} (p : Pol) (h : WI R s E) :
    WI R { s with k := { s.k with imp := p } } E :=
  ⟨h.1.congr rfl, fun d => ⟨(h.2 d).wf.congr rfl rfl, (h.2 d).view, (h.2 d).tr⟩⟩

theorem setExp_wi {R : PeerRel} (hx : ExpFree R) {s : SW} {E : Nat → Hist} (p : Pol) (h : WI R s E) :
    WI R { s with k := { s.k with exp := p } } E :=
  ⟨h.1.congr rfl, fun d => ⟨(h.2 d).wf.congr rfl rfl,
    fun i t hc hu => hx _ _ _ _ _ _ ((h.2 d).view i t hc hu), (h.2 d).tr⟩⟩

theorem softIn_k (s : SW) (i : Nat) : (softIn s i).k = s.k := by
  unfold softIn; cases s.k.cfg? i <;> rfl

theorem foldl_softIn_eq (l : List Nat) :
    ∀ s : SW, l.foldl softIn s = s.mapD (dSoftInAll s.k (l.filterMap s.k.cfg?)) := by
  induction l with
  | nil => intro s; rfl
  | cons i rest ih =>
    intro s
    rw [List.foldl_cons, ih, softIn_k, List.filterMap_cons]
    unfold softIn
    cases s.k.cfg? i <;> rfl

theorem foldl_softIn_wi {R : PeerRel} (hR : Kept R) (l : List Nat) {s : SW} {E : Nat → Hist}
    (h : WI R s E) :
    WI R (l.foldl softIn s) (fun d => E d ++
      ((l.filterMap s.k.cfg?).flatMap (fun x => (s.d d).adj.filter (fromPeer x))).map
        (fun c => (Ev.ann c, kf s.k))) := by
  rw [foldl_softIn_eq]
  exact ⟨h.1, fun d => dSoftInAll_dinv hR h.1 _ _ _ (h.2 d)⟩

theorem newEvs_replays (k : Ctx) (E : Nat → Hist) (B : Nat → List Cand) :
    NewEvs k E (fun d => E d ++ (B d).map (fun c => (Ev.ann c, kf k))) := by
  apply newEvs_append
  intro d p hp
  obtain ⟨c, _, rfl⟩ := List.mem_map.mp hp
  rfl

theorem softOut_k (s : SW) (i : Nat) : (softOut s i).k = s.k := by
  unfold softOut
  cases s.k.cfg? i with
  | none => rfl
  | some t => simp only; split <;> rfl

theorem softOut_wi {R : PeerRel} (hR : Kept R) {s : SW} {E : Nat → Hist} (i : Nat) (h : WI R s E) :
    WI R (softOut s i) E := by
  unfold softOut
  cases hc : s.k.cfg? i with
  | none => exact h
  | some t =>
    cases hu : s.k.up i with
    | false => exact h
    | true => exact ⟨h.1, fun d => dSoftOut_dinv hR hc hu (s.d d) (E d) (h.2 d)⟩

theorem foldl_softOut_wi {R : PeerRel} (hR : Kept R) {E : Nat → Hist} (l : List Nat) {s : SW}
    (h : WI R s E) : WI R (l.foldl softOut s) E :=
  List.foldlRecOn (motive := fun s => WI R s E) l softOut h fun _ h i _ => softOut_wi hR i h

theorem foldl_k (f : SW → Nat → SW) (hk : ∀ s i, (f s i).k = s.k) (l : List Nat) (s : SW) :
    (l.foldl f s).k = s.k :=
  List.foldlRecOn (motive := fun s' => s'.k = s.k) l f rfl fun s' h i _ => (hk s' i).trans h

theorem sessionUp_wi {R : PeerRel} (hR : Kept R) {s : SW} {E : Nat → Hist} (i : Nat) (h : WI R s E) :
    WI R (sessionUp s i) E := by
  unfold sessionUp
  cases hc : s.k.cfg? i with
  | none => exact h
  | some t => exact ⟨h.1.congr rfl, fun d => dUp_dinv hR hc (s.d d) (E d) (h.2 d)⟩

theorem sessionDown_wi {R : PeerRel} (hR : Kept R) {s : SW} {E : Nat → Hist} (i : Nat) (h : WI R s E) :
    ∃ E', WI R (sessionDown s i) E' ∧ NewEvs s.k E E' := by
  unfold sessionDown
  cases hc : s.k.cfg? i with
  | none => exact h.keep _
  | some x =>
    refine ⟨_, ⟨h.1.congr rfl, fun d => dDown_dinv hR h.1 hc (s.d d) (E d) (h.2 d)⟩, ?_⟩
    apply newEvs_append
    intro d p hp
    obtain ⟨ev, _, rfl⟩ := List.mem_map.mp hp
    rfl

/-- the announcements of a history carry an ORIGIN (it is a mandatory attribute) -/
def OpOK : SOp → Prop
  | .ann _ r => r.origin.isSome = true
  | _ => True

/-- every event keeps the invariant; a change of the export policy keeps what the peers hold in
    relation `R` only if `R` does not mention the export policy -/
theorem step_wi {R : PeerRel} (hR : Kept R) {s : SW} {E : Nat → Hist} (op : SOp) (hop : OpOK op)
    (hx : ∀ p, op = .setExp p → ExpFree R) (h : WI R s E) :
    ∃ E', WI R (step s op) E' ∧ NewEvs s.k E E' := by
  cases op with
  | up i => exact (sessionUp_wi hR i h).keep _
  | down i => exact sessionDown_wi hR i h
  | ann i r => exact recvEv_wi hR h i _ _ (fun x hx => annEv_wf s.k x hx _ _ r hop)
  | wd i p pid => exact recvEv_wi hR h i _ _ (fun x _ => wdEv_wf s.k p x _ p pid)
  | setImp p => exact (setImp_wi p h).keep _
  | setExp p => exact (setExp_wi (hx p rfl) p h).keep _
  | softIn i => exact ⟨_, foldl_softIn_wi hR [i] h, newEvs_replays _ _ _⟩
  | softOut i => exact (softOut_wi hR i h).keep _
  | softBoth i => exact ⟨_, softOut_wi hR i (foldl_softIn_wi hR [i] h), newEvs_replays _ _ _⟩
  | softInAll => exact ⟨_, foldl_softIn_wi hR (idxs s) h, newEvs_replays _ _ _⟩
  | softOutAll => exact (foldl_softOut_wi hR _ h).keep _
  | softBothAll =>
    exact ⟨_, foldl_softOut_wi hR _ (foldl_softIn_wi hR (idxs s) h), newEvs_replays _ _ _⟩
  | refresh i => exact (softOut_wi hR i h).keep _

def isRoute : SOp → Bool
  | .up _ => true
  | .down _ => true
  | .ann _ _ => true
  | .wd _ _ _ => true
  | _ => false

theorem run_wi (ops : List SOp) (s : SW) (E : Nat → Hist) (hop : ∀ op ∈ ops, OpOK op) (h : WI Weak s E) :
    ∃ E', WI Weak (run s ops) E' :=
  List.foldlRecOn (motive := fun s => ∃ E', WI Weak s E') ops step ⟨E, h⟩ fun _ ⟨_, h⟩ op hm =>
    let ⟨E1, h1, _⟩ := step_wi kept_weak op (hop op hm) (fun _ _ => expFree_weak) h
    ⟨E1, h1⟩

/-- the context without the session states -/
def Ctx.static (k : Ctx) : Ctx := { k with up := fun _ => false }

theorem route_k (s : SW) (op : SOp) (hr : isRoute op = true) : (step s op).k.static = s.k.static := by
  cases op with
  | up i =>
    show (sessionUp s i).k.static = _
    unfold sessionUp
    cases s.k.cfg? i <;> rfl
  | down i =>
    show (sessionDown s i).k.static = _
    unfold sessionDown
    cases s.k.cfg? i <;> rfl
  | ann i r => exact congrArg Ctx.static (recvEv_k s i _ _)
  | wd i p pid => exact congrArg Ctx.static (recvEv_k s i _ _)
  | _ => cases hr

theorem route_kf (s : SW) (op : SOp) (hr : isRoute op = true) : kf (step s op).k = kf s.k := by
  show kf (step s op).k.static = kf s.k.static
  rw [route_k s op hr]

theorem run_route_k (ops : List SOp) (s : SW) (hr : ∀ op ∈ ops, isRoute op = true) :
    (run s ops).k.static = s.k.static :=
  List.foldlRecOn (motive := fun s' => s'.k.static = s.k.static) ops step rfl fun s' h op hm =>
    (route_k s' op (hr op hm)).trans h

/-- the speaker whose policies never change: every event of every destination was evaluated
    under the one import function, and (`R := Exact`) every established peer holds the export -/
theorem run_fresh_wi {R : PeerRel} (hR : Kept R) (ops : List SOp) (s : SW) (E : Nat → Hist)
    (hop : ∀ op ∈ ops, OpOK op) (hr : ∀ op ∈ ops, isRoute op = true) (h : WI R s E)
    (ha : ∀ d p, p ∈ E d → p.2 = kf s.k) :
    ∃ E', WI R (run s ops) E' ∧ ∀ d p, p ∈ E' d → p.2 = kf s.k := by
  refine (List.foldlRecOn (motive := fun s' => kf s'.k = kf s.k ∧
    ∃ E', WI R s' E' ∧ ∀ d p, p ∈ E' d → p.2 = kf s.k) ops step ⟨rfl, E, h, ha⟩ ?_).2
  intro s' ⟨hk, E', h', ha'⟩ op hm
  have hrop := hr op hm
  obtain ⟨E1, h1, n1⟩ := step_wi hR op (hop op hm) (fun p e => by rw [e] at hrop; cases hrop) h'
  exact ⟨(route_kf s' op hrop).trans hk, E1, h1, fun d p hp => (n1 d p hp).elim (ha' d p) (·.trans hk)⟩

/-! ### what does not depend on the policies: sessions, clock, Adj-RIB-Ins -/

structure SameCore (s1 s2 : SW) : Prop where
  g    : s1.k.g = s2.k.g
  opts : s1.k.opts = s2.k.opts
  cfgs : s1.k.cfgs = s2.k.cfgs
  up   : s1.k.up = s2.k.up
  tick : s1.tick = s2.tick
  adj  : ∀ d, (s1.d d).adj = (s2.d d).adj

theorem SameCore.refl (s : SW) : SameCore s s := ⟨rfl, rfl, rfl, rfl, rfl, fun _ => rfl⟩

theorem SameCore.trans {a b c : SW} (h1 : SameCore a b) (h2 : SameCore b c) : SameCore a c :=
  ⟨h1.g.trans h2.g, h1.opts.trans h2.opts, h1.cfgs.trans h2.cfgs, h1.up.trans h2.up,
   h1.tick.trans h2.tick, fun d => (h1.adj d).trans (h2.adj d)⟩

theorem SameCore.cfg? {s1 s2 : SW} (h : SameCore s1 s2) (i : Nat) : s1.k.cfg? i = s2.k.cfg? i := by
  unfold Ctx.cfg?; rw [h.cfgs]

theorem recvEv_core {s1 s2 : SW} (h : SameCore s1 s2) (i dst : Nat) (ev : PeerCfg → Ev) :
    SameCore (recvEv s1 i dst ev) (recvEv s2 i dst ev) := by
  unfold recvEv
  rw [h.cfg? i, h.up]
  cases s2.k.cfg? i with
  | none => exact h
  | some x =>
    simp only
    split
    · exact h
    · refine ⟨h.g, h.opts, h.cfgs, h.up, congrArg (· + 1) h.tick, fun d => ?_⟩
      show (upd s1.d dst _ d).adj = (upd s2.d dst _ d).adj
      unfold upd
      split
      · show adjInPlace (s1.d dst).adj (ev x) = adjInPlace (s2.d dst).adj (ev x)
        rw [h.adj]
      · exact h.adj d

theorem dDown_adj (k : Ctx) (x : PeerCfg) (st : DSt) :
    (dDown k x st).adj = ((st.adj.filter (fromPeer x)).map Ev.wd).foldl adjInPlace st.adj := by
  unfold dDown; rw [fold_adj]

theorem route_core (s1 s2 : SW) (op : SOp) (hr : isRoute op = true) (h : SameCore s1 s2) :
    SameCore (step s1 op) (step s2 op) := by
  cases op with
  | ann i r =>
    show SameCore (recvAnn s1 i r) (recvAnn s2 i r)
    rw [recvAnn_eq, recvAnn_eq, h.g, h.tick, h.adj]
    exact recvEv_core h i _ _
  | wd i p pid =>
    show SameCore (recvWd s1 i p pid) (recvWd s2 i p pid)
    rw [recvWd_eq, recvWd_eq, h.g, h.tick]
    exact recvEv_core h i _ _
  | up i =>
    show SameCore (sessionUp s1 i) (sessionUp s2 i)
    unfold sessionUp
    rw [h.cfg? i]
    cases s2.k.cfg? i with
    | none => exact h
    | some t =>
      exact ⟨h.g, h.opts, h.cfgs, congrArg (fun u => upd u i true) h.up, congrArg (· + 1) h.tick,
        fun d => h.adj d⟩
  | down i =>
    show SameCore (sessionDown s1 i) (sessionDown s2 i)
    unfold sessionDown
    rw [h.cfg? i]
    cases s2.k.cfg? i with
    | none => exact h
    | some x =>
      refine ⟨h.g, h.opts, h.cfgs, congrArg (fun u => upd u i false) h.up, congrArg (· + 1) h.tick,
        fun d => ?_⟩
      show (dDown _ x (s1.d d)).adj = (dDown _ x (s2.d d)).adj
      rw [dDown_adj, dDown_adj, h.adj]
  | _ => cases hr

theorem foldl_softIn_core (l : List Nat) (s : SW) (hn : ∀ d, NodupKey (s.d d).adj) :
    SameCore (l.foldl softIn s) s := by
  rw [foldl_softIn_eq]
  exact ⟨rfl, rfl, rfl, rfl, rfl, fun d => dSoftInAll_adj _ _ _ (hn d)⟩

theorem softOut_core (s : SW) (i : Nat) : SameCore (softOut s i) s := by
  unfold softOut
  cases s.k.cfg? i with
  | none => exact SameCore.refl s
  | some t =>
    simp only
    split
    · exact SameCore.refl s
    · exact ⟨rfl, rfl, rfl, rfl, rfl, fun _ => rfl⟩

theorem foldl_softOut_core (l : List Nat) (s : SW) : SameCore (l.foldl softOut s) s :=
  List.foldlRecOn (motive := fun s' => SameCore s' s) l softOut (SameCore.refl s) fun s' h i _ =>
    (softOut_core s' i).trans h

theorem nonroute_core {R : PeerRel} {s : SW} {E : Nat → Hist} (op : SOp) (hr : isRoute op = false)
    (h : WI R s E) : SameCore (step s op) s := by
  have hn : ∀ d, NodupKey (s.d d).adj := fun d => (h.2 d).tr.nodup
  cases op with
  | setImp p => exact ⟨rfl, rfl, rfl, rfl, rfl, fun _ => rfl⟩
  | setExp p => exact ⟨rfl, rfl, rfl, rfl, rfl, fun _ => rfl⟩
  | softIn i => exact foldl_softIn_core [i] s hn
  | softOut i => exact softOut_core s i
  | softBoth i => exact (softOut_core _ i).trans (foldl_softIn_core [i] s hn)
  | softInAll => exact foldl_softIn_core _ s hn
  | softOutAll => exact foldl_softOut_core _ s
  | softBothAll => exact (foldl_softOut_core _ _).trans (foldl_softIn_core _ s hn)
  | refresh i => exact softOut_core s i
  | _ => cases hr

theorem run_core (ops : List SOp) : ∀ (s1 s2 : SW) (E : Nat → Hist), (∀ op ∈ ops, OpOK op) →
    WI Weak s1 E → SameCore s1 s2 → SameCore (run s1 ops) (run s2 (ops.filter isRoute)) := by
  induction ops with
  | nil => intro s1 s2 _ _ _ h; exact h
  | cons op rest ih =>
    intro s1 s2 E hop h hc
    obtain ⟨E1, h1, _⟩ := step_wi kept_weak op (hop op List.mem_cons_self) (fun _ _ => expFree_weak) h
    have hrest := fun o ho => hop o (List.mem_cons_of_mem _ ho)
    cases hr : isRoute op with
    | true =>
      rw [List.filter_cons_of_pos hr]
      exact ih (step s1 op) (step s2 op) E1 hrest h1 (route_core s1 s2 op hr hc)
    | false =>
      rw [List.filter_cons_of_neg (by rw [hr]; exact Bool.false_ne_true)]
      exact ih (step s1 op) s2 E1 hrest h1 ((nonroute_core op hr h).trans hc)

theorem softOut_d_rib (s : SW) (i d : Nat) : ((softOut s i).d d).rib = (s.d d).rib := by
  unfold softOut
  cases s.k.cfg? i with
  | none => rfl
  | some t => simp only; split <;> rfl

theorem foldl_softOut_rib (l : List Nat) (s : SW) (d : Nat) :
    ((l.foldl softOut s).d d).rib = (s.d d).rib :=
  List.foldlRecOn (motive := fun s' => (s'.d d).rib = (s.d d).rib) l softOut rfl fun s' h i _ =>
    (softOut_d_rib s' i d).trans h

theorem softOut_held_other (s : SW) (i j d : Nat) (hj : j ≠ i) :
    ((softOut s i).d d).held j = (s.d d).held j := by
  unfold softOut
  cases hc : s.k.cfg? i with
  | none => rfl
  | some t =>
    simp only
    split
    · rfl
    · show upd (s.d d).held t.idx _ j = _
      rw [(cfg?_some hc).2]
      exact if_neg hj

theorem foldl_softOut_other (l : List Nat) (s : SW) (d j : Nat) (hj : j ∉ l) :
    ((l.foldl softOut s).d d).held j = (s.d d).held j :=
  List.foldlRecOn (motive := fun s' => (s'.d d).held j = (s.d d).held j) l softOut rfl fun s' h i hi =>
    (softOut_held_other s' i j d (fun e => hj (e ▸ hi))).trans h

theorem softOut_held_self {R : PeerRel} (hR : Kept R) {s : SW} {E : Nat → Hist} (h : WI R s E)
    {i : Nat} {t : PeerCfg} (hc : s.k.cfg? i = some t) (hu : s.k.up i = true) (d : Nat) :
    ((softOut s i).d d).held i = wantOfP s.k.g s.k.exp t (s.d d).rib := by
  have hti := (cfg?_some hc).2
  have hw : WeakInv s.k.g t (s.d d).rib ((s.d d).held t.idx) := by
    rw [hti]; exact hR.weak _ _ _ _ _ ((h.2 d).view i t hc hu)
  unfold softOut
  rw [hc]
  simp only [hu, Bool.not_true, Bool.false_eq_true, if_false]
  show (dSoftOut s.k t (s.d d)).held i = _
  rw [dSoftOut_eq s.k t (s.d d) hw, hti]
  exact if_pos rfl

theorem foldl_softOut_held {R : PeerRel} (hR : Kept R) {E : Nat → Hist} (l : List Nat) :
    ∀ {s : SW}, WI R s E → ∀ (d i : Nat) (t : PeerCfg), i ∈ l → s.k.cfg? i = some t →
      s.k.up i = true → ((l.foldl softOut s).d d).held i = wantOfP s.k.g s.k.exp t (s.d d).rib := by
  induction l with
  | nil => intro s _ d i t hi; cases hi
  | cons j rest ih =>
    intro s h d i t hi hc hu
    rw [List.foldl_cons]
    have hk := softOut_k s j
    by_cases hir : i ∈ rest
    · -- a later reset of the same peer finds the same Loc-RIB
      rw [ih (softOut_wi hR j h) d i t hir (by rw [hk]; exact hc) (by rw [hk]; exact hu), hk,
        softOut_d_rib]
    · have hij : i = j := (List.mem_cons.mp hi).resolve_right hir
      subst hij
      rw [foldl_softOut_other rest (softOut s i) d i hir]
      exact softOut_held_self hR h hc hu d

theorem softOutAll_exact {R : PeerRel} (hR : Kept R) {s : SW} {E : Nat → Hist} (h : WI R s E) (d : Nat) :
    View Exact s.k (s.d d).rib ((softOutAll s).d d).held := by
  intro i t hc hu
  obtain ⟨ht, hti⟩ := cfg?_some hc
  exact foldl_softOut_held hR (idxs s) h d i t (List.mem_map.mpr ⟨t, ht, hti⟩) hc hu

def init (g : Global) (opts : Opts) (cfgs : List PeerCfg) (imp exp : Pol) : SW :=
  { k := { g := g, opts := opts, imp := imp, exp := exp, cfgs := cfgs } }

theorem init_wi {R : PeerRel} (g : Global) (opts : Opts) (cfgs : List PeerCfg) (imp exp : Pol)
    (hc : CfgWF (init g opts cfgs imp exp).k) : WI R (init g opts cfgs imp exp) (fun _ => []) :=
  ⟨hc, fun _ => ⟨⟨fun _ h => absurd h List.not_mem_nil, fun _ h => absurd h List.not_mem_nil⟩,
    fun _ _ _ hu => absurd hu Bool.false_ne_true, tracks_nil _⟩⟩

/-- `s2` is a counterpart of `s` whose policies never changed -/
def Fresh (s s2 : SW) : Prop :=
  ∃ E E2, WI Weak s E ∧ WI Exact s2 E2 ∧ (∀ d p, p ∈ E2 d → p.2 = kf s.k) ∧ SameCore s s2 ∧
    s2.k.exp = s.k.exp

/-- **soft reset in + out of all peers against a second speaker**: after the reset every Loc-RIB
    of `s` and what every established peer holds are those of its counterpart `s2` -/
theorem softBothAll_eq_fresh {s s2 : SW} (hf : Fresh s s2)
    {o : Opts} (ho : s.k.opts = o) (halw : o.alwaysCompareMed = true)
    (hties : ∀ d, (s2.d d).rib.Pairwise (fun a b => key o a ≠ key o b)) (d : Nat) :
    ((softBothAll s).d d).rib = (s2.d d).rib ∧
      ∀ i t, s.k.cfg? i = some t → s.k.up i = true →
        ((softBothAll s).d d).held i = (s2.d d).held i := by
  obtain ⟨E, E2, h, h2, hall, core, hexp⟩ := hf
  subst ho
  -- soft reset in of all peers: every destination replays its whole Adj-RIB-In
  have h1 : WI Weak (softInAll s) (fun d => E d ++
      (s.k.cfgs.flatMap (fun x => (s.d d).adj.filter (fromPeer x))).map (fun c => (Ev.ann c, kf s.k))) := by
    have := foldl_softIn_wi kept_weak (idxs s) h
    unfold idxs at this
    rw [filterMap_cfg?_idxs s.k h.1.idx] at this
    exact this
  have hk1 : (softInAll s).k = s.k := foldl_k softIn softIn_k _ s
  have hB := replays_perm h.1 (h.2 d).wf
  have t2 : Tracks s.k.opts (s2.d d).rib (s.d d).adj (E2 d) := by
    rw [core.opts, core.adj]; exact (h2.2 d).tr
  have hrib : ((softInAll s).d d).rib = (s2.d d).rib := by
    have := (h1.2 d).tr.rib
    rw [hist_replays, hk1] at this
    rw [this]
    exact dest_soft_in_equals_fresh s.k.opts halw _ _ _ (E d) (E2 d) (kf s.k) (impFn_pres _ _ _)
      (h.2 d).tr t2 (hall d) _ hB (fun c hc => ((h.2 d).wf.adj c (hB.subset hc)).good) (hties d)
  -- soft reset out of all peers: the Loc-RIBs stay, every established peer holds the export
  refine ⟨(foldl_softOut_rib _ _ d).trans hrib, fun i t hc hu => ?_⟩
  have e1 := softOutAll_exact kept_weak h1 d i t (by rw [hk1]; exact hc) (by rw [hk1]; exact hu)
  have e2 := (h2.2 d).view i t (by rw [← core.cfg? i]; exact hc) (by rw [← core.up]; exact hu)
  show ((softOutAll (softInAll s)).d d).held i = _
  rw [show _ = wantOfP _ _ _ _ from e1, show _ = wantOfP _ _ _ _ from e2, hk1, hrib, core.g, hexp]

theorem softBothAll_k (s : SW) : (softBothAll s).k = s.k := by
  unfold softBothAll softOutAll softInAll
  rw [foldl_k softOut softOut_k, foldl_k softIn softIn_k]

theorem Fresh.softBothAll {s s2 : SW} (hf : Fresh s s2) : Fresh (softBothAll s) s2 := by
  obtain ⟨E, E2, h, h2, hall, core, hexp⟩ := hf
  obtain ⟨E1, h1, _⟩ := step_wi kept_weak .softBothAll trivial (fun _ _ => expFree_weak) h
  have hk := softBothAll_k s
  exact ⟨E1, E2, h1, h2, by rw [hk]; exact hall, (nonroute_core .softBothAll rfl h).trans core,
    by rw [hk]; exact hexp⟩

/-- a second soft reset in + out of all peers is a reset to the same counterpart, so it changes
    neither any Loc-RIB nor what any established peer holds -/
theorem softBothAll_idem {s s2 : SW} (hf : Fresh s s2)
    {o : Opts} (ho : s.k.opts = o) (halw : o.alwaysCompareMed = true)
    (hties : ∀ d, (s2.d d).rib.Pairwise (fun a b => key o a ≠ key o b)) (d : Nat) :
    ((softBothAll (softBothAll s)).d d).rib = ((softBothAll s).d d).rib ∧
      ∀ i t, s.k.cfg? i = some t → s.k.up i = true →
        ((softBothAll (softBothAll s)).d d).held i = ((softBothAll s).d d).held i := by
  have hk := softBothAll_k s
  have A := softBothAll_eq_fresh hf ho halw hties d
  have B := softBothAll_eq_fresh hf.softBothAll (by rw [hk]; exact ho) halw hties d
  exact ⟨B.1.trans A.1.symm, fun i t hc hu =>
    (B.2 i t (by rw [hk]; exact hc) (by rw [hk]; exact hu)).trans (A.2 i t hc hu).symm⟩

/-- two speakers with the same core, the second with the final policies of the first from the
    start: after a history `ops` of the first and its route events in the second, the second is
    a counterpart of the first -/
theorem run_pair {s0 s0' : SW} {E0 E0' : Nat → Hist} (h0 : WI Weak s0 E0) (h0' : WI Exact s0' E0')
    (hall0 : ∀ d p, p ∈ E0' d → p.2 = kf s0'.k) (core0 : SameCore s0 s0') (ops : List SOp)
    (hops : ∀ op ∈ ops, OpOK op) (himp : s0'.k.imp = (run s0 ops).k.imp)
    (hexp : s0'.k.exp = (run s0 ops).k.exp) :
    Fresh (run s0 ops) (run s0' (ops.filter isRoute)) ∧ (run s0 ops).k.opts = s0'.k.opts := by
  obtain ⟨Ea, ha⟩ := run_wi ops _ _ hops h0
  have hr2 : ∀ op ∈ ops.filter isRoute, isRoute op = true := fun op h => (List.mem_filter.mp h).2
  have ho2 : ∀ op ∈ ops.filter isRoute, OpOK op := fun op h => hops op (List.mem_filter.mp h).1
  obtain ⟨E2, h2, all2⟩ := run_fresh_wi kept_exact (ops.filter isRoute) s0' E0' ho2 hr2 h0' hall0
  obtain ⟨kg, ko, _, ke, kc, _⟩ := Ctx.mk.inj (run_route_k (ops.filter isRoute) s0' hr2)
  have core := run_core ops s0 s0' E0 hops h0 core0
  refine ⟨⟨Ea, E2, ha, h2, fun d p hp => (all2 d p hp).trans ?_, core, ke.trans hexp⟩,
    core.opts.trans ko⟩
  unfold kf
  rw [core.g.trans kg, core.cfgs.trans kc, himp]

theorem init_pair (g : Global) (opts : Opts) (cfgs : List PeerCfg) (p0i p0e : Pol) (ops : List SOp)
    (hcfg : CfgWF (init g opts cfgs p0i p0e).k) (hops : ∀ op ∈ ops, OpOK op) :
    let sa := run (init g opts cfgs p0i p0e) ops
    let s2 := run (init g opts cfgs sa.k.imp sa.k.exp) (ops.filter isRoute)
    Fresh sa s2 ∧ sa.k.opts = opts := by
  intro sa s2
  exact run_pair (init_wi g opts cfgs p0i p0e hcfg) (init_wi g opts cfgs sa.k.imp sa.k.exp (hcfg.congr rfl))
    (fun _ _ h => absurd h List.not_mem_nil) ⟨rfl, rfl, rfl, rfl, rfl, fun _ => rfl⟩ ops hops rfl rfl

end SoftResetWorld
