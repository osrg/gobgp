/-! Base-256 arithmetic on `Nat`: what the big-endian fields of `Model/Wire.lean` and
`Model/Framing.lean` have in common. A reader computes the Horner sum `(… (a * 256 + b) * 256 + …)`
of the octets, a writer lists the digits `n / 256 ^ i % 256`. -/
namespace Octets

theorem div256 (n : Nat) {d : Nat} (hd : d < 256) : (n * 256 + d) / 256 = n := by
  rw [Nat.add_comm, Nat.add_mul_div_right _ _ (by decide), Nat.div_eq_of_lt hd, Nat.zero_add]

theorem mod256 (n : Nat) {d : Nat} (hd : d < 256) : (n * 256 + d) % 256 = d := by
  rw [Nat.add_comm, Nat.add_mul_mod_self_right, Nat.mod_eq_of_lt hd]

theorem lt256 {n k d : Nat} (hn : n < k) (hd : d < 256) : n * 256 + d < k * 256 :=
  Nat.lt_of_lt_of_le (Nat.add_lt_add_left hd _) (Nat.succ_mul n 256 ▸ Nat.mul_le_mul_right 256 hn)

-- the writers divide by a power of 256 at once
theorem div65536 (n : Nat) : n / 65536 = n / 256 / 256 := (Nat.div_div_eq_div_mul n 256 256).symm

theorem div16777216 (n : Nat) : n / 16777216 = n / 256 / 256 / 256 := by
  rw [← div65536, Nat.div_div_eq_div_mul]

theorem horner16 {n : Nat} (h : n < 65536) : n / 256 % 256 * 256 + n % 256 = n := by
  rw [Nat.mod_eq_of_lt (Nat.div_lt_of_lt_mul h), Nat.div_add_mod']

theorem horner24 {n : Nat} (h : n < 16777216) :
    (n / 65536 % 256 * 256 + n / 256 % 256) * 256 + n % 256 = n := by
  rw [Nat.mod_eq_of_lt (Nat.div_lt_of_lt_mul h : n / 65536 < 256), div65536, Nat.div_add_mod',
    Nat.div_add_mod']

theorem horner32 {n : Nat} (h : n < 4294967296) :
    ((n / 16777216 % 256 * 256 + n / 65536 % 256) * 256 + n / 256 % 256) * 256 + n % 256 = n := by
  rw [Nat.mod_eq_of_lt (Nat.div_lt_of_lt_mul h : n / 16777216 < 256), div16777216, div65536,
    Nat.div_add_mod', Nat.div_add_mod', Nat.div_add_mod']

theorem digits16 {a b : Nat} (ha : a < 256) (hb : b < 256) :
    [(a * 256 + b) / 256 % 256, (a * 256 + b) % 256] = [a, b] := by
  rw [div256 a hb, mod256 a hb, Nat.mod_eq_of_lt ha]

theorem digits32 {a b c d : Nat} (ha : a < 256) (hb : b < 256) (hc : c < 256) (hd : d < 256) :
    [(((a * 256 + b) * 256 + c) * 256 + d) / 16777216 % 256,
      (((a * 256 + b) * 256 + c) * 256 + d) / 65536 % 256,
      (((a * 256 + b) * 256 + c) * 256 + d) / 256 % 256,
      (((a * 256 + b) * 256 + c) * 256 + d) % 256] = [a, b, c, d] := by
  rw [div16777216, div65536, div256 _ hd, mod256 _ hd, div256 _ hc, mod256 _ hc, div256 _ hb,
    mod256 _ hb, Nat.mod_eq_of_lt ha]

-- `WireExt.decEvpn` reads the 24-bit ESI label with the powers of 256 written out
theorem pow24 (a b c : Nat) : a * 65536 + b * 256 + c = (a * 256 + b) * 256 + c := by
  rw [Nat.add_mul, Nat.mul_assoc]

theorem lt24 {a b c : Nat} (ha : a < 256) (hb : b < 256) (hc : c < 256) :
    a * 65536 + b * 256 + c < 16777216 := by
  rw [pow24]; exact lt256 (lt256 ha hb) hc

end Octets
