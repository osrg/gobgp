import Model.ErrHandling
/-
  Helper lemmas for C06.  Both loops — the attribute loop of the decoder and the loop of
  ValidateUpdateMsg — fold `keep` over a flat, order-free enumeration of the faults present, so
  what they report is a fault of the MAXIMUM class, whatever the early returns.
-/
namespace ErrH

def rk : Option MErr → Nat
  | none => 0
  | some e => e.h.rank

def maxRk : List MErr → Nat
  | [] => 0
  | e :: l => max e.h.rank (maxRk l)

theorem rank_le_four (h : Handling) : h.rank ≤ 4 := by
  cases h <;> decide

theorem maxRk_le_four (l : List MErr) : maxRk l ≤ 4 := by
  induction l with
  | nil => exact Nat.zero_le 4
  | cons e l ih => exact Nat.max_le.mpr ⟨rank_le_four e.h, ih⟩

theorem maxRk_append (a b : List MErr) : maxRk (a ++ b) = max (maxRk a) (maxRk b) := by
  induction a with
  | nil => exact (Nat.zero_max _).symm
  | cons e l ih => simp only [List.cons_append, maxRk, ih, Nat.max_assoc]

theorem maxRk_perm {a b : List MErr} (h : a.Perm b) : maxRk a = maxRk b := by
  induction h with
  | nil => rfl
  | cons x _ ih => simp only [maxRk, ih]
  | swap x y l => exact Nat.max_left_comm _ _ _
  | trans _ _ ih1 ih2 => exact ih1.trans ih2

theorem keep_some (c e : MErr) : keep (some c) e = some (if e.h.rank > c.h.rank then e else c) := by
  simp only [keep, stronger, decide_eq_true_eq]
  split <;> rfl

theorem rk_keep (cur : Option MErr) (e : MErr) : rk (keep cur e) = max (rk cur) e.h.rank := by
  cases cur with
  | none => exact (Nat.zero_max _).symm
  | some c => rw [keep_some]; simp only [rk]; split <;> omega

theorem rk_foldl_keep (l : List MErr) (cur : Option MErr) :
    rk (l.foldl keep cur) = max (rk cur) (maxRk l) := by
  induction l generalizing cur with
  | nil => exact (Nat.max_zero _).symm
  | cons e l ih => simp only [List.foldl_cons, ih, rk_keep, maxRk, Nat.max_assoc]

theorem foldl_keep_eq_none (l : List MErr) : l.foldl keep none = none ↔ l = [] := by
  have some_ne (l : List MErr) : ∀ c, l.foldl keep (some c) ≠ none := by
    induction l with
    | nil => exact fun c => Option.some_ne_none c
    | cons e l ih => intro c; rw [List.foldl_cons, keep_some]; exact ih _
  cases l with
  | nil => exact ⟨fun _ => rfl, fun _ => rfl⟩
  | cons e l => exact ⟨fun h => absurd h (some_ne l e), fun h => nomatch h⟩

def itemFaults : List AttrObs → List MErr
  | [] => []
  | a :: l => (itemErr a).toList ++ itemFaults l

theorem itemFaults_perm {a b : List AttrObs} (h : a.Perm b) : (itemFaults a).Perm (itemFaults b) := by
  induction h with
  | nil => exact List.Perm.refl _
  | cons x _ ih => simp only [itemFaults]; exact List.Perm.append_left _ ih
  | swap x y l =>
    simp only [itemFaults]
    rw [← List.append_assoc, ← List.append_assoc]
    exact List.Perm.append_right _ List.perm_append_comm
  | trans _ _ ih1 ih2 => exact ih1.trans ih2

def stopFaults : Stop → List MErr
  | .done => []
  | .short => [lenErr]
  | .overrun a => (itemErr a).toList ++ [lenErr]

/-- every fault the decoder can see in a message whose length fields and NLRI are sound -/
def decodeFaults (m : AMsg) : List MErr := itemFaults m.items ++ stopFaults m.stop

theorem maxRk_toList (o : Option MErr) : maxRk o.toList = rk o := by
  cases o with
  | none => rfl
  | some e => exact Nat.max_zero _

theorem keepO_eq (cur o : Option MErr) : keepO cur o = o.toList.foldl keep cur := by
  cases o <;> rfl

theorem decodeLoop_eq (items : List AttrObs) (cur : Option MErr) :
    decodeLoop items cur = ((itemFaults items).foldl keep cur, items.filter kept) := by
  induction items generalizing cur with
  | nil => rfl
  | cons a rest ih =>
    simp only [decodeLoop, ih, keepO_eq, itemFaults, List.foldl_append, List.filter_cons]

theorem decode_eq (m : AMsg) (hp : m.pre = none) (hn : m.nlriErr = none) :
    decode m = ⟨(decodeFaults m).foldl keep none, m.items.filter kept, m.wd, m.nlri⟩ := by
  unfold decode decodeFaults
  rw [hp, hn]
  simp only [decodeLoop_eq, List.foldl_append]
  cases m.stop <;> simp only [stopFaults, keepO_eq, List.foldl_append, List.foldl_cons, List.foldl_nil]

theorem decode_fatal (m : AMsg) (h : ¬(m.pre = none ∧ m.nlriErr = none)) :
    ∃ c s, (decode m).err = some (.fatal c s) := by
  unfold decode
  cases hp : m.pre with
  | some p => exact ⟨p.1, p.2, rfl⟩
  | none =>
    cases hn : m.nlriErr with
    | some p => exact ⟨p.1, p.2, rfl⟩
    | none => exact absurd ⟨hp, hn⟩ h

theorem decode_rk (m : AMsg) (hp : m.pre = none) (hn : m.nlriErr = none) :
    rk (decode m).err = maxRk (decodeFaults m) := by
  rw [decode_eq m hp hn, rk_foldl_keep]
  exact Nat.zero_max _

def good (items : List AttrObs) : List AttrObs := items.filter (fun a => a.derr.isNone)

theorem good_derr (items : List AttrObs) (a : AttrObs) (h : a ∈ good items) : a.derr = none :=
  Option.isNone_iff_eq_none.mp (List.mem_filter.mp h).2

theorem attrClass_pos (t : Nat) : 1 ≤ (attrClass t).rank := by
  unfold attrClass
  split <;> decide

theorem itemErr_none {a : AttrObs} (h : a.derr = none) : itemErr a = none := by
  unfold itemErr
  rw [h]

theorem itemErr_some {a : AttrObs} {p : Nat × Nat} (h : a.derr = some p) :
    ∃ e, itemErr a = some e ∧ 1 ≤ e.h.rank := by
  unfold itemErr
  rw [h]
  refine ⟨_, rfl, ?_⟩
  dsimp only
  split
  · decide
  · exact attrClass_pos a.typ

theorem derr_of_rk_itemErr (a : AttrObs) (h : rk (itemErr a) = 0) : a.derr = none := by
  cases hd : a.derr with
  | none => rfl
  | some p =>
    obtain ⟨e, he, h1⟩ := itemErr_some hd
    rw [he] at h
    exact absurd h (Nat.ne_of_gt h1)

theorem kept_eq (a : AttrObs) (h : rk (itemErr a) ≤ 1) : kept a = a.derr.isNone := by
  unfold kept
  cases hd : a.derr with
  | none => rw [itemErr_none hd]; rfl
  | some p =>
    obtain ⟨e, he, h1⟩ := itemErr_some hd
    rw [he] at h ⊢
    have h1 : e.h.rank = 1 := Nat.le_antisymm h h1
    show (e.h != .discard) = false
    revert h1
    cases e.h <;> decide

theorem itemFaults_le (items : List AttrObs) (a : AttrObs) (ha : a ∈ items) :
    rk (itemErr a) ≤ maxRk (itemFaults items) := by
  induction items with
  | nil => nomatch ha
  | cons b rest ih =>
    simp only [itemFaults, maxRk_append, maxRk_toList]
    cases List.mem_cons.mp ha with
    | inl e => subst e; exact Nat.le_max_left _ _
    | inr h => exact Nat.le_trans (ih h) (Nat.le_max_right _ _)

theorem kept_eq_good (items : List AttrObs) (h : maxRk (itemFaults items) ≤ 1) :
    items.filter kept = good items :=
  List.filter_congr fun a ha => kept_eq a (Nat.le_trans (itemFaults_le items a ha) h)

theorem decode_good (m : AMsg) (hp : m.pre = none) (hn : m.nlriErr = none)
    (h : maxRk (decodeFaults m) ≤ 1) :
    decode m = ⟨(decodeFaults m).foldl keep none, good m.items, m.wd, m.nlri⟩ := by
  rw [decode_eq m hp hn, kept_eq_good]
  unfold decodeFaults at h
  rw [maxRk_append] at h
  exact Nat.le_trans (Nat.le_max_left _ _) h

theorem good_eq_self (items : List AttrObs) (h : itemFaults items = []) : good items = items :=
  List.filter_eq_self.mpr fun a ha => by
    have h0 : rk (itemErr a) ≤ maxRk [] := h ▸ itemFaults_le items a ha
    rw [derr_of_rk_itemErr a (Nat.le_zero.mp h0)]
    rfl

def hasT (l : List AttrObs) (t : Nat) : Bool := l.any (fun a => a.typ == t)

theorem hasT_cons (a : AttrObs) (l : List AttrObs) (t : Nat) :
    hasT (a :: l) t = (a.typ == t || hasT l t) := rfl

/-- flat list of the semantic faults of an attribute list (`seen` = types already met) -/
def semFaults (c : Cfg) : List AttrObs → List Nat → List MErr
  | [], _ => []
  | a :: rest, seen =>
    if seen.contains a.typ then
      (if a.typ == 14 || a.typ == 15 then MErr.fatal 3 1 else dupErr) :: semFaults c rest seen
    else (validateAttr c a).toList ++ semFaults c rest (a.typ :: seen)

def firsts : List AttrObs → List Nat → List AttrObs
  | [], _ => []
  | a :: rest, seen =>
    if seen.contains a.typ then firsts rest seen else a :: firsts rest (a.typ :: seen)

def rkS : Sum MErr (Option MErr × List AttrObs × List Nat) → Nat
  | .inl e => e.h.rank
  | .inr (s, _, _) => rk s

theorem rkS_map (a : AttrObs) (r : Sum MErr (Option MErr × List AttrObs × List Nat)) :
    rkS (match r with
      | .inl e => .inl e
      | .inr (s, l, sn) => .inr (s, a :: l, sn)) = rkS r := by
  cases r with
  | inl e => rfl
  | inr p => rfl

/-- Each branch of ValidateAttribute returns nothing, a `NewMessageError`, or an error of the class
    of ORIGIN, AS_PATH or NEXT_HOP.  The test is pushed through the `if`s to the leaves: splitting
    the branches one by one is far slower to check. -/
theorem validateAttr_rank (c : Cfg) (a : AttrObs) (e : MErr) (h : validateAttr c a = some e) :
    2 ≤ e.h.rank := by
  have key : (validateAttr c a).all (fun e => decide (2 ≤ e.h.rank)) = true := by
    unfold validateAttr
    cases a.segs <;>
      simp only [apply_ite (Option.all _), Option.all_none, Option.all_some, MErr.fatal, attrClass,
        Handling.rank, Nat.reduceLeDiff, decide_true, ite_self, Nat.le_refl]
  rw [h] at key
  exact of_decide_eq_true key

theorem validateLoop_spec (c : Cfg) (attrs : List AttrObs) (seen : List Nat) (cur : Option MErr) :
    (∃ e, e.h.rank = 4 ∧ 4 ≤ maxRk (semFaults c attrs seen) ∧
      validateLoop c attrs seen cur = .inl e) ∨
    (∃ sn, (∀ t, sn.contains t = (seen.contains t || hasT attrs t)) ∧
      validateLoop c attrs seen cur =
        .inr ((semFaults c attrs seen).foldl keep cur, firsts attrs seen, sn)) := by
  induction attrs generalizing seen cur with
  | nil => exact .inr ⟨seen, fun t => (Bool.or_false _).symm, rfl⟩
  | cons a rest ih =>
    unfold validateLoop semFaults firsts
    by_cases hs : seen.contains a.typ = true
    · simp only [hs, Bool.not_true, Bool.false_eq_true, ↓reduceIte]
      by_cases hm : (a.typ == 14 || a.typ == 15) = true
      · simp only [hm, ↓reduceIte]
        exact .inl ⟨_, rfl, Nat.le_max_left _ _, rfl⟩
      · simp only [hm, Bool.false_eq_true, ↓reduceIte, List.foldl_cons, maxRk]
        rcases ih seen (keep cur dupErr) with ⟨e, he, h4, hv⟩ | ⟨sn, hsn, hv⟩
        · exact .inl ⟨e, he, Nat.le_trans h4 (Nat.le_max_right _ _), hv⟩
        · refine .inr ⟨sn, fun t => ?_, hv⟩
          rw [hsn t, hasT_cons]
          cases h : a.typ == t
          · rfl
          · rw [← eq_of_beq h, hs]; rfl
    · have seen_cons (t : Nat) :
          ((a.typ :: seen).contains t || hasT rest t) = (seen.contains t || hasT (a :: rest) t) := by
        rw [hasT_cons, List.contains_cons, BEq.comm (a := t)]
        ac_rfl
      simp only [hs, Bool.not_false, Bool.false_eq_true, ↓reduceIte]
      cases validateAttr c a with
      | none =>
        simp only [Option.toList, List.nil_append]
        rcases ih (a.typ :: seen) cur with ⟨e, he, h4, hv⟩ | ⟨sn, hsn, hv⟩
        · exact .inl ⟨e, he, h4, by rw [hv]⟩
        · exact .inr ⟨sn, fun t => (hsn t).trans (seen_cons t), by rw [hv]⟩
      | some e =>
        simp only [Option.toList, List.cons_append, List.nil_append, List.foldl_cons, maxRk]
        by_cases hr : (e.h == .reset) = true
        · simp only [hr, ↓reduceIte]
          exact .inl ⟨e, by rw [eq_of_beq hr]; rfl, by rw [eq_of_beq hr]; exact Nat.le_max_left _ _, rfl⟩
        · simp only [hr, Bool.false_eq_true, ↓reduceIte]
          rcases ih (a.typ :: seen) (keep cur e) with ⟨e', he, h4, hv⟩ | ⟨sn, hsn, hv⟩
          · exact .inl ⟨e', he, Nat.le_trans h4 (Nat.le_max_right _ _), by rw [hv]⟩
          · exact .inr ⟨sn, fun t => (hsn t).trans (seen_cons t), by rw [hv]⟩

theorem firsts_mem (attrs : List AttrObs) (seen : List Nat) (a : AttrObs) (h : a ∈ firsts attrs seen) :
    a ∈ attrs ∧ seen.contains a.typ = false := by
  induction attrs generalizing seen with
  | nil => nomatch h
  | cons b rest ih =>
    unfold firsts at h
    split at h
    · exact (ih seen h).imp_left (List.mem_cons_of_mem b)
    · rcases List.mem_cons.mp h with rfl | h
      · exact ⟨List.mem_cons_self, Bool.eq_false_iff.mpr ‹_›⟩
      · obtain ⟨h1, h2⟩ := ih _ h
        rw [List.contains_cons, Bool.or_eq_false_iff] at h2
        exact ⟨List.mem_cons_of_mem b h1, h2.2⟩

theorem firsts_nodup (attrs : List AttrObs) (seen : List Nat) :
    ((firsts attrs seen).map (·.typ)).Nodup := by
  induction attrs generalizing seen with
  | nil => exact List.nodup_nil
  | cons b rest ih =>
    unfold firsts
    split
    · exact ih seen
    · refine List.nodup_cons.mpr ⟨fun hm => ?_, ih _⟩
      obtain ⟨x, hx, hxt⟩ := List.mem_map.mp hm
      have := (firsts_mem rest (b.typ :: seen) x hx).2
      rw [hxt, List.contains_cons, BEq.rfl] at this
      nomatch this

theorem hasT_firsts (attrs : List AttrObs) (seen : List Nat) (t : Nat) :
    hasT (firsts attrs seen) t = (hasT attrs t && !seen.contains t) := by
  induction attrs generalizing seen with
  | nil => rfl
  | cons b rest ih =>
    unfold firsts
    by_cases hs : seen.contains b.typ = true
    · rw [if_pos hs, ih, hasT_cons]
      cases h : b.typ == t
      · rfl
      · rw [← eq_of_beq h, hs, Bool.true_or, Bool.not_true, Bool.and_false, Bool.and_false]
    · rw [if_neg hs, hasT_cons, hasT_cons, ih, List.contains_cons, BEq.comm (a := t)]
      cases h : b.typ == t
      · rfl
      · rw [← eq_of_beq h, Bool.eq_false_iff.mpr hs]; rfl

theorem semFaults_of_firsts (c : Cfg) (attrs : List AttrObs) (seen : List Nat) (a : AttrObs)
    (h : a ∈ firsts attrs seen) : rk (validateAttr c a) ≤ maxRk (semFaults c attrs seen) := by
  induction attrs generalizing seen with
  | nil => nomatch h
  | cons b rest ih =>
    unfold firsts at h
    unfold semFaults
    split at h
    · rw [if_pos ‹_›]; exact Nat.le_trans (ih seen h) (Nat.le_max_right _ _)
    · rw [if_neg ‹_›, maxRk_append, maxRk_toList]
      rcases List.mem_cons.mp h with rfl | h
      · exact Nat.le_max_left _ _
      · exact Nat.le_trans (ih _ h) (Nat.le_max_right _ _)

theorem firsts_eq_self (c : Cfg) (attrs : List AttrObs) (seen : List Nat)
    (h : semFaults c attrs seen = []) : firsts attrs seen = attrs := by
  induction attrs generalizing seen with
  | nil => rfl
  | cons b rest ih =>
    unfold semFaults at h
    unfold firsts
    split at h
    · nomatch h
    · rw [if_neg ‹_›, ih _ (List.append_eq_nil_iff.mp h).2]

end ErrH
