import Model.Pack
/-! Chunking by count (`chunkN`) and by byte budget (`splitMP`), bucketing (`groupBy`): non-empty pieces
    within the budget whose concatenation is the input (for `groupBy`: a permutation of it). -/
namespace Pack

theorem mem_of_mem_flatten_eq {α : Type} {L : List (List α)} {l c : List α} (h : L.flatten = l)
    (hc : c ∈ L) : ∀ x ∈ c, x ∈ l := by
  intro x hx
  rw [← h]
  exact List.mem_flatten.mpr ⟨c, hc, hx⟩

theorem sumLen_nil (o : Opts) (f : Nat) : sumLen o f [] = 0 := rfl

theorem sumLen_cons (o : Opts) (f : Nat) (n : Nlri) (ns : List Nlri) :
    sumLen o f (n :: ns) = entryLen o f n + sumLen o f ns := rfl

theorem chunkN_flatten {α : Type} (n : Nat) (hn : 1 ≤ n) :
    ∀ (fuel : Nat) (l : List α), l.length ≤ fuel → (chunkN n fuel l).flatten = l := by
  intro fuel
  induction fuel with
  | zero =>
    intro l h
    cases l with
    | nil => rfl
    | cons x xs => cases h
  | succ k ih =>
    intro l h
    cases l with
    | nil => rfl
    | cons x xs =>
      rw [chunkN, List.flatten_cons, ih, List.take_append_drop]
      rw [List.length_drop]
      exact Nat.sub_le_of_le_add (Nat.le_trans h (Nat.add_le_add_left hn k))

theorem chunkN_mem {α : Type} (n : Nat) (hn : 1 ≤ n) :
    ∀ (fuel : Nat) (l c : List α), c ∈ chunkN n fuel l → c.length ≤ n ∧ c ≠ [] := by
  intro fuel
  induction fuel with
  | zero => intro l c h; cases h
  | succ k ih =>
    intro l c h
    cases l with
    | nil => cases h
    | cons x xs =>
      rw [chunkN, List.mem_cons] at h
      rcases h with rfl | h
      · obtain ⟨m, rfl⟩ := Nat.exists_eq_add_one_of_ne_zero (Nat.ne_of_gt hn)
        exact ⟨List.length_take_le _ _, List.cons_ne_nil _ _⟩
      · exact ih _ c h

theorem takeB_append (o : Opts) (f budget : Nat) :
    ∀ (l : List Nlri) (used : Nat) (first : Bool),
      (takeB o f budget used first l).1 ++ (takeB o f budget used first l).2 = l := by
  intro l
  induction l with
  | nil => intro used first; rfl
  | cons p ps ih =>
    intro used first
    simp only [takeB]
    split
    · rfl
    · split
      · rfl
      · rw [List.cons_append, ih]

theorem takeB_ne_nil (o : Opts) (f budget used : Nat) (p : Nlri) (ps : List Nlri) :
    (takeB o f budget used true (p :: ps)).1 ≠ [] := by
  simp only [takeB, Bool.not_true, Bool.false_and, Bool.false_eq_true, if_false]
  split
  · exact List.cons_ne_nil _ _
  · exact List.cons_ne_nil _ _

theorem takeB_budget_next (o : Opts) (f budget : Nat) :
    ∀ (l : List Nlri) (used : Nat), used ≤ budget →
      used + sumLen o f (takeB o f budget used false l).1 ≤ budget := by
  intro l
  induction l with
  | nil => intro used h; exact h
  | cons p ps ih =>
    intro used h
    have hr := ih (used + entryLen o f p)
    simp only [takeB, Bool.not_false, Bool.true_and, decide_eq_true_eq]
    split
    · exact h
    · next h1 =>
      split
      · rw [sumLen_cons, sumLen_nil]
        exact Nat.not_lt.mp h1
      · next h2 =>
        rw [sumLen_cons, ← Nat.add_assoc]
        exact hr (Nat.le_of_lt (Nat.not_le.mp h2))

theorem takeB_budget_first (o : Opts) (f budget used : Nat) (p : Nlri) (ps : List Nlri) :
    (takeB o f budget used true (p :: ps)).1.length = 1 ∨
      used + sumLen o f (takeB o f budget used true (p :: ps)).1 ≤ budget := by
  simp only [takeB, Bool.not_true, Bool.false_and, Bool.false_eq_true, if_false]
  split
  · exact Or.inl rfl
  · next h =>
    rw [sumLen_cons, ← Nat.add_assoc]
    exact Or.inr (takeB_budget_next o f budget ps _ (Nat.le_of_lt (Nat.not_le.mp h)))

theorem chunkB_flatten (o : Opts) (f budget : Nat) :
    ∀ (fuel : Nat) (l : List Nlri), l.length ≤ fuel → (chunkB o f budget fuel l).flatten = l := by
  intro fuel
  induction fuel with
  | zero =>
    intro l h
    cases l with
    | nil => rfl
    | cons x xs => cases h
  | succ k ih =>
    intro l h
    cases l with
    | nil => rfl
    | cons p ps =>
      have ha := takeB_append o f budget (p :: ps) 0 true
      rw [chunkB, List.flatten_cons, ih, ha]
      -- something was taken, so less than `k + 1` entries are left
      have hl := congrArg List.length ha
      have hpos := List.length_pos_iff.mpr (takeB_ne_nil o f budget 0 p ps)
      rw [List.length_append] at hl
      exact Nat.le_of_lt_succ (Nat.lt_of_lt_of_le (Nat.lt_add_of_pos_left hpos) (hl ▸ h))

theorem chunkB_mem (o : Opts) (f budget : Nat) :
    ∀ (fuel : Nat) (l c : List Nlri), c ∈ chunkB o f budget fuel l →
      c ≠ [] ∧ (c.length = 1 ∨ sumLen o f c ≤ budget) := by
  intro fuel
  induction fuel with
  | zero => intro l c h; cases h
  | succ k ih =>
    intro l c h
    cases l with
    | nil => cases h
    | cons p ps =>
      rw [chunkB, List.mem_cons] at h
      rcases h with rfl | h
      · exact ⟨takeB_ne_nil o f budget 0 p ps,
          (takeB_budget_first o f budget 0 p ps).imp_right (fun h => by rwa [Nat.zero_add] at h)⟩
      · exact ih _ c h

theorem splitMP_flatten (o : Opts) (f base : Nat) (ns : List Nlri) :
    (splitMP o f base ns).flatten = ns := by
  unfold splitMP
  split
  · exact List.flatMap_singleton' ns
  · exact chunkB_flatten o f _ _ ns (Nat.le_refl _)

theorem splitMP_mem (o : Opts) (f base : Nat) (ns c : List Nlri) (h : c ∈ splitMP o f base ns) :
    c ≠ [] ∧ (c.length = 1 ∨ base + sumLen o f c ≤ limit o) := by
  unfold splitMP at h
  split at h
  · obtain ⟨n, _, rfl⟩ := List.mem_map.mp h
    exact ⟨List.cons_ne_nil _ _, Or.inl rfl⟩
  · next hb =>
    obtain ⟨h1, h2⟩ := chunkB_mem o f _ _ ns c h
    exact ⟨h1, h2.imp_right (Nat.add_le_of_le_sub' (Nat.le_of_lt (Nat.not_le.mp hb)))⟩

section
variable {α κ : Type} [DecidableEq κ] (key : α → κ)

theorem groupBy_key : ∀ (fuel : Nat) (l : List α) (g : κ × List α), g ∈ groupBy key fuel l →
    g.2 ≠ [] ∧ (∀ x ∈ g.2, key x = g.1 ∧ x ∈ l) := by
  intro fuel
  induction fuel with
  | zero => intro l g h; cases h
  | succ k ih =>
    intro l g h
    cases l with
    | nil => cases h
    | cons x xs =>
      rw [groupBy, List.mem_cons] at h
      rcases h with rfl | h
      · refine ⟨List.cons_ne_nil _ _, fun y hy => ?_⟩
        rcases List.mem_cons.mp hy with rfl | hy
        · exact ⟨rfl, List.mem_cons_self⟩
        · obtain ⟨hy, hk⟩ := List.mem_filter.mp hy
          exact ⟨of_decide_eq_true hk, List.mem_cons_of_mem _ hy⟩
      · obtain ⟨h1, h2⟩ := ih _ g h
        exact ⟨h1, fun y hy => ⟨(h2 y hy).1, List.mem_cons_of_mem _ (List.mem_filter.mp (h2 y hy).2).1⟩⟩

theorem groupBy_flatMap_perm {β : Type} (H : κ × List α → List β) (G : α → List β) :
    ∀ (fuel : Nat) (l : List α), l.length ≤ fuel →
      (∀ g ∈ groupBy key fuel l, (H g).Perm (g.2.flatMap G)) →
      ((groupBy key fuel l).flatMap H).Perm (l.flatMap G) := by
  intro fuel
  induction fuel with
  | zero =>
    intro l h _
    cases l with
    | nil => exact .nil
    | cons x xs => cases h
  | succ k ih =>
    intro l h hH
    cases l with
    | nil => exact .nil
    | cons x xs =>
      rw [groupBy] at hH ⊢
      have hfl : (xs.filter (fun y => !decide (key y = key x))).length ≤ k :=
        Nat.le_trans (List.length_filter_le _ xs) (Nat.le_of_succ_le_succ h)
      have h1 := hH _ List.mem_cons_self
      have h2 := ih _ hfl (fun g hg => hH g (List.mem_cons_of_mem _ hg))
      rw [List.flatMap_cons]
      refine (h1.append h2).trans ?_
      -- the members of the bucket of `x` after `x`, and the rest, are `xs` split by a filter
      rw [List.flatMap_cons, List.flatMap_cons, List.append_assoc, ← List.flatMap_append]
      exact ((List.filter_append_perm (fun y => decide (key y = key x)) xs).flatMap_right G).append_left _

theorem groupBy_perm (l : List α) : ((groupBy key l.length l).flatMap (·.2)).Perm l := by
  have := groupBy_flatMap_perm key (·.2) (fun x => [x]) _ l (Nat.le_refl _)
    (fun g _ => by rw [List.flatMap_singleton'])
  rwa [List.flatMap_singleton'] at this

end

end Pack
