/-
  What UpdatePathAttrs (Model/Export.lean) does per peer type, read attribute by attribute.
-/
import Lemmas.ExportMut
namespace Export

/-- the attribute types UpdatePathAttrs and RemoveLocalPref write or delete after the first loop -/
def footprint : List Nat := [tAS_PATH, tNEXT_HOP, tMED, tLOCAL_PREF, tORIGINATOR_ID, tCLUSTER_LIST, tMP_REACH]

theorem known_of_footprint {t : Nat} (h : t = 2 ∨ t = 3 ∨ t = 4 ∨ t = 5 ∨ t = 9 ∨ t = 10 ∨ t = 14) :
    known t = true := by
  rcases h with h | h | h | h | h | h | h <;> subst h <;> decide

theorem updatePathAttrs_eq (g : Global) (peer : Peer) (p : Path) (hrs : peer.rsClient = false) :
    updatePathAttrs g peer p =
      if peer.peerType == 1 then updateExternal g peer (stripped peer p) (getNexthop (stripped peer p))
      else if peer.peerType == 0 then updateInternal g peer (stripped peer p) (getNexthop (stripped peer p))
      else stripped peer p := by
  rw [updatePathAttrs, hrs]; rfl

/-- `if p.getPathAttr(a.typ) == nil { p.setPathAttr(a) }` -/
def fill (p : Path) (a : Attr) : Path :=
  match getAttr p a.typ with
  | none => setAttr p a
  | some _ => p

theorem touches_fill {fp : List Nat} (p : Path) {a : Attr} (h : a.typ ∈ fp) : Touches fp p (fill p a) := by
  unfold fill; split
  · exact touches_setAttr p h
  · exact Touches.refl fp p

theorem getAttr_fill (p : Path) (a : Attr) (hl : a.typ ∉ p.leaf.dels) :
    getAttr (fill p a) a.typ = some ((getAttr p a.typ).getD a) := by
  unfold fill
  cases hg : getAttr p a.typ with
  | some _ => exact hg
  | none => exact getAttr_setAttr_self p rfl hl

/-- the next-hop step of the PEER_TYPE_EXTERNAL arm (`updateExternal`) -/
def ext1 (peer : Peer) (q : Path) (nh : Addr) : Path :=
  if !isLocal q || nh.isUnspecified then setNexthop q peer.localAddr else q

/-- its three AS_PATH steps -/
def ebgpAsPath (g : Global) (peer : Peer) (p : Path) : Path :=
  let p := prependAsn (removePrivateAS p peer.localAS peer.removePrivate) peer.localAS 1
    (g.members.contains peer.as)
  if !g.members.contains peer.as then removeConfedAs p else p

/-- its MED step -/
def medStep (p : Path) : Path :=
  match getAttr p tMED with
  | some _ => if !isLocal p then delAttr p tMED else p
  | none => p

theorem updateExternal_eq (g : Global) (peer : Peer) (q : Path) (nh : Addr) :
    updateExternal g peer q nh = medStep (ebgpAsPath g peer (ext1 peer q nh)) := rfl

theorem touches_ext1 {fp : List Nat} (peer : Peer) (q : Path) (nh : Addr)
    (h3 : tNEXT_HOP ∈ fp) (h14 : tMP_REACH ∈ fp) : Touches fp q (ext1 peer q nh) := by
  unfold ext1; split
  · exact touches_setNexthop q _ h3 h14
  · exact Touches.refl fp q

theorem touches_ebgpAsPath {fp : List Nat} (g : Global) (peer : Peer) (p : Path) (h : tAS_PATH ∈ fp) :
    Touches fp p (ebgpAsPath g peer p) := by
  have h3 := (touches_removePrivateAS p peer.localAS peer.removePrivate h).trans
    (touches_prependAsn _ peer.localAS 1 (g.members.contains peer.as) h)
  unfold ebgpAsPath; split
  · exact h3.trans (touches_removeConfedAs _ h)
  · exact h3

/-- the AS_PATH value the eBGP arm computes from the stored one -/
def ebgpSegs (g : Global) (peer : Peer) (stored : Option (List Seg)) : List Seg :=
  let confed := g.members.contains peer.as
  let s := prependSegs peer.localAS 1 confed
    ((stored.map (rmPrivOpt peer.localAS peer.removePrivate)).getD [])
  if confed then s else dropConfed s

theorem getAsPath_ebgpAsPath (g : Global) (peer : Peer) (p : Path) (h : tAS_PATH ∉ p.leaf.dels) :
    getAsPath (ebgpAsPath g peer p) = some (ebgpSegs g peer (getAsPath p)) := by
  have h2 : tAS_PATH ∉ (removePrivateAS p peer.localAS peer.removePrivate).leaf.dels := by
    rw [dels_removePrivateAS]; exact h
  have g3 := getAsPath_prependAsn _ peer.localAS 1 (g.members.contains peer.as) h2
  rw [getAsPath_removePrivateAS p _ _ h] at g3
  unfold ebgpAsPath ebgpSegs
  generalize g.members.contains peer.as = confed at g3 ⊢
  cases confed
  · exact (getAsPath_removeConfedAs _ (by rw [dels_prependAsn]; exact h2)).trans
      (congrArg (Option.map dropConfed) g3)
  · exact g3

theorem touches_medStep {fp : List Nat} (p : Path) (h : tMED ∈ fp) : Touches fp p (medStep p) := by
  unfold medStep; split
  · split
    · exact touches_delAttr p h
    · exact Touches.refl fp p
  · exact Touches.refl fp p

theorem getAttr_medStep (p : Path) : getAttr (medStep p) tMED = if isLocal p then getAttr p tMED else none := by
  unfold medStep
  split
  · cases isLocal p
    · exact (getAttr_delAttr p tMED tMED).trans (if_pos rfl)
    · rfl
  · rename_i hm
    rw [hm, ite_self]

def ebgpFp : List Nat := [tAS_PATH, tNEXT_HOP, tMED, tMP_REACH]

theorem touches_updateExternal (g : Global) (peer : Peer) (q : Path) (nh : Addr) :
    Touches ebgpFp q (updateExternal g peer q nh) :=
  ((touches_ext1 peer q nh (by decide) (by decide)).trans
    (touches_ebgpAsPath g peer _ (by decide))).trans (touches_medStep _ (by decide))

theorem getAsPath_updateExternal (g : Global) (peer : Peer) (q : Path) (nh : Addr) (h : tAS_PATH ∉ q.leaf.dels) :
    getAsPath (updateExternal g peer q nh) = some (ebgpSegs g peer (getAsPath q)) := by
  have e1 : Touches [tNEXT_HOP, tMP_REACH] q (ext1 peer q nh) := touches_ext1 peer q nh (by decide) (by decide)
  rw [updateExternal_eq, getAsPath_congr ((touches_medStep (fp := [tMED]) _ (by decide)).frame _ (by decide)),
    getAsPath_ebgpAsPath g peer _ (e1.live _ (by decide) h), getAsPath_congr (e1.frame _ (by decide))]

theorem getAttr_updateExternal_med (g : Global) (peer : Peer) (q : Path) (nh : Addr) :
    getAttr (updateExternal g peer q nh) tMED = if isLocal q then getAttr q tMED else none := by
  have e : Touches [tAS_PATH, tNEXT_HOP, tMP_REACH] q (ebgpAsPath g peer (ext1 peer q nh)) :=
    (touches_ext1 peer q nh (by decide) (by decide)).trans (touches_ebgpAsPath g peer _ (by decide))
  rw [updateExternal_eq, getAttr_medStep, isLocal_congr e.same, e.frame _ (by decide)]

theorem getAttr_updateExternal_nexthop (g : Global) (peer : Peer) (q : Path) (nh : Addr) {t : Nat}
    (ht : t = tNEXT_HOP ∨ t = tMP_REACH) :
    getAttr (updateExternal g peer q nh) t = getAttr (ext1 peer q nh) t := by
  have e : Touches [tAS_PATH, tMED] (ext1 peer q nh) (updateExternal g peer q nh) :=
    (touches_ebgpAsPath g peer _ (by decide)).trans (touches_medStep _ (by decide))
  exact e.frame t (by rcases ht with e | e <;> rw [e] <;> decide)

/-- the next-hop step of the PEER_TYPE_INTERNAL arm (`updateInternal`) -/
def int1 (peer : Peer) (q : Path) (nh : Addr) : Path :=
  if isLocal q && nh.isUnspecified then setNexthop q peer.localAddr else q

def asPathDefault (p : Path) : Path :=
  match getAttr p tAS_PATH with
  | none => prependAsn p 0 0 false
  | some _ => p

/-- the part before the `if info.RouteReflectorClient` block -/
def ibgpHead (peer : Peer) (q : Path) (nh : Addr) : Path :=
  fill (asPathDefault (int1 peer q nh)) (mkLocalPref 100)

/-- the path and the ORIGINATOR_ID attribute (if any) the block goes on with -/
def origPair (g : Global) (peer : Peer) (p : Path) : Path × Option Attr :=
  if p.family == RF_RTC_UC then
    let p := setNexthop p peer.localAddr
    (p, if isLocal p then mkOriginator? g.routerId else mkOriginator? p.src.localId)
  else match getAttr p tORIGINATOR_ID with
    | none => (p, if isLocal p then mkOriginator? g.routerId else mkOriginator? p.src.id)
    | some _ => (p, none)

def origStep (g : Global) (peer : Peer) (p : Path) : Path :=
  setOpt (origPair g peer p).1 (origPair g peer p).2

def clusterStep (peer : Peer) (p : Path) : Path :=
  match getAttr p tCLUSTER_LIST with
  | some ⟨_, _, .addrs l⟩ => setAttr p (mkClusterList (peer.clusterId :: l))
  | _ => setAttr p (mkClusterList [peer.clusterId])

/- The `let`s of the model are taken out as local definitions first: compared as one term, the many
   copies of the third one are each unfolded again, which is slow to check. -/
theorem updateInternal_eq (g : Global) (peer : Peer) (q : Path) (nh : Addr) :
    updateInternal g peer q nh =
      if peer.rrClient then clusterStep peer (origStep g peer (ibgpHead peer q nh))
      else ibgpHead peer q nh := by
  unfold updateInternal
  extract_lets p1 p2 p3
  have e : ibgpHead peer q nh = p3 := rfl
  rw [e]
  clear e
  clear_value p3
  rfl

theorem asPathDefault_eq (p : Path) : asPathDefault p = fill p (mkAsPath []) := by
  unfold asPathDefault fill
  rw [show (mkAsPath []).typ = tAS_PATH from rfl]
  cases h : getAttr p tAS_PATH with
  | some _ => rfl
  | none =>
    have : getAsPath p = none := by rw [getAsPath, h]
    show prependAsn p 0 0 false = setAttr p (mkAsPath [])
    rw [prependAsn_eq, this]; rfl

theorem touches_int1 {fp : List Nat} (peer : Peer) (q : Path) (nh : Addr)
    (h3 : tNEXT_HOP ∈ fp) (h14 : tMP_REACH ∈ fp) : Touches fp q (int1 peer q nh) := by
  unfold int1; split
  · exact touches_setNexthop q _ h3 h14
  · exact Touches.refl fp q

theorem touches_ibgpHead {fp : List Nat} (peer : Peer) (q : Path) (nh : Addr) (h2 : tAS_PATH ∈ fp)
    (h3 : tNEXT_HOP ∈ fp) (h5 : tLOCAL_PREF ∈ fp) (h14 : tMP_REACH ∈ fp) : Touches fp q (ibgpHead peer q nh) := by
  rw [ibgpHead, asPathDefault_eq]
  exact ((touches_int1 peer q nh h3 h14).trans (touches_fill _ h2)).trans (touches_fill _ h5)

theorem getAttr_ibgpHead_asPath (peer : Peer) (q : Path) (nh : Addr) (h : tAS_PATH ∉ q.leaf.dels) :
    getAttr (ibgpHead peer q nh) tAS_PATH = some ((getAttr q tAS_PATH).getD (mkAsPath [])) := by
  have e1 : Touches [tNEXT_HOP, tMP_REACH] q (int1 peer q nh) := touches_int1 peer q nh (by decide) (by decide)
  have e5 : Touches [tLOCAL_PREF] _ (ibgpHead peer q nh) :=
    touches_fill (asPathDefault (int1 peer q nh)) (by decide)
  rw [e5.frame _ (by decide), asPathDefault_eq]
  exact (getAttr_fill _ (mkAsPath []) (e1.live _ (by decide) h)).trans
    (by rw [show (mkAsPath []).typ = tAS_PATH from rfl, e1.frame _ (by decide)])

theorem getAttr_ibgpHead_localPref (peer : Peer) (q : Path) (nh : Addr) (h : tLOCAL_PREF ∉ q.leaf.dels) :
    getAttr (ibgpHead peer q nh) tLOCAL_PREF = some ((getAttr q tLOCAL_PREF).getD (mkLocalPref 100)) := by
  have e2 : Touches [tAS_PATH, tNEXT_HOP, tMP_REACH] q (asPathDefault (int1 peer q nh)) := by
    rw [asPathDefault_eq]
    exact (touches_int1 peer q nh (by decide) (by decide)).trans (touches_fill _ (by decide))
  exact (getAttr_fill _ (mkLocalPref 100) (e2.live _ (by decide) h)).trans
    (by rw [show (mkLocalPref 100).typ = tLOCAL_PREF from rfl, e2.frame _ (by decide)])

theorem getAttr_ibgpHead_other (peer : Peer) (q : Path) (nh : Addr) {t : Nat}
    (h2 : t ≠ tAS_PATH) (h5 : t ≠ tLOCAL_PREF) :
    getAttr (ibgpHead peer q nh) t = getAttr (int1 peer q nh) t := by
  rw [ibgpHead, asPathDefault_eq]
  exact ((touches_fill (fp := [tAS_PATH, tLOCAL_PREF]) _ (by decide)).trans (touches_fill _ (by decide))).frame t
    (by simp only [List.mem_cons, List.not_mem_nil, or_false, not_or]; exact ⟨h2, h5⟩)

theorem mkOriginator?_typ {x : Addr} {a : Attr} (h : mkOriginator? x = some a) : a.typ = tORIGINATOR_ID := by
  unfold mkOriginator? at h; split at h
  · exact Option.some.inj h ▸ rfl
  · cases h

theorem touches_setOpt {fp : List Nat} (p : Path) {o : Option Attr} (h : ∀ a, o = some a → a.typ ∈ fp) :
    Touches fp p (setOpt p o) := by
  cases o with
  | none => exact Touches.refl fp p
  | some a => exact touches_setAttr p (h a rfl)

theorem originator_typ {c : Bool} {x y : Addr} {a : Attr}
    (h : (if c then mkOriginator? x else mkOriginator? y) = some a) : a.typ = tORIGINATOR_ID := by
  cases c <;> exact mkOriginator?_typ h

theorem touches_origStep_plain {fp : List Nat} (g : Global) (peer : Peer) (p : Path)
    (hf : p.family ≠ RF_RTC_UC) (h9 : tORIGINATOR_ID ∈ fp) : Touches fp p (origStep g peer p) := by
  unfold origStep origPair
  rw [if_neg (by simpa using hf)]
  split
  · exact touches_setOpt p fun a h => originator_typ h ▸ h9
  · exact Touches.refl fp p

theorem touches_origStep {fp : List Nat} (g : Global) (peer : Peer) (p : Path)
    (h3 : tNEXT_HOP ∈ fp) (h9 : tORIGINATOR_ID ∈ fp) (h14 : tMP_REACH ∈ fp) :
    Touches fp p (origStep g peer p) := by
  by_cases hf : p.family = RF_RTC_UC
  · unfold origStep origPair
    rw [if_pos (by simpa using hf)]
    exact (touches_setNexthop p _ h3 h14).trans (touches_setOpt _ fun a h => originator_typ h ▸ h9)
  · exact touches_origStep_plain g peer p hf h9

theorem getAttr_origStep (g : Global) (peer : Peer) (p : Path) (hf : p.family ≠ RF_RTC_UC)
    (h9 : tORIGINATOR_ID ∉ p.leaf.dels) :
    getAttr (origStep g peer p) tORIGINATOR_ID =
      (getAttr p tORIGINATOR_ID).or (mkOriginator? (if isLocal p then g.routerId else p.src.id)) := by
  unfold origStep origPair
  rw [if_neg (by simpa using hf), apply_ite mkOriginator?]
  cases hg : getAttr p tORIGINATOR_ID with
  | some _ => exact hg
  | none =>
    cases ho : (if isLocal p then mkOriginator? g.routerId else mkOriginator? p.src.id) with
    | none => exact hg
    | some a => exact getAttr_setAttr_self p (originator_typ ho) h9

theorem clusterStep_eq (peer : Peer) (p : Path) :
    clusterStep peer p = setAttr p (mkClusterList (peer.clusterId :: clusterList p)) := by
  unfold clusterStep clusterList
  cases getAttr p tCLUSTER_LIST with
  | none => rfl
  | some a =>
    obtain ⟨_, _, pay⟩ := a
    cases pay <;> rfl

theorem touches_clusterStep {fp : List Nat} (peer : Peer) (p : Path) (h : tCLUSTER_LIST ∈ fp) :
    Touches fp p (clusterStep peer p) := by
  rw [clusterStep_eq]; exact touches_setAttr p h

theorem clusterList_congr {p q : Path} (h : getAttr q tCLUSTER_LIST = getAttr p tCLUSTER_LIST) :
    clusterList q = clusterList p := by rw [clusterList, h]; rfl

/-- what the `if info.RouteReflectorClient` block writes outside the RFC 4684 case -/
theorem getAttr_rrBlock (g : Global) (peer : Peer) (p : Path) (hf : p.family ≠ RF_RTC_UC)
    (h9 : tORIGINATOR_ID ∉ p.leaf.dels) (h10 : tCLUSTER_LIST ∉ p.leaf.dels) :
    getAttr (clusterStep peer (origStep g peer p)) tORIGINATOR_ID =
      (getAttr p tORIGINATOR_ID).or (mkOriginator? (if isLocal p then g.routerId else p.src.id)) ∧
    getAttr (clusterStep peer (origStep g peer p)) tCLUSTER_LIST =
      some (mkClusterList (peer.clusterId :: clusterList p)) := by
  have e : Touches [tORIGINATOR_ID] p (origStep g peer p) := touches_origStep_plain g peer p hf (by decide)
  refine ⟨((touches_clusterStep (fp := [tCLUSTER_LIST]) peer _ (by decide)).frame _ (by decide)).trans
    (getAttr_origStep g peer p hf h9), ?_⟩
  rw [clusterStep_eq, clusterList_congr (e.frame _ (by decide))]
  exact getAttr_setAttr_self _ rfl (e.live _ (by decide) h10)

/-- … and what it leaves alone: in the RFC 4684 case NEXT_HOP and MP_REACH_NLRI are rewritten as well -/
theorem getAttr_rrBlock_other (g : Global) (peer : Peer) (p : Path) {t : Nat}
    (h9 : t ≠ tORIGINATOR_ID) (h10 : t ≠ tCLUSTER_LIST)
    (hnh : t = tNEXT_HOP ∨ t = tMP_REACH → p.family ≠ RF_RTC_UC) :
    getAttr (clusterStep peer (origStep g peer p)) t = getAttr p t := by
  rw [(touches_clusterStep (fp := [tCLUSTER_LIST]) peer _ (by decide)).frame t (by simpa using h10)]
  by_cases hf : p.family = RF_RTC_UC
  · exact (touches_origStep (fp := [tNEXT_HOP, tORIGINATOR_ID, tMP_REACH]) g peer p (by decide) (by decide)
      (by decide)).frame t (by simpa using ⟨fun e => hnh (.inl e) hf, h9, fun e => hnh (.inr e) hf⟩)
  · exact (touches_origStep_plain (fp := [tORIGINATOR_ID]) g peer p hf (by decide)).frame t (by simpa using h9)

def ibgpFp : List Nat := [tAS_PATH, tNEXT_HOP, tLOCAL_PREF, tORIGINATOR_ID, tCLUSTER_LIST, tMP_REACH]

theorem touches_updateInternal (g : Global) (peer : Peer) (q : Path) (nh : Addr) :
    Touches ibgpFp q (updateInternal g peer q nh) := by
  have h : Touches ibgpFp q (ibgpHead peer q nh) :=
    touches_ibgpHead peer q nh (by decide) (by decide) (by decide) (by decide)
  rw [updateInternal_eq]; split
  · exact (h.trans (touches_origStep g peer _ (by decide) (by decide) (by decide))).trans
      (touches_clusterStep peer _ (by decide))
  · exact h

end Export
