/-
  `rewrite` (= UpdatePathAttrs + the LOCAL_PREF rule of postFilterpath) arm by arm: the AS_PATH
  arithmetic of the eBGP arm, the frame of the whole, and the reads Props/C09.lean is proved from.
-/
import Lemmas.ExportRewrite
namespace Export

/-- prepending one AS: into the first segment when it has the right type and room, else as a new
    leading segment -/
def prependOne (st asn : Nat) : List Seg → List Seg
  | [] => [⟨st, [asn]⟩]
  | s :: rest =>
    if s.typ == st && s.as.length + 1 ≤ 255 then ⟨st, asn :: s.as⟩ :: rest
    else ⟨st, [asn]⟩ :: s :: rest

theorem prependOne_cons (st asn : Nat) (s : Seg) (rest : List Seg) :
    prependOne st asn (s :: rest) =
      if s.typ == st && s.as.length + 1 ≤ 255 then ⟨st, asn :: s.as⟩ :: rest
      else ⟨st, [asn]⟩ :: s :: rest := rfl

theorem prependSegs_one (asn : Nat) (confed : Bool) (segs : List Seg) :
    prependSegs asn 1 confed segs = prependOne (if confed then 3 else 2) asn segs := by
  -- how much of the one-element list goes into the first segment: all of it, or nothing when it is full
  have rep : ∀ n : Nat, (if 1 + n > 255 then 255 - n else 1) = if n + 1 ≤ 255 then 1 else 0 := by
    intro n; split <;> split <;> omega
  unfold prependSegs
  generalize (if confed then 3 else 2) = st
  cases segs with
  | nil => rfl
  | cons s rest =>
    obtain ⟨ty, as⟩ := s
    rw [prependOne_cons]
    simp only [rep]
    by_cases ht : ty = st
    · subst ht
      by_cases hl : as.length + 1 ≤ 255
      · simp only [beq_self_eq_true, if_true, if_pos hl, decide_eq_true hl, Bool.and_self]; rfl
      · simp only [beq_self_eq_true, if_true, if_neg hl, decide_eq_false hl, Bool.and_false, Bool.false_eq_true,
          if_false]; rfl
    · simp only [beq_eq_false_iff_ne.2 ht, Bool.false_and, Bool.false_eq_true, if_false]; rfl

theorem allAS_prependOne (st asn : Nat) (segs : List Seg) :
    allAS (prependOne st asn segs) = asn :: allAS segs := by
  cases segs with
  | nil => rfl
  | cons s rest => rw [prependOne_cons]; split <;> rfl

theorem dropConfed_cons (s : Seg) (rest : List Seg) :
    dropConfed (s :: rest) = if s.typ == 2 || s.typ == 1 then s :: dropConfed rest else dropConfed rest := by
  simp only [dropConfed, List.filter_cons]

theorem dropConfed_cons_seq (as : List Nat) (rest : List Seg) :
    dropConfed (⟨2, as⟩ :: rest) = ⟨2, as⟩ :: dropConfed rest := rfl

theorem dropConfed_prependOne (asn : Nat) (segs : List Seg) :
    allAS (dropConfed (prependOne 2 asn segs)) = asn :: allAS (dropConfed segs) := by
  cases segs with
  | nil => rfl
  | cons s rest =>
    rw [prependOne_cons]
    split
    · rename_i h
      have hs : s.typ = 2 := beq_iff_eq.1 (Bool.and_eq_true_iff.1 h).1
      rw [dropConfed_cons_seq, dropConfed_cons, hs]; rfl
    · rfl

theorem ebgpSegs_eq (g : Global) (peer : Peer) (stored : Option (List Seg)) :
    ebgpSegs g peer stored =
      if g.members.contains peer.as then
        prependOne 3 peer.localAS ((stored.map (rmPrivOpt peer.localAS peer.removePrivate)).getD [])
      else dropConfed
        (prependOne 2 peer.localAS ((stored.map (rmPrivOpt peer.localAS peer.removePrivate)).getD [])) := by
  unfold ebgpSegs
  simp only [prependSegs_one]
  cases g.members.contains peer.as <;> rfl

/-- the stored AS_PATH after the private-AS option and, toward a non-member, without the
    confederation segments: what the local AS is prepended to -/
def ebgpBase (g : Global) (peer : Peer) (stored : Option (List Seg)) : List Seg :=
  let s := (stored.map (rmPrivOpt peer.localAS peer.removePrivate)).getD []
  if g.members.contains peer.as then s else dropConfed s

theorem allAS_ebgpSegs (g : Global) (peer : Peer) (stored : Option (List Seg)) :
    allAS (ebgpSegs g peer stored) = peer.localAS :: allAS (ebgpBase g peer stored) := by
  rw [ebgpSegs_eq, ebgpBase]
  cases g.members.contains peer.as
  · exact dropConfed_prependOne _ _
  · exact allAS_prependOne _ _ _

theorem seg_bound_prependOne (st asn : Nat) (segs : List Seg) (h : ∀ s ∈ segs, s.as.length ≤ 255) :
    ∀ s ∈ prependOne st asn segs, s.as.length ≤ 255 := by
  have one : (⟨st, [asn]⟩ : Seg).as.length ≤ 255 := by show 1 ≤ 255; decide
  cases segs with
  | nil => exact List.forall_mem_cons.2 ⟨one, fun s hs => nomatch hs⟩
  | cons x rest =>
    rw [prependOne_cons]
    split
    · rename_i hc
      exact List.forall_mem_cons.2 ⟨of_decide_eq_true (Bool.and_eq_true_iff.1 hc).2, (List.forall_mem_cons.1 h).2⟩
    · exact List.forall_mem_cons.2 ⟨one, h⟩

theorem rmPrivList_length (l : Nat) (r : Bool) (as : List Nat) : (rmPrivList l r as).length ≤ as.length := by
  induction as with
  | nil => exact Nat.le_refl 0
  | cons a rest ih =>
    rw [rmPrivList]
    split
    · split
      · exact Nat.succ_le_succ ih
      · exact Nat.le_succ_of_le ih
    · exact Nat.succ_le_succ ih

theorem rmPrivSegs_bound (l : Nat) (r : Bool) (segs : List Seg) (h : ∀ s ∈ segs, s.as.length ≤ 255) :
    ∀ s ∈ rmPrivSegs l r segs, s.as.length ≤ 255 := by
  induction segs with
  | nil => exact fun s hs => nomatch hs
  | cons x rest ih =>
    rw [List.forall_mem_cons] at h
    rw [rmPrivSegs]
    split
    · exact List.forall_mem_cons.2 ⟨Nat.le_trans (rmPrivList_length l r x.as) h.1, ih h.2⟩
    · exact ih h.2

theorem ebgpSegs_bound (g : Global) (peer : Peer) (stored : Option (List Seg))
    (h : ∀ segs, stored = some segs → ∀ s ∈ segs, s.as.length ≤ 255) :
    ∀ s ∈ ebgpSegs g peer stored, s.as.length ≤ 255 := by
  have hb : ∀ s ∈ (stored.map (rmPrivOpt peer.localAS peer.removePrivate)).getD [], s.as.length ≤ 255 := by
    cases stored with
    | none => exact fun s hs => nomatch hs
    | some segs =>
      show ∀ s ∈ rmPrivOpt peer.localAS peer.removePrivate segs, _
      unfold rmPrivOpt
      split
      · exact rmPrivSegs_bound _ _ _ (h segs rfl)
      · exact h segs rfl
  rw [ebgpSegs_eq]
  split
  · exact seg_bound_prependOne 3 peer.localAS _ hb
  · exact fun s hs => seg_bound_prependOne 2 peer.localAS _ hb s (List.mem_filter.1 hs).1

theorem ebgpSegs_head (g : Global) (peer : Peer) (stored : Option (List Seg)) :
    ∃ hd tl, ebgpSegs g peer stored = hd :: tl ∧ hd.typ = (if g.members.contains peer.as then 3 else 2) ∧
      hd.as.head? = some peer.localAS := by
  have hp : ∀ st base, ∃ hd tl, prependOne st peer.localAS base = hd :: tl ∧ hd.typ = st ∧
      hd.as.head? = some peer.localAS := by
    intro st base
    cases base with
    | nil => exact ⟨_, _, rfl, rfl, rfl⟩
    | cons s rest => rw [prependOne_cons]; split <;> exact ⟨_, _, rfl, rfl, rfl⟩
  rw [ebgpSegs_eq]
  cases g.members.contains peer.as
  · obtain ⟨hd, tl, he, ht, hh⟩ := hp 2 ((stored.map (rmPrivOpt peer.localAS peer.removePrivate)).getD [])
    refine ⟨hd, dropConfed tl, ?_, ht, hh⟩
    rw [if_neg Bool.false_ne_true, he, dropConfed_cons, ht]; rfl
  · exact hp 3 _

theorem sameNode_stripped (peer : Peer) (p : Path) : SameNode (clone p p.withdraw) (stripped peer p) := by
  rw [stripped_eq]; exact ⟨rfl, rfl, rfl, rfl, rfl⟩

theorem isLocal_stripped (peer : Peer) (p : Path) : isLocal (stripped peer p) = isLocal p :=
  isLocal_congr (p := clone p p.withdraw) (sameNode_stripped peer p)

theorem rewrite_ebgp (g : Global) (peer : Peer) (p : Path) (hrs : peer.rsClient = false)
    (ht : peer.peerType = 1) :
    rewrite g peer p =
      removeLocalPref (updateExternal g peer (stripped peer p) (getNexthop (stripped peer p))) := by
  simp [rewrite, postStrip, updatePathAttrs_eq g peer p hrs, ht, hrs]

theorem rewrite_ibgp (g : Global) (peer : Peer) (p : Path) (hrs : peer.rsClient = false)
    (ht : peer.peerType = 0) :
    rewrite g peer p = updateInternal g peer (stripped peer p) (getNexthop (stripped peer p)) := by
  simp [rewrite, postStrip, updatePathAttrs_eq g peer p hrs, ht]

theorem rewrite_other (g : Global) (peer : Peer) (p : Path) (hrs : peer.rsClient = false)
    (h0 : peer.peerType ≠ 0) (h1 : peer.peerType ≠ 1) :
    rewrite g peer p = removeLocalPref (stripped peer p) := by
  simp [rewrite, postStrip, updatePathAttrs_eq g peer p hrs, h0, h1, hrs]

theorem rewrite_touches (g : Global) (peer : Peer) (p : Path) (hrs : peer.rsClient = false) :
    Touches footprint (stripped peer p) (rewrite g peer p) := by
  by_cases h1 : peer.peerType = 1
  · rw [rewrite_ebgp g peer p hrs h1]
    exact ((touches_updateExternal g peer _ _).mono (by decide)).trans
      (touches_removeLocalPref _ (by decide))
  · by_cases h0 : peer.peerType = 0
    · rw [rewrite_ibgp g peer p hrs h0]
      exact (touches_updateInternal g peer _ _).mono (by decide)
    · rw [rewrite_other g peer p hrs h0 h1]
      exact touches_removeLocalPref _ (by decide)

theorem rewrite_sameNode (g : Global) (peer : Peer) (p : Path) (hrs : peer.rsClient = false) :
    SameNode (clone p p.withdraw) (rewrite g peer p) :=
  (sameNode_stripped peer p).trans (rewrite_touches g peer p hrs).same

theorem rewrite_root (g : Global) (peer : Peer) (p : Path) (hrs : peer.rsClient = false) :
    (rewrite g peer p).root = p.root := by
  rw [Path.root, (rewrite_sameNode g peer p hrs).parents]; rfl

theorem getNexthop_congr {p q : Path} (h3 : getAttr q tNEXT_HOP = getAttr p tNEXT_HOP)
    (h14 : getAttr q tMP_REACH = getAttr p tMP_REACH) : getNexthop q = getNexthop p := by
  rw [getNexthop, h3, h14]; rfl

theorem rewrite_ebgp_frame (g : Global) (peer : Peer) (p : Path) (hrs : peer.rsClient = false)
    (ht : peer.peerType = 1) {t : Nat} (h : t ≠ tLOCAL_PREF) :
    getAttr (rewrite g peer p) t =
      getAttr (updateExternal g peer (stripped peer p) (getNexthop (stripped peer p))) t := by
  rw [rewrite_ebgp g peer p hrs ht]
  exact (touches_removeLocalPref (fp := [tLOCAL_PREF]) _ (by decide)).frame t (by simpa using h)

theorem ebgp_asPath (g : Global) (peer : Peer) (p : Path) (hrs : peer.rsClient = false)
    (ht : peer.peerType = 1) :
    getAsPath (rewrite g peer p) = some (ebgpSegs g peer (getAsPath p)) := by
  have k := stripped_keeps peer p (t := tAS_PATH) (by decide) (Or.inl (by decide))
  rw [getAsPath_congr (rewrite_ebgp_frame g peer p hrs ht (by decide)),
    getAsPath_updateExternal g peer _ _ k.2, getAsPath_congr k.1]

theorem ebgp_absent (g : Global) (peer : Peer) (p : Path) (hrs : peer.rsClient = false)
    (ht : peer.peerType = 1) :
    getAttr (rewrite g peer p) tLOCAL_PREF = none ∧
    getAttr (rewrite g peer p) tORIGINATOR_ID = none ∧
    getAttr (rewrite g peer p) tCLUSTER_LIST = none ∧
    (isLocal p = false → getAttr (rewrite g peer p) tMED = none) ∧
    (isLocal p = true → getAttr (rewrite g peer p) tMED = getAttr p tMED) := by
  have hx := touches_updateExternal g peer (stripped peer p) (getNexthop (stripped peer p))
  have hne : peer.peerType ≠ 0 ∨ peer.rrClient = false := Or.inl (by omega)
  have hmed : getAttr (rewrite g peer p) tMED = if isLocal p then getAttr p tMED else none := by
    rw [rewrite_ebgp_frame g peer p hrs ht (by decide), getAttr_updateExternal_med, isLocal_stripped,
      (stripped_keeps peer p (t := tMED) (by decide) (Or.inl (by decide))).1]
  refine ⟨?_, ?_, ?_, fun h => by rw [hmed, h]; rfl, fun h => by rw [hmed, h]; rfl⟩
  · rw [rewrite_ebgp g peer p hrs ht]
    exact getAttr_removeLocalPref _
  · rw [rewrite_ebgp_frame g peer p hrs ht (by decide), hx.frame _ (by decide)]
    exact getAttr_stripped_rr_none peer p (Or.inr rfl) hne
  · rw [rewrite_ebgp_frame g peer p hrs ht (by decide), hx.frame _ (by decide)]
    exact getAttr_stripped_rr_none peer p (Or.inl rfl) hne

/-- the stored route carries an attribute SetNexthop can write the address into -/
def hasNexthopAttr (p : Path) : Prop :=
  (getAttr p tNEXT_HOP).isSome = true ∨
    ∃ ty fl f a b n, getAttr p tMP_REACH = some ⟨ty, fl, .mpReach f a b n⟩

theorem getNexthop_of_mpReach {p : Path} {f : Nat} {nh : Addr} {n : String} (hv : nh.isValid = true)
    (g3 : getAttr p tNEXT_HOP = none) (g14 : getAttr p tMP_REACH = some (mkMpReach f n nh)) :
    getNexthop p = nh := by
  rw [getNexthop, g3, g14, mkMpReach, if_pos hv]

theorem getNexthop_of_nextHop {p : Path} {nh : Addr} (g3 : getAttr p tNEXT_HOP = some (mkNextHop nh)) :
    getNexthop p = nh := by
  rw [getNexthop, g3]; rfl

theorem getNexthop_setNexthop (p : Path) (nh : Addr) (h3 : tNEXT_HOP ∉ p.leaf.dels)
    (h14 : tMP_REACH ∉ p.leaf.dels) (hv : nh.isValid = true)
    (h : hasNexthopAttr p ∨ (p.family = RF_IPv4_UC ∧ nh.is6 = true)) :
    getNexthop (setNexthop p nh) = nh := by
  have ne : ∀ (q : Path) (f : Nat) (n : String),
      getAttr (setAttr q (mkMpReach f n nh)) tNEXT_HOP = getAttr q tNEXT_HOP :=
    fun q f n => (getAttr_setAttr q _ _).trans (if_neg (by decide : tNEXT_HOP ≠ tMP_REACH))
  unfold setNexthop
  split
  · -- IPv4 route, IPv6 address: NEXT_HOP is deleted and a fresh MP_REACH_NLRI carries the address
    apply getNexthop_of_mpReach hv
    · exact (ne _ _ _).trans ((getAttr_delAttr p _ _).trans (if_pos rfl))
    · exact getAttr_setAttr_self _ rfl fun hm => (List.mem_append.1 hm).elim h14 (by decide)
  · rename_i hb
    have hh : hasNexthopAttr p := h.resolve_right fun hh => hb (by simp [hh.1, hh.2])
    cases h3p : getAttr p tNEXT_HOP with
    | some a =>
      have e1 : setNextHopAttr p nh = setAttr p (mkNextHop nh) := by rw [setNextHopAttr, h3p]
      apply getNexthop_of_nextHop
      rw [(touches_setMpNexthop (fp := [tMP_REACH]) _ nh (by decide)).frame _ (by decide), e1]
      exact getAttr_setAttr_self p rfl h3
    | none =>
      have e1 : setNextHopAttr p nh = p := by rw [setNextHopAttr, h3p]
      rcases hh with hh | ⟨ty, fl, f, a, b, n, hmp⟩
      · rw [h3p] at hh; cases hh
      · have e2 : setMpNexthop p nh = setAttr p (mkMpReach p.family n nh) := by rw [setMpNexthop, hmp]
        rw [e1, e2]
        apply getNexthop_of_mpReach hv
        · exact (ne _ _ _).trans h3p
        · exact getAttr_setAttr_self p rfl h14

theorem touches_ibgpHead_stripped (peer : Peer) (p : Path) (nh : Addr) :
    Touches [tAS_PATH, tNEXT_HOP, tLOCAL_PREF, tMP_REACH] (stripped peer p) (ibgpHead peer (stripped peer p) nh) :=
  touches_ibgpHead peer _ nh (by decide) (by decide) (by decide) (by decide)

/-- ORIGINATOR_ID and CLUSTER_LIST apart — and, in the RFC 4684 case (RTC route to an RR client), NEXT_HOP and
    MP_REACH_NLRI — an iBGP peer's copy reads as after the steps before the RR block -/
theorem rewrite_ibgp_frame (g : Global) (peer : Peer) (p : Path) (hrs : peer.rsClient = false)
    (ht : peer.peerType = 0) {t : Nat} (h9 : t ≠ tORIGINATOR_ID) (h10 : t ≠ tCLUSTER_LIST)
    (hnh : t = tNEXT_HOP ∨ t = tMP_REACH → peer.rrClient = true → p.family ≠ RF_RTC_UC) :
    getAttr (rewrite g peer p) t = getAttr (ibgpHead peer (stripped peer p) (getNexthop (stripped peer p))) t := by
  rw [rewrite_ibgp g peer p hrs ht, updateInternal_eq]
  split
  · rename_i hr
    apply getAttr_rrBlock_other g peer _ h9 h10
    rw [(touches_ibgpHead_stripped peer p _).same.family, (sameNode_stripped peer p).family]
    exact fun e => hnh e hr
  · rfl

theorem rewrite_rr (g : Global) (peer : Peer) (p : Path) (hrs : peer.rsClient = false)
    (ht : peer.peerType = 0) (hr : peer.rrClient = true) (hf : p.family ≠ RF_RTC_UC) :
    getAttr (rewrite g peer p) tORIGINATOR_ID =
      (getAttr p tORIGINATOR_ID).or (mkOriginator? (if isLocal p then g.routerId else p.src.id)) ∧
    getAttr (rewrite g peer p) tCLUSTER_LIST = some (mkClusterList (peer.clusterId :: clusterList p)) := by
  rw [rewrite_ibgp g peer p hrs ht, updateInternal_eq, if_pos hr]
  generalize getNexthop (stripped peer p) = nh
  have i := touches_ibgpHead_stripped peer p nh
  have k9 := stripped_keeps peer p (t := tORIGINATOR_ID) (by decide) (Or.inr ⟨ht, hr⟩)
  have k10 := stripped_keeps peer p (t := tCLUSTER_LIST) (by decide) (Or.inr ⟨ht, hr⟩)
  have hsrc : (ibgpHead peer (stripped peer p) nh).src = p.src := i.same.src.trans (sameNode_stripped peer p).src
  have rr := getAttr_rrBlock g peer (ibgpHead peer (stripped peer p) nh)
    (by rw [i.same.family, (sameNode_stripped peer p).family]; exact hf)
    (i.live _ (by decide) k9.2) (i.live _ (by decide) k10.2)
  rw [i.frame _ (by decide), k9.1, clusterList_congr ((i.frame _ (by decide)).trans k10.1),
    isLocal_congr i.same, isLocal_stripped, hsrc] at rr
  exact rr

theorem ibgp_reads (g : Global) (peer : Peer) (p : Path) (hrs : peer.rsClient = false) (ht : peer.peerType = 0) :
    getAttr (rewrite g peer p) tAS_PATH = some ((getAttr p tAS_PATH).getD (mkAsPath [])) ∧
    getAttr (rewrite g peer p) tLOCAL_PREF = some ((getAttr p tLOCAL_PREF).getD (mkLocalPref 100)) ∧
    getAttr (rewrite g peer p) tMED = getAttr p tMED := by
  have k2 := stripped_keeps peer p (t := tAS_PATH) (by decide) (Or.inl (by decide))
  have k5 := stripped_keeps peer p (t := tLOCAL_PREF) (by decide) (Or.inl (by decide))
  have k4 := stripped_keeps peer p (t := tMED) (by decide) (Or.inl (by decide))
  refine ⟨?_, ?_, ?_⟩
  · rw [rewrite_ibgp_frame g peer p hrs ht (by decide) (by decide) (fun e => absurd e (by decide)),
      getAttr_ibgpHead_asPath _ _ _ k2.2, k2.1]
  · rw [rewrite_ibgp_frame g peer p hrs ht (by decide) (by decide) (fun e => absurd e (by decide)),
      getAttr_ibgpHead_localPref _ _ _ k5.2, k5.1]
  · rw [rewrite_ibgp_frame g peer p hrs ht (by decide) (by decide) (fun e => absurd e (by decide)),
      getAttr_ibgpHead_other _ _ _ (by decide) (by decide),
      (touches_int1 (fp := [tNEXT_HOP, tMP_REACH]) peer _ _ (by decide) (by decide)).frame _ (by decide), k4.1]

end Export
