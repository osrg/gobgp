/-
  Facts about the filterpath family and the inbound loop checks of Model/Export.lean.

  Each stage of `filter` gets one lemma saying what it means for the stage to hand on a path;
  `filter_path` collects them.
-/
import Model.Export
namespace Export

/-- For a hypothesis about the verdict of a filter stage, where `split at` would simplify the whole
    stage again in every branch. -/
theorem ite_eq_cases {α : Sort _} {c : Prop} [Decidable c] {a b x : α} (h : (if c then a else b) = x) :
    c ∧ a = x ∨ ¬c ∧ b = x :=
  if hc : c then .inl ⟨hc, (if_pos hc).symm.trans h⟩ else .inr ⟨hc, (if_neg hc).symm.trans h⟩

theorem fromSource_path {peer : Peer} {p q : Path} {old : Option Path}
    (h : fromSource peer p old = .path q) :
    q = p ∧ (peer.routerId = p.src.id →
      (!peer.rsClient && peer.rrClient && p.family == RF_RTC_UC) = true) := by
  rcases ite_eq_cases h with ⟨hid, e⟩ | ⟨_, h⟩
  · exact ⟨(Verdict.path.inj e).symm, fun e => absurd e (bne_iff_ne.1 hid)⟩
  · rcases ite_eq_cases h with ⟨hx, e⟩ | ⟨_, h⟩
    · exact ⟨(Verdict.path.inj e).symm, fun _ => hx⟩
    · cases old with
      | none => cases h
      | some o => rcases ite_eq_cases h with ⟨_, e⟩ | ⟨_, e⟩ <;> cases e

theorem ibgpBlock_cases (peer : Peer) (p : Path) (old : Option Path) :
    ibgpBlock peer p old = none ∧ (peer.peerType = 0 → ibgpIgnore peer p = some false) ∨
    ibgpBlock peer p old = some .drop ∨ ibgpBlock peer p old = some .withdrawOld := by
  generalize h : ibgpBlock peer p old = v
  rcases ite_eq_cases h with ⟨_, h⟩ | ⟨ht, rfl⟩
  · cases hi : ibgpIgnore peer p with
    | none =>
      rw [hi] at h
      cases old with
      | none => exact .inr (.inl h.symm)
      | some o =>
        rcases ite_eq_cases h with ⟨_, e⟩ | ⟨_, e⟩
        · exact .inr (.inr e.symm)
        · exact .inr (.inl e.symm)
    | some ignore =>
      rw [hi] at h
      cases ignore with
      | false => exact .inl ⟨h.symm, fun _ => rfl⟩
      | true =>
        cases old with
        | none => exact .inr (.inl h.symm)
        | some o =>
          rcases ite_eq_cases h with ⟨_, e⟩ | ⟨_, e⟩
          · exact .inr (.inr e.symm)
          · exact .inr (.inl e.symm)
  · exact .inl ⟨rfl, fun e => absurd (beq_iff_eq.2 e) ht⟩

theorem loopCheck_path {peer : Peer} {old : Option Path} {v : Verdict} {q : Path}
    (h : loopCheck peer old v = .path q) :
    v = .path q ∧ ((!peer.rsClient && isASLoop peer q) = true → (!isLocal q || !peer.allowLoopLocal) = false) := by
  cases v with
  | drop => cases h
  | withdrawOld =>
    cases old with
    | none => cases h
    | some o => rcases ite_eq_cases h with ⟨_, e⟩ | ⟨_, e⟩ <;> cases e
  | path p =>
    rcases ite_eq_cases h with ⟨_, h⟩ | ⟨hl, e⟩
    · rcases ite_eq_cases h with ⟨_, h⟩ | ⟨hx, e⟩
      · cases old with
        | none => cases h
        | some o => rcases ite_eq_cases h with ⟨_, e⟩ | ⟨_, e⟩ <;> cases e
      · cases e; exact ⟨rfl, fun _ => Bool.eq_false_iff.2 hx⟩
    · cases e; exact ⟨rfl, fun hh => absurd hh hl⟩

/-- A path that filterpath hands on is the one it was given and passed every stage: the iBGP block
    did not ignore it; it does not go back to the router it came from (RFC 4684 aside: RTC routes to
    a route-reflector client); the AS-loop test toward the peer does not fire, or the route is local
    and the peer allows that. -/
theorem filter_path {peer : Peer} {p q : Path} {old : Option Path} (h : filter peer p old = .path q) :
    q = p ∧ (peer.peerType = 0 → ibgpIgnore peer p = some false) ∧
    (peer.routerId = p.src.id → (!peer.rsClient && peer.rrClient && p.family == RF_RTC_UC) = true) ∧
    ((!peer.rsClient && isASLoop peer p) = true → (!isLocal p || !peer.allowLoopLocal) = false) := by
  rcases ite_eq_cases h with ⟨_, e⟩ | ⟨_, h⟩
  · cases e
  · rcases ibgpBlock_cases peer p old with ⟨hb, hi⟩ | hb | hb <;> rw [hb] at h
    · have hl := loopCheck_path h
      have hs := fromSource_path hl.1
      cases hs.1
      exact ⟨rfl, hi, hs.2, hl.2⟩
    · cases h
    · cases h

theorem postStrip_withdraw (peer : Peer) (p : Path) : (postStrip peer p).withdraw = p.withdraw := by
  unfold postStrip removeLocalPref
  split
  · split <;> rfl
  · rfl

theorem exportPath_sent {g : Global} {peer : Peer} {p : Path} {old : Option Path} {s : Sent}
    (h : exportPath g peer p old = s) (hn : s ≠ .nothing) (hw : s ≠ .withdrawOld) :
    filter peer (prep peer p) old = .path (prep peer p) ∧
    (s = .update (rewrite g peer (prep peer p)) ∨
     s = .withdrawSelf (postStrip peer (clone (updatePathAttrs g peer (prep peer p)) true))) := by
  unfold exportPath at h
  cases hf : filter peer (prep peer p) old with
  | drop => rw [hf] at h; exact absurd h.symm hn
  | withdrawOld => rw [hf] at h; exact absurd h.symm hw
  | path p2 =>
    rw [hf] at h
    cases (filter_path hf).1
    rcases ite_eq_cases h with ⟨_, e⟩ | ⟨_, e⟩
    · exact ⟨rfl, .inr e.symm⟩
    · exact ⟨rfl, .inl e.symm⟩

theorem exportPath_withdrawSelf {g : Global} {peer : Peer} {p q : Path} {old : Option Path}
    (h : exportPath g peer p old = .withdrawSelf q) :
    filter peer (prep peer p) old = .path (prep peer p) ∧ q.withdraw = true := by
  rcases exportPath_sent h Sent.noConfusion Sent.noConfusion with ⟨hf, e | e⟩
  · cases e
  · cases e; exact ⟨hf, postStrip_withdraw peer _⟩

theorem replaceAS_src (p : Path) (l a : Nat) :
    (replaceAS p l a).src = p.src ∧ (replaceAS p l a).family = p.family := by
  unfold replaceAS
  split
  · exact ⟨rfl, rfl⟩
  · split <;> exact ⟨rfl, rfl⟩

theorem prep_src (peer : Peer) (p : Path) :
    (prep peer p).src = p.src ∧ (prep peer p).family = p.family := by
  unfold prep
  split
  · exact replaceAS_src _ _ _
  · exact ⟨rfl, rfl⟩

theorem isLocal_prep (peer : Peer) (p : Path) : isLocal (prep peer p) = isLocal p := by
  unfold isLocal
  rw [(prep_src peer p).1]

theorem ownASCount_eq (own cid : Nat) (ce : Bool) (l : List Nat) :
    ownASCount own cid ce l =
      l.count own + (if ce && cid != own then l.count cid else 0) := by
  induction l with
  | nil => cases ce && cid != own <;> rfl
  | cons a rest ih =>
    rw [ownASCount, ih, List.count_cons, List.count_cons, Bool.and_right_comm]
    cases ce && cid != own
    -- all three `if`s on the confederation identifier evaluate to 0
    · exact Nat.add_comm _ _
    · simp only [Bool.true_and, if_true]
      rw [Nat.add_add_add_comm, Nat.add_comm _ (rest.count own), Nat.add_comm _ (rest.count cid)]

end Export
