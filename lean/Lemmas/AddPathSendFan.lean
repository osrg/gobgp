/- the incremental fan-out of the ADD-PATH send model keeps the bookkeeping invariant -/
import Lemmas.AddPathSendBasic
namespace AddPathSend
open BestPath

theorem promote_cons (elig : Cand → Bool) (n : Nat) (p : Cand) (rest : List Cand)
    (held : List Nat) :
    promote elig n (p :: rest) held =
      if n = 0 then ([], held)
      else if elig p && held.contains p.id then
        (p :: (promote elig (n - 1) rest (del p.id held)).1,
          (promote elig (n - 1) rest (del p.id held)).2)
      else promote elig n rest held := rfl

theorem promote_zero (elig : Cand → Bool) (known : List Cand) (held : List Nat) :
    promote elig 0 known held = ([], held) := by
  cases known with
  | nil => rfl
  | cons p rest => rw [promote_cons, if_pos rfl]

theorem promote_one (elig : Cand → Bool) (known : List Cand) (held : List Nat) :
    promote elig 1 known held =
      match known.find? (fun p => elig p && held.contains p.id) with
      | some q => ([q], del q.id held)
      | none => ([], held) := by
  induction known with
  | nil => rfl
  | cons p rest ih =>
    rw [List.find?_cons, promote_cons, if_neg Nat.one_ne_zero]
    cases elig p && held.contains p.id
    · rw [if_neg Bool.false_ne_true]; exact ih
    · rw [if_pos rfl, Nat.sub_self, promote_zero]

/-- The clauses of `BkInv` that do not speak of send-max.  A fan-out takes one identifier out of
    the bookkeeping, puts one in, or does the one after the other; each such move keeps these
    clauses, while between the two halves of "withdraw one path, promote another" a path is held
    back although a slot is free. -/
structure Core (elig : Cand → Bool) (t : Tbl) (b : Bk) : Prop where
  sentNodup : b.sent.Nodup
  heldNodup : b.held.Nodup
  disj : ∀ i, i ∈ b.sent → i ∉ b.held
  cover : ∀ i, (i ∈ b.sent ∨ i ∈ b.held) ↔ ∃ x, x ∈ t.known ∧ x.id = i ∧ elig x = true
  viewKeys : (b.view.map (·.1)).Nodup
  view : ∀ i m, (i, m) ∈ b.view ↔ (i ∈ b.sent ∧ ∃ x, x ∈ t.known ∧ x.id = i ∧ x.marker = m)

variable {elig : Cand → Bool} {k : Nat} {t t' : Tbl} {b : Bk}

theorem BkInv.core (h : BkInv elig k t b) : Core elig t b :=
  ⟨h.sentNodup, h.heldNodup, h.disj, h.cover, h.viewKeys, h.view⟩

theorem Core.bkInv (h : Core elig t b) (le : b.sent.length ≤ k)
    (full : b.held ≠ [] → b.sent.length = k) : BkInv elig k t b :=
  ⟨h.sentNodup, h.heldNodup, h.disj, h.cover, le, full, h.viewKeys, h.view⟩

theorem exists_off {i j : Nat} (hoff : ∀ y, y.id ≠ i → (y ∈ t'.known ↔ y ∈ t.known)) (hj : j ≠ i)
    (P : Cand → Prop) :
    (∃ x, x ∈ t'.known ∧ x.id = j ∧ P x) ↔ ∃ x, x ∈ t.known ∧ x.id = j ∧ P x :=
  exists_congr fun x => and_congr_left fun h => hoff x (h.1 ▸ hj)

/-- A move that touches the identifier `i` only, in the table and in the bookkeeping: what holds
    of every other identifier carries over, and the three clauses are left to show at `i`. -/
theorem Core.frame {b' : Bk} {i : Nat} (h : Core elig t b)
    (hoff : ∀ y, y.id ≠ i → (y ∈ t'.known ↔ y ∈ t.known))
    (hs : ∀ j, j ≠ i → (j ∈ b'.sent ↔ j ∈ b.sent)) (hh : ∀ j, j ≠ i → (j ∈ b'.held ↔ j ∈ b.held))
    (hv : ∀ j m, j ≠ i → ((j, m) ∈ b'.view ↔ (j, m) ∈ b.view))
    (ns : b'.sent.Nodup) (nh : b'.held.Nodup) (nv : (b'.view.map (·.1)).Nodup)
    (disj : i ∈ b'.sent → i ∉ b'.held)
    (cover : (i ∈ b'.sent ∨ i ∈ b'.held) ↔ ∃ x, x ∈ t'.known ∧ x.id = i ∧ elig x = true)
    (view : ∀ m, (i, m) ∈ b'.view ↔ (i ∈ b'.sent ∧ ∃ x, x ∈ t'.known ∧ x.id = i ∧ x.marker = m)) :
    Core elig t' b' := by
  refine ⟨ns, nh, fun j => ?_, fun j => ?_, nv, fun j m => ?_⟩
  · by_cases hj : j = i
    · exact hj ▸ disj
    · rw [hs j hj, hh j hj]; exact h.disj j
  · by_cases hj : j = i
    · exact hj ▸ cover
    · rw [hs j hj, hh j hj, exists_off hoff hj]; exact h.cover j
  · by_cases hj : j = i
    · exact hj ▸ view m
    · rw [hs j hj, hv j m hj, exists_off hoff hj]; exact h.view j m

theorem Core.forget {i : Nat} (h : Core elig t b)
    (hoff : ∀ y, y.id ≠ i → (y ∈ t'.known ↔ y ∈ t.known))
    (hno : ∀ y, y ∈ t'.known → y.id = i → elig y = false) :
    Core elig t' { sent := del i b.sent, held := del i b.held,
                   view := b.view.filter (fun e => e.1 != i) } := by
  have hsi : i ∉ del i b.sent := fun hi => (mem_del.mp hi).2 rfl
  have hhi : i ∉ del i b.held := fun hi => (mem_del.mp hi).2 rfl
  refine h.frame hoff
    (hs := fun j hj => mem_del.trans (and_iff_left hj))
    (hh := fun j hj => mem_del.trans (and_iff_left hj))
    (hv := fun j m hj => mem_view_filter.trans (and_iff_left hj))
    (ns := nodup_del h.sentNodup) (nh := nodup_del h.heldNodup)
    (nv := keys_filter_nodup h.viewKeys _)
    (disj := fun hi => absurd hi hsi)
    (cover := ⟨fun hi => hi.elim (fun hi => absurd hi hsi) (fun hi => absurd hi hhi),
               fun ⟨x, hx, e, he⟩ => ?_⟩)
    (view := fun m => ⟨fun hi => absurd rfl (mem_view_filter.mp hi).2, fun hi => absurd hi.1 hsi⟩)
  rw [hno x hx e] at he
  cases he

theorem Core.learnSent {q : Cand} (h : Core elig t b)
    (hoff : ∀ y, y.id ≠ q.id → (y ∈ t'.known ↔ y ∈ t.known))
    (hids : (t'.known.map (·.id)).Nodup) (hq : q ∈ t'.known) (hqe : elig q = true) :
    Core elig t' { sent := ins q.id b.sent, held := del q.id b.held,
                   view := (q.id, q.marker) :: b.view.filter (fun e => e.1 != q.id) } := by
  have hsq : q.id ∈ ins q.id b.sent := mem_ins.mpr (Or.inl rfl)
  refine h.frame hoff
    (hs := fun j hj => mem_ins.trans (or_iff_right hj))
    (hh := fun j hj => mem_del.trans (and_iff_left hj))
    (hv := fun j m hj => List.mem_cons.trans
      ((or_iff_right fun e => hj (congrArg Prod.fst e)).trans
        (mem_view_filter.trans (and_iff_left hj))))
    (ns := nodup_ins h.sentNodup) (nh := nodup_del h.heldNodup)
    (nv := keys_cons_nodup h.viewKeys _ _)
    (disj := fun _ hi => (mem_del.mp hi).2 rfl)
    (cover := ⟨fun _ => ⟨q, hq, rfl, hqe⟩, fun _ => Or.inl hsq⟩)
    (view := fun m => ⟨fun hi => ?_, fun ⟨_, x, hx, e, hm⟩ => ?_⟩)
  · rcases List.mem_cons.mp hi with e | hi
    · exact ⟨hsq, q, hq, rfl, (congrArg Prod.snd e).symm⟩
    · exact absurd rfl (mem_view_filter.mp hi).2
  · rw [← hm, id_inj hids hx hq e]; exact List.mem_cons_self

theorem Core.learnHeld {q : Cand} (h : Core elig t b)
    (hoff : ∀ y, y.id ≠ q.id → (y ∈ t'.known ↔ y ∈ t.known))
    (hq : q ∈ t'.known) (hqe : elig q = true) (hs : q.id ∉ b.sent) :
    Core elig t' { b with held := ins q.id b.held } :=
  h.frame hoff
    (hs := fun _ _ => Iff.rfl)
    (hh := fun _ hj => mem_ins.trans (or_iff_right hj))
    (hv := fun _ _ _ => Iff.rfl)
    (ns := h.sentNodup) (nh := nodup_ins h.heldNodup) (nv := h.viewKeys)
    (disj := fun hi => absurd hi hs)
    (cover := ⟨fun _ => ⟨q, hq, rfl, hqe⟩, fun _ => Or.inr (mem_ins.mpr (Or.inl rfl))⟩)
    (view := fun m => ⟨fun hi => absurd ((h.view _ m).mp hi).1 hs, fun hi => absurd hi.1 hs⟩)

theorem Core.view_filter {i : Nat} (h : Core elig t b) (hs : i ∉ b.sent) :
    b.view.filter (fun e => e.1 != i) = b.view :=
  List.filter_eq_self.mpr fun e he => bne_iff_ne.mpr fun eq =>
    hs (eq ▸ ((h.view e.1 e.2).mp he).1)

theorem heldDel {i : Nat} (hb : BkInv elig k t b) (hs : i ∉ b.sent)
    (hoff : ∀ y, y.id ≠ i → (y ∈ t'.known ↔ y ∈ t.known))
    (hno : ∀ y, y ∈ t'.known → y.id = i → elig y = false) :
    BkInv elig k t' { b with held := del i b.held } := by
  have h1 := hb.core.forget hoff hno
  rw [del_of_not_mem hs, hb.core.view_filter hs] at h1
  refine h1.bkInv hb.le fun hne => hb.full fun e => hne ?_
  show del i b.held = []
  rw [e]; rfl

/-- the advertised path `c` leaves the exportable set: it is withdrawn, and the best held-back
    path is advertised in its place -/
theorem wdPromote (c : Cand) (hb : BkInv elig k t b) (hids : (t'.known.map (·.id)).Nodup)
    (hs : c.id ∈ b.sent)
    (hoff : ∀ y, y.id ≠ c.id → (y ∈ t'.known ↔ y ∈ t.known))
    (hno : ∀ y, y ∈ t'.known → y.id = c.id → elig y = false) :
    BkInv elig k t'
      (send (upd { b with held := (promote elig 1 t'.known b.held).2 }
              ((c, true) :: (promote elig 1 t'.known b.held).1.map (fun q => (q, false))))
            ((c, true) :: (promote elig 1 t'.known b.held).1.map (fun q => (q, false)))) := by
  have h1 := hb.core.forget hoff hno
  rw [del_of_not_mem (hb.disj _ hs)] at h1
  have hlen := length_del hb.sentNodup hs
  have hle : (del c.id b.sent).length + 1 ≤ k := hlen ▸ hb.le
  rw [promote_one]
  cases hf : t'.known.find? (fun p => elig p && b.held.contains p.id) with
  | none =>
    show BkInv elig k t' { sent := del c.id b.sent, held := b.held,
                           view := b.view.filter (fun e => e.1 != c.id) }
    -- no exportable path is marked: no path is marked
    have hempty : b.held = [] := List.eq_nil_iff_forall_not_mem.mpr fun j hj => by
      obtain ⟨x, hx, e, he⟩ := (h1.cover j).mp (Or.inr hj)
      refine List.find?_eq_none.mp hf x hx ?_
      rw [he, List.contains_iff_mem.mpr (e ▸ hj)]; rfl
    exact h1.bkInv (Nat.le_of_succ_le hle) (fun hne => absurd hempty hne)
  | some q =>
    show BkInv elig k t' { sent := ins q.id (del c.id b.sent), held := del q.id b.held,
                           view := (q.id, q.marker) ::
                             (b.view.filter (fun e => e.1 != c.id)).filter (fun e => e.1 != q.id) }
    have hq := List.mem_of_find?_eq_some hf
    have hp := List.find?_some hf
    obtain ⟨hqe, hqc⟩ := Bool.and_eq_true_iff.mp hp
    have hqh : q.id ∈ b.held := List.contains_iff_mem.mp hqc
    have h2 := h1.learnSent (fun _ _ => Iff.rfl) hids hq hqe
    -- the slot `c` gave up is taken again
    have hqs : q.id ∉ del c.id b.sent := fun h => hb.disj _ (mem_del.mp h).1 hqh
    have hk : (ins q.id (del c.id b.sent)).length = k :=
      (length_ins hqs).trans (hlen.trans (hb.full (List.ne_nil_of_mem hqh)))
    exact h2.bkInv (Nat.le_of_eq hk) (fun _ => hk)

theorem fanAnn_inv {r : TRes} {np : Cand} (hb : BkInv elig k t b)
    (hids : (r.tbl.known.map (·.id)).Nodup)
    (hnp : r.newPath = some np) (hin : np ∈ r.tbl.known)
    (hoff : ∀ y, y.id ≠ np.id → (y ∈ r.tbl.known ↔ y ∈ t.known)) :
    BkInv elig k r.tbl (fanAnn elig k r b) := by
  unfold fanAnn
  rw [hnp]
  dsimp only
  by_cases he : elig np = true
  · rw [he, Bool.not_true, if_neg Bool.false_ne_true]
    by_cases hs : np.id ∈ b.sent
    · rw [List.contains_iff_mem.mpr hs, Bool.true_or, if_pos rfl, if_pos rfl]
      have h1 := hb.core.learnSent hoff hids hin he
      rw [ins_of_mem hs, del_of_not_mem (hb.disj _ hs)] at h1
      exact h1.bkInv hb.le hb.full
    · rw [Bool.eq_false_iff.mpr fun c => hs (List.contains_iff_mem.mp c), Bool.false_or,
        if_neg Bool.false_ne_true]
      by_cases hlt : b.sent.length < k
      · -- a slot is free: nothing is held back
        rw [if_pos (decide_eq_true hlt)]
        have hempty : b.held = [] := Classical.byContradiction fun hne =>
          Nat.ne_of_lt hlt (hb.full hne)
        have h1 := hb.core.learnSent hoff hids hin he
        rw [del_of_not_mem (hempty ▸ List.not_mem_nil)] at h1
        exact h1.bkInv ((length_ins hs).symm ▸ hlt) (fun hne => absurd hempty hne)
      · rw [if_neg (fun c => hlt (of_decide_eq_true c))]
        exact (hb.core.learnHeld hoff hin he hs).bkInv hb.le
          (fun _ => Nat.le_antisymm hb.le (Nat.not_lt.mp hlt))
  · have hef : elig np = false := Bool.eq_false_iff.mpr he
    have hno : ∀ y, y ∈ r.tbl.known → y.id = np.id → elig y = false := fun y hy e =>
      id_inj hids hy hin e ▸ hef
    rw [hef, Bool.not_false, if_pos rfl]
    by_cases hs : np.id ∈ b.sent
    · rw [if_pos (List.contains_iff_mem.mpr hs)]
      exact wdPromote np hb hids hs hoff hno
    · rw [if_neg fun c => hs (List.contains_iff_mem.mp c)]
      exact heldDel hb hs hoff hno

theorem fanWd_inv {r : TRes} {p : Cand} (hb : BkInv elig k t b)
    (hids : (t.known.map (·.id)).Nodup) (hids' : (r.tbl.known.map (·.id)).Nodup)
    (hg : r.gone = some p) (hp : p ∈ t.known)
    (hmem : ∀ y, y ∈ r.tbl.known ↔ (y ∈ t.known ∧ y.id ≠ p.id)) :
    BkInv elig k r.tbl (fanWd elig r b) := by
  have hoff : ∀ y, y.id ≠ p.id → (y ∈ r.tbl.known ↔ y ∈ t.known) := fun y hy =>
    (hmem y).trans (and_iff_left hy)
  have hno : ∀ y, y ∈ r.tbl.known → y.id = p.id → elig y = false := fun y hy e =>
    absurd e ((hmem y).mp hy).2
  unfold fanWd
  rw [hg]
  dsimp only
  by_cases he : elig p = true
  · rw [he, Bool.not_true, if_neg Bool.false_ne_true]
    by_cases hh : p.id ∈ b.held
    · rw [if_pos (List.contains_iff_mem.mpr hh)]
      exact heldDel hb (fun hs => hb.disj _ hs hh) hoff hno
    · have hs : p.id ∈ b.sent := ((hb.cover p.id).mpr ⟨p, hp, rfl, he⟩).resolve_right hh
      rw [if_neg fun c => hh (List.contains_iff_mem.mp c), List.contains_iff_mem.mpr hs,
        Bool.not_true, if_neg Bool.false_ne_true]
      -- on an empty table `promote` finds nothing anyway
      have hpr : ∀ l : List Cand, (if l.isEmpty then ([], b.held) else promote elig 1 l b.held) =
          promote elig 1 l b.held := fun l => by cases l <;> rfl
      rw [hpr]
      exact wdPromote p hb hids' hs hoff hno
  · -- a path that was filtered is neither advertised nor marked
    have hef : elig p = false := Bool.eq_false_iff.mpr he
    rw [hef, Bool.not_false, if_pos rfl]
    have hnot : ∀ i, (i ∈ b.sent ∨ i ∈ b.held) → i ≠ p.id := fun i hi e => by
      obtain ⟨x, hx, hxi, hxe⟩ := (hb.cover i).mp hi
      rw [id_inj hids hx hp (hxi.trans e), hef] at hxe
      cases hxe
    have h1 := heldDel hb (fun h => hnot _ (Or.inl h) rfl) hoff hno
    rw [del_of_not_mem fun h => hnot _ (Or.inr h) rfl] at h1
    exact h1

theorem fanWd_none (elig : Cand → Bool) (r : TRes) (b : Bk) (hg : r.gone = none) :
    fanWd elig r b = b := by
  unfold fanWd
  rw [hg]

theorem fanWd_unknown (elig : Cand → Bool) (r : TRes) (b : Bk) (p : Cand) (hg : r.gone = some p)
    (hs : p.id ∉ b.sent) (hh : p.id ∉ b.held) : fanWd elig r b = b := by
  unfold fanWd
  rw [hg]
  dsimp only
  rw [if_neg fun c => hh (List.contains_iff_mem.mp c),
    Bool.eq_false_iff.mpr fun c => hs (List.contains_iff_mem.mp c), Bool.not_false, if_pos rfl,
    ite_self]

end AddPathSend
