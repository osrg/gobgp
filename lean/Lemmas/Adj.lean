/-
  Adj-RIB-In refinement (C02): the entry list maintained by AdjRib.Update refines the abstract map
  "latest un-withdrawn announcement per (prefix, path-id) of the current session", and the
  incrementally maintained `accepted` counter equals the number of stored non-rejected entries.
-/
import Model.World
namespace World
open BestPath

inductive AdjOp where
  | ann (r : Cand) (rejected : Bool)
  | wd (r : Cand)          -- only pfx and pathId are read
  | drop                   -- session ended: AdjRib.Drop
deriving Repr

def adjStep (a : Adj) : AdjOp → Adj
  | .ann r rej => (adjAnnounce a r rej).1
  | .wd r => adjWithdraw a r
  | .drop => {}

/-- the abstract Adj-RIB-In: (prefix, path-id) ↦ stored route and its rejected mark -/
abbrev AdjSpec := Nat → Nat → Option AdjEntry

/-- the specification: an announcement replaces the entry of its key (keeping the timestamp of
    an identical predecessor, as AdjRib.Update does), a withdrawal removes it, a session end
    empties the table -/
def adjSpecStep (s : AdjSpec) : AdjOp → AdjSpec
  | .ann r rej => fun p k =>
      if p = r.pfx ∧ k = r.pathId then
        some ⟨(match s r.pfx r.pathId with
               | some old => if pathEqual old.r r then { r with ts := old.r.ts } else r
               | none => r), rej⟩
      else s p k
  | .wd r => fun p k => if p = r.pfx ∧ k = r.pathId then none else s p k
  | .drop => fun _ _ => none

/-- abstraction function -/
def Adj.abs (a : Adj) : AdjSpec := fun p k =>
  a.entries.find? (fun e => e.r.pfx == p && e.r.pathId == k)

/-- at most one entry per (prefix, path-id) -/
def Adj.Nodup (a : Adj) : Prop := a.entries.Pairwise (fun x y => adjKeyEq x.r y.r = false)

def Adj.countOk (a : Adj) : Prop :=
  a.accepted = ((a.entries.filter (fun e => !e.rejected)).length : Int)

theorem adjKeyEq_iff (a b : Cand) : adjKeyEq a b = true ↔ (a.pfx = b.pfx ∧ a.pathId = b.pathId) := by
  simp [adjKeyEq]

/-- every stored entry is filed under its own key -/
theorem find_key (l : List AdjEntry) (r : Cand) (e : AdjEntry)
    (h : l.find? (fun e => adjKeyEq e.r r) = some e) : e.r.pfx = r.pfx ∧ e.r.pathId = r.pathId := by
  have := List.find?_some h
  exact (adjKeyEq_iff e.r r).mp this

theorem abs_eq_find (a : Adj) (r : Cand) :
    a.abs r.pfx r.pathId = a.entries.find? (fun e => adjKeyEq e.r r) := rfl

theorem keyEq_congr (a a' b b' : Cand) (h1 : a.pfx = a'.pfx) (h2 : a.pathId = a'.pathId)
    (h3 : b.pfx = b'.pfx) (h4 : b.pathId = b'.pathId) : adjKeyEq a b = adjKeyEq a' b' := by
  unfold adjKeyEq; rw [h1, h2, h3, h4]

theorem keyb_of_adjKeyEq (x r : Cand) : (x.pfx == r.pfx && x.pathId == r.pathId) = adjKeyEq x r := rfl

theorem key_other (x r : Cand) (p k : Nat) (hx : adjKeyEq x r = true) (hpk : ¬(p = r.pfx ∧ k = r.pathId)) :
    (x.pfx == p && x.pathId == k) = false := by
  obtain ⟨h1, h2⟩ := (adjKeyEq_iff x r).mp hx
  refine Bool.eq_false_iff.mpr fun h => hpk ?_
  simp only [Bool.and_eq_true, beq_iff_eq] at h
  exact ⟨h.1.symm.trans h1, h.2.symm.trans h2⟩

/-- the route as `adjAnnounce` stores it has the key of the announced one -/
theorem stored_key (old r : Cand) :
    adjKeyEq (if pathEqual old r then { r with ts := old.ts } else r) r = true := by
  split <;> exact (adjKeyEq_iff _ _).mpr ⟨rfl, rfl⟩

theorem rekey_fields {r : Cand} {new : AdjEntry} (hnew : adjKeyEq new.r r = true) (e : AdjEntry) :
    (if adjKeyEq e.r r then new else e).r.pfx = e.r.pfx ∧
      (if adjKeyEq e.r r then new else e).r.pathId = e.r.pathId := by
  split
  · next he =>
    obtain ⟨a1, a2⟩ := (adjKeyEq_iff _ _).mp hnew
    obtain ⟨b1, b2⟩ := (adjKeyEq_iff _ _).mp he
    exact ⟨a1.trans b1.symm, a2.trans b2.symm⟩
  · exact ⟨rfl, rfl⟩

theorem adjWithdraw_entries (adj : Adj) (r : Cand) :
    (adjWithdraw adj r).entries = adj.entries.filter (fun e => !adjKeyEq e.r r) := by
  unfold adjWithdraw
  cases hf : adj.entries.find? (fun e => adjKeyEq e.r r) with
  | some old => rfl
  | none =>
    symm
    rw [List.filter_eq_self]
    intro a ha
    simpa using List.find?_eq_none.mp hf a ha

/-- the route as stored keeps source and key (only the timestamp may be the predecessor's) -/
theorem adjAnnounce_ret (adj : Adj) (r : Cand) (rej : Bool) :
    (adjAnnounce adj r rej).2.src = r.src ∧ (adjAnnounce adj r rej).2.pfx = r.pfx ∧
      (adjAnnounce adj r rej).2.pathId = r.pathId := by
  unfold adjAnnounce
  split
  · dsimp only
    split <;> exact ⟨rfl, rfl, rfl⟩
  · exact ⟨rfl, rfl, rfl⟩

theorem mem_adjAnnounce (adj : Adj) (r : Cand) (rej : Bool) (a : AdjEntry) :
    a ∈ (adjAnnounce adj r rej).1.entries ↔
      (a ∈ adj.entries ∧ adjKeyEq a.r r = false) ∨ a = ⟨(adjAnnounce adj r rej).2, rej⟩ := by
  unfold adjAnnounce
  cases hf : adj.entries.find? (fun e => adjKeyEq e.r r) with
  | some old =>
    dsimp only
    rw [List.mem_map]
    constructor
    · rintro ⟨e, he, rfl⟩
      cases hk : adjKeyEq e.r r
      · exact Or.inl ⟨he, hk⟩
      · exact Or.inr rfl
    · rintro (⟨ha, hk⟩ | rfl)
      · exact ⟨a, ha, by rw [hk]; rfl⟩
      · exact ⟨old, List.mem_of_find?_eq_some hf, by rw [List.find?_some hf]; rfl⟩
  | none =>
    dsimp only
    rw [List.mem_append, List.mem_singleton]
    constructor
    · rintro (ha | rfl)
      · exact Or.inl ⟨ha, by simpa using List.find?_eq_none.mp hf a ha⟩
      · exact Or.inr rfl
    · rintro (⟨ha, _⟩ | rfl)
      · exact Or.inl ha
      · exact Or.inr rfl

theorem find_filter_of_imp {α : Type} (l : List α) (p q : α → Bool)
    (h : ∀ a, q a = true → p a = true) : (l.filter p).find? q = l.find? q := by
  rw [List.find?_filter]
  congr 1
  funext a
  cases hq : q a
  · simp
  · simp [h a hq]

theorem find_filter_none {α : Type} (l : List α) (p q : α → Bool)
    (h : ∀ a, q a = true → p a = false) : (l.filter p).find? q = none := by
  rw [List.find?_filter, List.find?_eq_none]
  intro a _
  cases hq : q a
  · simp
  · simp [h a hq]

theorem find_map_key (l : List AdjEntry) (r : Cand) (new : AdjEntry)
    (hnew : adjKeyEq new.r r = true) (p k : Nat) :
    (l.map (fun e => if adjKeyEq e.r r then new else e)).find?
        (fun e => e.r.pfx == p && e.r.pathId == k) =
      if p = r.pfx ∧ k = r.pathId then
        (if (l.find? (fun e => adjKeyEq e.r r)).isSome then some new else none)
      else l.find? (fun e => e.r.pfx == p && e.r.pathId == k) := by
  have hq : ((fun e : AdjEntry => e.r.pfx == p && e.r.pathId == k) ∘
      fun e => if adjKeyEq e.r r then new else e) = fun e => e.r.pfx == p && e.r.pathId == k := by
    funext e
    dsimp only [Function.comp]
    rw [(rekey_fields hnew e).1, (rekey_fields hnew e).2]
  rw [List.find?_map, hq]
  split
  · next hpk =>
    obtain ⟨rfl, rfl⟩ := hpk
    show Option.map _ (l.find? (fun e => adjKeyEq e.r r)) = _
    cases h : l.find? (fun e => adjKeyEq e.r r) with
    | none => rfl
    | some e => rw [Option.map_some, if_pos (List.find?_some h)]; rfl
  · next hpk =>
    cases h : l.find? (fun e => e.r.pfx == p && e.r.pathId == k) with
    | none => rfl
    | some e =>
      have he := List.find?_some h
      rw [Option.map_some, if_neg fun hx => by rw [key_other e.r r p k hx hpk] at he; cases he]

theorem find_filter_key (l : List AdjEntry) (r : Cand) (p k : Nat) :
    (l.filter (fun e => !adjKeyEq e.r r)).find? (fun e => e.r.pfx == p && e.r.pathId == k) =
      if p = r.pfx ∧ k = r.pathId then none
      else l.find? (fun e => e.r.pfx == p && e.r.pathId == k) := by
  split
  · next hpk =>
    obtain ⟨rfl, rfl⟩ := hpk
    exact find_filter_none l _ _ fun a (ha : adjKeyEq a.r r = true) => by rw [ha]; rfl
  · next hpk =>
    refine find_filter_of_imp l _ _ fun a ha => ?_
    cases hx : adjKeyEq a.r r
    · rfl
    · rw [key_other a.r r p k hx hpk] at ha; cases ha

theorem find_append_new (l : List AdjEntry) (new : AdjEntry) (p k : Nat)
    (hnone : l.find? (fun e => adjKeyEq e.r new.r) = none) :
    (l ++ [new]).find? (fun e => e.r.pfx == p && e.r.pathId == k) =
      if p = new.r.pfx ∧ k = new.r.pathId then some new
      else l.find? (fun e => e.r.pfx == p && e.r.pathId == k) := by
  rw [List.find?_append]
  by_cases hpk : p = new.r.pfx ∧ k = new.r.pathId
  · obtain ⟨rfl, rfl⟩ := hpk
    rw [if_pos ⟨rfl, rfl⟩]
    show (l.find? (fun e => adjKeyEq e.r new.r)).or _ = _
    rw [hnone, Option.none_or, List.find?_cons, beq_self_eq_true, beq_self_eq_true]
    rfl
  · rw [if_neg hpk, List.find?_cons,
      key_other new.r new.r p k ((adjKeyEq_iff _ _).mpr ⟨rfl, rfl⟩) hpk, List.find?_nil,
      Option.or_none]

theorem adjStep_refines (a : Adj) (op : AdjOp) : (adjStep a op).abs = adjSpecStep a.abs op := by
  funext p k
  cases op with
  | drop => rfl
  | wd r =>
    show (adjWithdraw a r).entries.find? _ = _
    rw [adjWithdraw_entries]
    exact find_filter_key a.entries r p k
  | ann r rej =>
    simp only [adjStep, adjSpecStep, adjAnnounce]
    rw [abs_eq_find]
    cases h : a.entries.find? (fun e => adjKeyEq e.r r) with
    | some old =>
      simp only [Adj.abs]
      rw [find_map_key a.entries r _ ?_ p k, h]
      · rfl
      · exact stored_key old.r r
    | none => exact find_append_new a.entries ⟨r, rej⟩ p k h

/-- after ANY history the Adj-RIB-In is the abstract map (`C02.adjin_refines`) -/
theorem adj_refines (ops : List AdjOp) :
    (ops.foldl adjStep {}).abs = ops.foldl adjSpecStep (fun _ _ => none) := by
  have : ∀ (a : Adj) (s : AdjSpec), a.abs = s →
      (ops.foldl adjStep a).abs = ops.foldl adjSpecStep s := by
    induction ops with
    | nil => intro a s h; exact h
    | cons op rest ih =>
      intro a s h
      simp only [List.foldl_cons]
      apply ih
      rw [adjStep_refines, h]
  exact this {} _ (by funext p k; simp [Adj.abs])

theorem nodup_step (a : Adj) (op : AdjOp) (h : a.Nodup) : (adjStep a op).Nodup := by
  unfold Adj.Nodup at *
  cases op with
  | drop => exact List.Pairwise.nil
  | wd r =>
    show (adjWithdraw a r).entries.Pairwise _
    rw [adjWithdraw_entries]
    exact h.sublist List.filter_sublist
  | ann r rej =>
    simp only [adjStep, adjAnnounce]
    cases hf : a.entries.find? (fun e => adjKeyEq e.r r) with
    | some old =>
      dsimp only
      have hk := rekey_fields (new := ⟨_, rej⟩) (stored_key old.r r)
      rw [List.pairwise_map]
      refine h.imp fun {x y} hxy => ?_
      exact (keyEq_congr _ _ _ _ (hk x).1 (hk x).2 (hk y).1 (hk y).2).trans hxy
    | none =>
      dsimp only
      rw [List.pairwise_append]
      refine ⟨h, List.pairwise_singleton _ _, fun x hx y hy => ?_⟩
      rw [List.mem_singleton.mp hy]
      simpa using List.find?_eq_none.mp hf x hx

theorem key_unique {x : AdjEntry} {xs : List AdjEntry} {r : Cand} (hx : adjKeyEq x.r r = true)
    (hn : ∀ e ∈ xs, adjKeyEq x.r e.r = false) : ∀ e ∈ xs, adjKeyEq e.r r = false := by
  intro e he
  cases h2 : adjKeyEq e.r r
  · rfl
  · have a1 := (adjKeyEq_iff _ _).mp hx
    have a2 := (adjKeyEq_iff _ _).mp h2
    have h1 := hn e he
    rw [(adjKeyEq_iff _ _).mpr ⟨a1.1.trans a2.1.symm, a1.2.trans a2.2.symm⟩] at h1
    cases h1

/-- a duplicate-free entry list is `l1 ++ old :: l2` around its entry of key `r`, and the two
    edits of `AdjRib.Update` touch that entry only -/
theorem split_key {l : List AdjEntry} {r : Cand} {old : AdjEntry}
    (hn : l.Pairwise (fun x y => adjKeyEq x.r y.r = false))
    (hf : l.find? (fun e => adjKeyEq e.r r) = some old) :
    ∃ l1 l2, l = l1 ++ old :: l2 ∧
      (∀ new, l.map (fun e => if adjKeyEq e.r r then new else e) = l1 ++ new :: l2) ∧
      l.filter (fun e => !adjKeyEq e.r r) = l1 ++ l2 := by
  obtain ⟨hold, l1, l2, rfl, h1⟩ := List.find?_eq_some_iff_append.mp hf
  have h1 : ∀ e ∈ l1, adjKeyEq e.r r = false := fun e he => by simpa using h1 e he
  have h2 := key_unique hold (List.pairwise_cons.mp (List.pairwise_append.mp hn).2.1).1
  refine ⟨l1, l2, rfl, fun new => ?_, ?_⟩
  · have hid : ∀ l' : List AdjEntry, (∀ e ∈ l', adjKeyEq e.r r = false) →
        l'.map (fun e => if adjKeyEq e.r r then new else e) = l' := fun l' h =>
      (List.map_congr_left fun e he => by rw [h e he]; rfl).trans (List.map_id l')
    rw [List.map_append, List.map_cons, if_pos hold, hid l1 h1, hid l2 h2]
  · have hid : ∀ l' : List AdjEntry, (∀ e ∈ l', adjKeyEq e.r r = false) →
        l'.filter (fun e => !adjKeyEq e.r r) = l' := fun l' h =>
      List.filter_eq_self.mpr fun e he => by rw [h e he]; rfl
    rw [List.filter_append, List.filter_cons, hold, hid l1 h1, hid l2 h2]
    rfl

theorem count_around (l1 l2 : List AdjEntry) (x : AdjEntry) :
    (((l1 ++ x :: l2).filter (fun e => !e.rejected)).length : Int) =
      ((l1 ++ l2).filter (fun e => !e.rejected)).length + (if x.rejected then 0 else 1) := by
  simp only [List.filter_append, List.filter_cons, List.length_append]
  cases x.rejected <;> simp <;> omega

/-- the accepted counter is the number of stored non-rejected entries, through every
    reject↔accept flip, replacement, withdrawal (also of unknown keys) and session end -/
theorem count_step (a : Adj) (op : AdjOp) (hn : a.Nodup) (h : a.countOk) : (adjStep a op).countOk := by
  unfold Adj.countOk at *
  unfold Adj.Nodup at hn
  cases op with
  | drop => rfl
  | wd r =>
    simp only [adjStep, adjWithdraw]
    cases hf : a.entries.find? (fun e => adjKeyEq e.r r) with
    | none => exact h
    | some old =>
      obtain ⟨l1, l2, e, _, hfil⟩ := split_key hn hf
      dsimp only
      rw [hfil, h, e, count_around]
      cases old.rejected <;> simp
  | ann r rej =>
    simp only [adjStep, adjAnnounce]
    cases hf : a.entries.find? (fun e => adjKeyEq e.r r) with
    | some old =>
      obtain ⟨l1, l2, e, hmap, _⟩ := split_key hn hf
      dsimp only
      rw [hmap, h, e, count_around, count_around]
      cases old.rejected <;> cases rej <;> simp <;> omega
    | none =>
      simp only [List.filter_append, List.length_append]
      rw [h]
      cases rej <;> simp

theorem adj_invariants (ops : List AdjOp) :
    (ops.foldl adjStep {}).Nodup ∧ (ops.foldl adjStep {}).countOk := by
  have : ∀ (a : Adj), a.Nodup → a.countOk →
      (ops.foldl adjStep a).Nodup ∧ (ops.foldl adjStep a).countOk := by
    induction ops with
    | nil => intro a h1 h2; exact ⟨h1, h2⟩
    | cons op rest ih =>
      intro a h1 h2
      simp only [List.foldl_cons]
      exact ih _ (nodup_step a op h1) (count_step a op h1 h2)
  exact this {} List.Pairwise.nil rfl

end World
