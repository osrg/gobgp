/-
  Helper lemmas for C03: the comparator chain is a lexicographic comparison of a documented
  key; Go's binary search finds the partition point of a monotone predicate; binary insertion
  keeps a list sorted.
-/
import Model.BestPath
import Lemmas.Lex
namespace BestPath
open Lex

def b2i (b : Bool) : Int := if b then 1 else 0

theorem b2i_eq (a b : Bool) : b2i a = b2i b ↔ a = b := by
  cases a <;> cases b <;> decide

/-- The documented preference, as a key compared lexicographically, lower = preferred:
    not LLGR-stale, reachable, highest LOCAL_PREF, local origin, shortest AS_PATH (unless
    ignored), lowest ORIGIN, lowest MED, external over internal, oldest (external only, unless
    external-compare-router-id), lowest router-id, lowest neighbour address. -/
def key (o : Opts) (c : Cand) : List Int :=
  [ b2i c.stale,
    b2i c.nhInvalid,
    -(c.getLocalPref : Int),
    if c.isLocal then 0 else 1,
    if o.ignoreAsPathLen then 0 else (asPathLen c : Int),
    ((c.origin.getD 0 : Nat) : Int),
    (c.getMed : Int),
    b2i c.isInternal,
    if !c.isInternal && !o.extCompareRouterId then (c.ts : Int) else 0,
    if o.extCompareRouterId || c.isInternal then (c.src.rid : Int) else 0,
    match c.src.addr with | none => 0 | some p => (p : Int) + 1 ]

theorem key_length (o : Opts) (c : Cand) : (key o c).length = 11 := rfl

theorem key_length_eq (o : Opts) (a b : Cand) : (key o a).length = (key o b).length :=
  (key_length o a).trans (key_length o b).symm

/-- the last component of `key` -/
def addrKey (p : Option Nat) : Int :=
  match p with | none => 0 | some p => (p : Int) + 1

theorem key_addrKey (o : Opts) (c : Cand) : (key o c)[10]? = some (addrKey c.src.addr) := rfl

theorem addrKey_inj : ∀ {p q : Option Nat}, addrKey p = addrKey q → p = q
  | none, none, _ => rfl
  | some p, some q, h => congrArg some (Int.ofNat_inj.mp ((Int.add_left_inj 1).mp h))
  | none, some q, h | some q, none, h => by
    simp only [addrKey] at h
    omega

theorem key_addr (o : Opts) (a b : Cand) (h : key o a = key o b) : a.src.addr = b.src.addr := by
  have h10 : (key o a)[10]? = (key o b)[10]? := by rw [h]
  rw [key_addrKey, key_addrKey] at h10
  exact addrKey_inj (Option.some.inj h10)

/-- Well-formedness of a pair of candidates: the preconditions the property states (MED
    comparable) plus what every installed route satisfies (ORIGIN is mandatory; there is one
    local source). -/
structure PairWF (o : Opts) (a b : Cand) : Prop where
  med    : medComparable o a b = true
  origA  : a.origin.isSome = true
  origB  : b.origin.isSome = true
  local1 : a.isLocal = true → b.isLocal = true → a.src.equal b.src = true

theorem srcEqual_iff {a b : Src} :
    a.equal b = true ↔ a.as = b.as ∧ a.rid = b.rid ∧ a.localRid = b.localRid ∧ a.addr = b.addr := by
  simp only [Src.equal, Bool.and_eq_true, beq_iff_eq, and_assoc]

theorem srcEqual_addr {a b : Src} (h : a.equal b = true) : a.addr = b.addr :=
  (srcEqual_iff.mp h).2.2.2

theorem srcEqual_rid {a b : Src} (h : a.equal b = true) : a.rid = b.rid :=
  (srcEqual_iff.mp h).2.1

theorem cLLGR_eq (a b : Cand) : cLLGR a b = cmp3 (b2i a.stale) (b2i b.stale) := by
  unfold cLLGR
  cases a.stale <;> cases b.stale <;> rfl

theorem cReach_eq (a b : Cand) : cReach a b = cmp3 (b2i a.nhInvalid) (b2i b.nhInvalid) := by
  unfold cReach
  cases a.nhInvalid <;> cases b.nhInvalid <;> rfl

theorem cLocalPref_eq (a b : Cand) :
    cLocalPref a b = cmp3 (-(a.getLocalPref : Int)) (-(b.getLocalPref : Int)) := by
  simp only [cLocalPref, cmp3, Int.neg_lt_neg_iff, Int.ofNat_lt, GT.gt]

theorem cLocalOrigin_eq {a b : Cand}
    (h : a.isLocal = true → b.isLocal = true → a.src.equal b.src = true) :
    cLocalOrigin a b = cmp3 (if a.isLocal then 0 else 1) (if b.isLocal then 0 else 1) := by
  unfold cLocalOrigin
  cases he : a.src.equal b.src
  · -- two sources: at most one of them is the local one
    cases ha : a.isLocal <;> cases hb : b.isLocal
    · rfl
    · rfl
    · rfl
    · exact absurd (h ha hb) (he ▸ Bool.false_ne_true)
  · -- one source: both local or neither
    have : a.isLocal = b.isLocal := congrArg Option.isNone (srcEqual_addr he)
    rw [this]
    exact (cmp3_self _).symm

theorem cAsPath_eq (o : Opts) (a b : Cand) :
    cAsPath o a b = cmp3 (if o.ignoreAsPathLen then 0 else (asPathLen a : Int))
      (if o.ignoreAsPathLen then 0 else (asPathLen b : Int)) := by
  unfold cAsPath
  cases o.ignoreAsPathLen
  · simp only [Bool.false_eq_true, if_false, cmp3, Int.ofNat_lt]
    by_cases h : asPathLen a > asPathLen b
    · rw [if_pos h, if_neg (Nat.lt_asymm h), if_pos h]
    · rw [if_neg h, if_neg h]
  · rfl

theorem cOrigin_eq {a b : Cand} (ha : a.origin.isSome = true) (hb : b.origin.isSome = true) :
    cOrigin a b = cmp3 ((a.origin.getD 0 : Nat) : Int) ((b.origin.getD 0 : Nat) : Int) := by
  obtain ⟨x, hx⟩ := Option.isSome_iff_exists.mp ha
  obtain ⟨y, hy⟩ := Option.isSome_iff_exists.mp hb
  rw [cOrigin, hx, hy]
  exact (cmp3_natCast x y).symm

theorem cMed_eq {o : Opts} {a b : Cand} (h : medComparable o a b = true) :
    cMed o a b = cmp3 (a.getMed : Int) (b.getMed : Int) := by
  rw [cMed, if_pos h]
  exact (cmp3_natCast _ _).symm

theorem cAsNumber_eq (a b : Cand) : cAsNumber a b = cmp3 (b2i a.isInternal) (b2i b.isInternal) := by
  unfold cAsNumber
  cases a.isInternal <;> cases b.isInternal <;> rfl

theorem cAge_eq (o : Opts) {a b : Cand} (hi : a.isInternal = b.isInternal) :
    cAge o a b = cmp3 (if !a.isInternal && !o.extCompareRouterId then (a.ts : Int) else 0)
      (if !b.isInternal && !o.extCompareRouterId then (b.ts : Int) else 0) := by
  rw [cAge, hi, Bool.and_self]
  cases !b.isInternal && !o.extCompareRouterId
  · rfl
  · exact (cmp3_natCast _ _).symm

theorem cRouterId_eq (o : Opts) {a b : Cand} (hi : a.isInternal = b.isInternal)
    (h : a.isLocal = true → b.isLocal = true → a.src.equal b.src = true) :
    cRouterId o a b = cmp3 (if o.extCompareRouterId || a.isInternal then (a.src.rid : Int) else 0)
      (if o.extCompareRouterId || b.isInternal then (b.src.rid : Int) else 0) := by
  rw [cRouterId, hi, bne_self_eq_false, Bool.and_false, Bool.and_assoc, Bool.and_self,
    ← Bool.not_or]
  by_cases hl : (a.isLocal && b.isLocal) = true
  · -- two local paths have the same source, hence the same router-id
    rw [if_pos hl]
    rw [Bool.and_eq_true] at hl
    rw [srcEqual_rid (h hl.1 hl.2)]
    exact (cmp3_self _).symm
  · rw [if_neg hl]
    cases o.extCompareRouterId || b.isInternal
    · rfl
    · exact (cmp3_natCast _ _).symm

/-- Go's compareByNeighborAddress answers `first` when both addresses are invalid -/
theorem cNeighbor_eq (a b : Cand) :
    cNeighbor a b = cmp3 (addrKey a.src.addr) (addrKey b.src.addr) ∨
      cNeighbor a b = .first ∧ addrKey a.src.addr ≤ addrKey b.src.addr := by
  unfold cNeighbor
  cases a.src.addr with
  | none =>
    right
    refine ⟨rfl, ?_⟩
    cases b.src.addr with
    | none => exact Int.le_refl 0
    | some q => exact Int.le_add_one (Int.natCast_nonneg q)
  | some p =>
    left
    cases b.src.addr with
    | none => exact (cmp3_gt (show (0 : Int) < p + 1 by omega)).symm
    | some q => simp only [addrKey, cmp3, Int.add_lt_add_iff_right, Int.ofNat_lt]

theorem chain_agree (o : Opts) (a b : Cand) (wf : PairWF o a b) :
    Agree (chain o a b) (key o a) (key o b) := by
  unfold chain key
  refine .cons (cLLGR_eq a b) fun _ => .cons (cReach_eq a b) fun _ =>
    .cons (cLocalPref_eq a b) fun _ => .cons (cLocalOrigin_eq wf.local1) fun _ =>
    .cons (cAsPath_eq o a b) fun _ => .cons (cOrigin_eq wf.origA wf.origB) fun _ =>
    .cons (cMed_eq wf.med) fun _ => .cons (cAsNumber_eq a b) fun e => ?_
  -- the age and router-id steps rely on the two paths being in the same class
  have hi : a.isInternal = b.isInternal := (b2i_eq _ _).mp e
  exact .cons (cAge_eq o hi) fun _ => .cons (cRouterId_eq o hi wf.local1) fun _ =>
    .last (cNeighbor_eq a b)

theorem better_eq_lex (o : Opts) (a b : Cand) (wf : PairWF o a b) :
    better o a b = lexLe (key o a) (key o b) :=
  agree_sound _ _ _ (chain_agree o a b wf)

theorem searchLoop_spec (f : Nat → Bool) (n : Nat)
    (mono : ∀ a b, a ≤ b → b < n → f a = true → f b = true) (fuel : Nat) :
    ∀ (i j : Nat), j ≤ i + fuel → i ≤ j → j ≤ n →
      (∀ k, k < i → f k = false) → (∀ k, j ≤ k → k < n → f k = true) →
      searchLoop f fuel i j ≤ j ∧ (∀ k, k < searchLoop f fuel i j → f k = false) ∧
        (∀ k, searchLoop f fuel i j ≤ k → k < n → f k = true) := by
  induction fuel with
  | zero =>
    intro i j hd hij _ hlo hhi
    obtain rfl : i = j := Nat.le_antisymm hij hd
    exact ⟨Nat.le_refl _, hlo, hhi⟩
  | succ fuel ih =>
    intro i j hd hij hjn hlo hhi
    rw [searchLoop]
    by_cases h : i < j
    · have hm : i ≤ (i + j) / 2 ∧ (i + j) / 2 < j := by omega
      rw [if_pos h]
      generalize (i + j) / 2 = m at hm
      have hmn : m < n := Nat.lt_of_lt_of_le hm.2 hjn
      cases hf : f m
      · -- `f m = false`, so by monotonicity `f` is false up to `m`
        simp only [hf, Bool.not_false, if_true]
        have hlo' : ∀ k, k < m + 1 → f k = false := fun k hk =>
          Bool.eq_false_iff.mpr fun hfk =>
            Bool.false_ne_true (hf ▸ mono k m (Nat.le_of_lt_succ hk) hmn hfk)
        exact ih (m + 1) j (by omega) hm.2 hjn hlo' hhi
      · simp only [hf, Bool.not_true, Bool.false_eq_true, if_false]
        have := ih i m (by omega) hm.1 (Nat.le_of_lt hmn) hlo fun k hk hkn => mono m k hk hkn hf
        exact ⟨Nat.le_trans this.1 (Nat.le_of_lt hm.2), this.2⟩
    · obtain rfl : i = j := Nat.le_antisymm hij (Nat.not_lt.mp h)
      rw [if_neg h]
      exact ⟨Nat.le_refl _, hlo, hhi⟩

theorem search_spec (f : Nat → Bool) (n : Nat)
    (mono : ∀ a b, a ≤ b → b < n → f a = true → f b = true) :
    search n f ≤ n ∧ (∀ k, k < search n f → f k = false) ∧
      (∀ k, search n f ≤ k → k < n → f k = true) :=
  searchLoop_spec f n mono n 0 n (Nat.le_of_eq (Nat.zero_add n).symm) (Nat.zero_le n)
    (Nat.le_refl n) (fun _ hk => absurd hk (Nat.not_lt_zero _))
    (fun _ hk hkn => absurd hkn (Nat.not_lt.mpr hk))

def Sorted (o : Opts) (l : List Cand) : Prop := l.Pairwise (fun a b => better o a b = true)

def SetWF (o : Opts) (l : List Cand) : Prop := ∀ a ∈ l, ∀ b ∈ l, PairWF o a b

theorem SetWF.sub {o : Opts} {l l' : List Cand} (h : SetWF o l) (hs : ∀ x ∈ l', x ∈ l) :
    SetWF o l' := fun a ha b hb => h a (hs a ha) b (hs b hb)

theorem better_total (o : Opts) (a b : Cand) (w1 : PairWF o a b) (w2 : PairWF o b a) :
    better o a b = true ∨ better o b a = true := by
  rw [better_eq_lex o a b w1, better_eq_lex o b a w2]
  exact lexLe_total _ _

theorem better_trans (o : Opts) (a b c : Cand) (wab : PairWF o a b) (wbc : PairWF o b c)
    (wac : PairWF o a c) (h1 : better o a b = true) (h2 : better o b c = true) :
    better o a c = true := by
  rw [better_eq_lex o a b wab] at h1
  rw [better_eq_lex o b c wbc] at h2
  rw [better_eq_lex o a c wac]
  exact lexLe_trans _ _ _ (key_length_eq o a b) (key_length_eq o b c) h1 h2

theorem better_antisymm (o : Opts) (a b : Cand) (wab : PairWF o a b) (wba : PairWF o b a)
    (h1 : better o a b = true) (h2 : better o b a = true) : key o a = key o b := by
  rw [better_eq_lex o a b wab] at h1
  rw [better_eq_lex o b a wba] at h2
  exact lexLe_antisymm _ _ (key_length_eq o a b) h1 h2

theorem insertAt_perm (l : List Cand) (i : Nat) (x : Cand) : (insertAt l i x).Perm (x :: l) := by
  have h : (l.take i ++ x :: l.drop i).Perm (x :: (l.take i ++ l.drop i)) := List.perm_middle
  rwa [List.take_append_drop] at h

theorem insertSort_perm (o : Opts) (l : List Cand) (x : Cand) :
    (insertSort o l x).Perm (x :: l) := insertAt_perm _ _ _

theorem sorted_insertAt {o : Opts} {l : List Cand} {r : Nat} {x : Cand} (hs : Sorted o l)
    (hlo : ∀ a ∈ l.take r, better o a x = true) (hhi : ∀ b ∈ l.drop r, better o x b = true) :
    Sorted o (insertAt l r x) := by
  unfold Sorted insertAt at *
  rw [← List.take_append_drop r l, List.pairwise_append] at hs
  rw [List.pairwise_append, List.pairwise_cons]
  refine ⟨hs.1, ⟨hhi, hs.2.1⟩, fun a ha b hb => ?_⟩
  rcases List.mem_cons.mp hb with rfl | hb
  · exact hlo a ha
  · exact hs.2.2 a ha b hb

theorem insertSort_sorted (o : Opts) (l : List Cand) (x : Cand)
    (wf : SetWF o (x :: l)) (hs : Sorted o l) : Sorted o (insertSort o l x) := by
  unfold insertSort
  generalize hf : (fun (i : Nat) => match l[i]? with
    | some y => better o x y
    | none => true) = f
  have hfk : ∀ k (hk : k < l.length), f k = better o x l[k] := by
    intro k hk
    subst hf
    simp only [List.getElem?_eq_getElem hk]
  have hx : x ∈ x :: l := List.mem_cons_self
  have hm : ∀ k (hk : k < l.length), l[k] ∈ x :: l := fun k hk =>
    List.mem_cons_of_mem x (List.getElem_mem hk)
  -- `better o x ·` is monotone along the sorted list, by transitivity
  have mono : ∀ a b, a ≤ b → b < l.length → f a = true → f b = true := by
    intro a b hab hb hfa
    rcases Nat.eq_or_lt_of_le hab with rfl | hlt
    · exact hfa
    · have ha : a < l.length := Nat.lt_trans hlt hb
      rw [hfk a ha] at hfa
      rw [hfk b hb]
      exact better_trans o x l[a] l[b] (wf _ hx _ (hm a ha)) (wf _ (hm a ha) _ (hm b hb))
        (wf _ hx _ (hm b hb)) hfa (List.pairwise_iff_getElem.mp hs a b ha hb hlt)
  obtain ⟨_, hlo, hhi⟩ := search_spec f l.length mono
  generalize search l.length f = r at hlo hhi
  refine sorted_insertAt hs (fun a ha => ?_) (fun b hb => ?_)
  · -- before the insertion point `x` is not better, so by totality the entry is
    obtain ⟨k, hk, rfl⟩ := List.mem_take_iff_getElem.mp ha
    obtain ⟨hkr, hkl⟩ := Nat.lt_min.mp hk
    have h1 := hlo k hkr
    rw [hfk k hkl] at h1
    exact (better_total o x l[k] (wf _ hx _ (hm k hkl)) (wf _ (hm k hkl) _ hx)).resolve_left
      (h1 ▸ Bool.false_ne_true)
  · obtain ⟨k, hk, rfl⟩ := List.mem_drop_iff_getElem.mp hb
    have hkl : r + k < l.length := Nat.add_comm k r ▸ hk
    have h1 := hhi (r + k) (Nat.le_add_right r k) hkl
    rwa [hfk (r + k) hkl] at h1

end BestPath
