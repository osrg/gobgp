/-
C13 — what the recognisers of the pattern compiler establish about the pattern string, and what the
parser makes of a pattern that starts with `^<ASN>:`.

The recognisers accept a decimal only when `parseUint` succeeds on it and it `isCanonical`; such a
string is `toDec` of its value (`parseUint_canon`), so every recognised shape is stated with `toDec`.
-/
import Model.CommMatch
import Lemmas.C13Parse
import Lemmas.C13Dec
import Lemmas.C13Sem
namespace CommMatch
open Regex

theorem head_last_split {s : Str} {a z : Nat} (hh : s.head? = some a) (hg : s.getLast? = some z)
    (hl : 2 ≤ s.length) : s = a :: ((s.drop 1).dropLast ++ [z]) := by
  rcases List.head?_eq_some_iff.1 hh with ⟨ys, rfl⟩
  rcases List.getLast?_eq_some_iff.1 hg with ⟨zs, hz⟩
  cases zs with
  | nil =>
    rw [hz] at hl
    exact absurd hl (Nat.lt_irrefl 1)
  | cons y zs =>
    rw [List.cons_append, List.cons.injEq] at hz
    rw [hz.2, List.drop_one, List.tail_cons, List.dropLast_concat]

theorem anchoredBody_some {s b : Str} (h : anchoredBody s = some b) : s = 94 :: (b ++ [36]) := by
  unfold anchoredBody at h
  split at h
  · cases h
  · next hc =>
    simp only [Bool.or_eq_true, bne_iff_ne, ne_eq, decide_eq_true_eq, not_or, Decidable.not_not, Nat.not_lt] at hc
    cases h
    exact head_last_split hc.1.2 hc.2 (Nat.le_of_succ_le hc.1.1)

theorem fromColon_cons {s : Str} {x : Nat} {l : Str} (h : fromColon s = x :: l) :
    s = beforeColon s ++ 58 :: l ∧ ¬ (58 ∈ beforeColon s) := by
  have hx : x = 58 := by
    have := List.head?_dropWhile_not (fun c => c != 58) s
    rw [show s.dropWhile (fun c => c != 58) = x :: l from h] at this
    simpa using this
  constructor
  · rw [← hx, ← h]
    exact (List.takeWhile_append_dropWhile (p := fun c => c != 58) (l := s)).symm
  · intro hm
    have := List.all_eq_true.1 (List.all_takeWhile (p := fun c => c != 58) (l := s)) 58 hm
    simp at this

theorem parseUint_some {s : Str} {bits v : Nat} (h : parseUint s bits = some v) :
    s ≠ [] ∧ s.all isDigit = true ∧ v = digitsVal s ∧ v < 2 ^ bits := by
  unfold parseUint at h
  by_cases h1 : s.isEmpty = true
  · rw [if_pos h1] at h; cases h
  · rw [if_neg h1] at h
    by_cases h2 : (!s.all isDigit) = true
    · rw [if_pos h2] at h; cases h
    · rw [if_neg h2] at h
      by_cases h3 : digitsVal s < 2 ^ bits
      · rw [if_pos h3] at h; cases h
        exact ⟨fun e => h1 (by rw [e]; rfl), by simpa using h2, rfl, h3⟩
      · rw [if_neg h3] at h; cases h

theorem parseUint_canon {s : Str} {bits v : Nat} (h : parseUint s bits = some v)
    (hc : isCanonical s = true) : s = toDec v ∧ v < 2 ^ bits := by
  obtain ⟨h1, h2, h3, h4⟩ := parseUint_some h
  exact ⟨by rw [h3, toDec_digitsVal s h1 h2 hc], h4⟩

theorem digits_plain {A : Str} (h : A.all isDigit = true) : ∀ c ∈ A, Plain c := by
  intro c hc
  have := List.all_eq_true.1 h c hc
  simp only [isDigit, Bool.and_eq_true, decide_eq_true_eq] at this
  exact ⟨this.1, by omega⟩

theorem digits_no_colon {A : Str} (h : A.all isDigit = true) : ¬ (58 ∈ A) := by
  intro hc
  have := List.all_eq_true.1 h 58 hc
  simp [isDigit] at this

theorem colon_split_unique : ∀ {A B u v : Str}, A ++ 58 :: u = B ++ 58 :: v → ¬ (58 ∈ A) → ¬ (58 ∈ B) →
    A = B ∧ u = v := by
  intro A
  induction A with
  | nil =>
    intro B u v h _ hB
    cases B with
    | nil => simp at h; exact ⟨rfl, h⟩
    | cons b B => simp at h; exact absurd (by simp [h.1]) hB
  | cons a A ih =>
    intro B u v h hA hB
    cases B with
    | nil => simp at h; exact absurd (by simp [h.1]) hA
    | cons b B =>
      simp only [List.cons_append, List.cons.injEq] at h
      rcases ih h.2 (fun hc => hA (by simp [hc])) (fun hc => hB (by simp [hc])) with ⟨h1, h2⟩
      exact ⟨by rw [h.1, h1], h2⟩

theorem dec_colon_inj {hi a : Nat} {u v : Str} (h : toDec hi ++ 58 :: u = toDec a ++ 58 :: v) :
    hi = a ∧ u = v := by
  obtain ⟨h1, h2⟩ := colon_split_unique h (toDec_no_colon hi) (toDec_no_colon a)
  exact ⟨toDec_inj h1, h2⟩

theorem render_eq (c : Nat) : render c = toDec (c / 65536) ++ 58 :: toDec (c % 65536) := by
  simp [render]

theorem parseFull_ok {s : Str} {x : R × Bool} (h : parseFull s = .ok x) :
    ∃ tks S, lex s = .ok tks ∧ prun PSt.init tks = some S ∧ pfinish S = some x := by
  unfold parseFull at h
  split at h
  · next tks hl =>
    split at h
    · next S hr =>
      split at h
      · next y hf => cases h; exact ⟨tks, S, hl, hr, hf⟩
      · cases h
    · cases h
  · cases h
  · cases h

theorem parse_ok_full {s : Str} {r : R} (h : parse s = .ok r) : ∃ b, parseFull s = .ok (r, b) := by
  unfold parse at h
  split at h
  · next r' b hp => cases h; exact ⟨b, hp⟩
  · cases h
  · cases h

/-- the current concatenation (stored reversed) of the parser after `^w` -/
def prefP (w : Str) : List R := (w.map lit).reverse ++ [.bot]

theorem prefP_reverse (w : Str) : (prefP w).reverse = .bot :: w.map lit := by
  simp [prefP]

theorem parseFull_prefix {w rest : Str} {x : R × Bool} (hw : ∀ c ∈ w, Plain c)
    (h : parseFull (94 :: (w ++ rest)) = .ok x) :
    ∃ tks' S1, lexGo .normal rest = .ok tks' ∧ prun ⟨[], ⟨none, prefP w⟩, false⟩ tks' = some S1 ∧
      pfinish S1 = some x := by
  obtain ⟨tks, S1, hl, hr, hf⟩ := parseFull_ok h
  have hs : stepM .normal 94 = .ok (.normal, [.atom .bot]) := rfl
  obtain ⟨r1, h1, e1⟩ := lexGo_ok_cons hs hl
  obtain ⟨tks', h2, e2⟩ := lexGo_plain hw h1
  refine ⟨tks', S1, h2, ?_, hf⟩
  have e : tks = (R.bot :: w.map lit).map Tok.atom ++ tks' := by
    rw [e1, e2]; simp [List.map_map, Function.comp_def]
  rw [e, PSt.init, prun_atoms] at hr
  simpa [prefP] using hr

theorem isRep_eq (c : Nat) : isRepOp c = isRepChar c := rfl

/-- what `extractASN s = some (asn, rest)` says of the pattern (`extractASN_some`): it is `^asn:rest`
with `asn` a canonical 16-bit decimal, has no top-level `|`, and `rest` does not begin with a
repetition operator -/
structure ASNShape (s : Str) (asn : Nat) (rest : Str) : Prop where
  eq : s = 94 :: (toDec asn ++ 58 :: rest)
  lt : asn < 65536
  noAlt : hasTopAlt s = false
  noRep : ∀ c r', rest = c :: r' → isRepChar c = false

theorem extractASN_some {s : Str} {asn : Nat} {rest : Str} (h : extractASN s = some (asn, rest)) :
    ASNShape s asn rest := by
  unfold extractASN at h
  cases s with
  | nil => cases h
  | cons c t =>
    simp only at h
    by_cases hc : (c != 94 || hasTopAlt (c :: t)) = true
    · rw [if_pos hc] at h; cases h
    · rw [if_neg hc] at h
      simp only [Bool.or_eq_true, bne_iff_ne, ne_eq, not_or, Decidable.not_not, Bool.not_eq_true] at hc
      obtain ⟨rfl, hna⟩ := hc
      cases hfc : fromColon t with
      | nil => simp only [hfc] at h; cases h
      | cons x rest' =>
        simp only [hfc] at h
        by_cases hne : (beforeColon t).isEmpty = true
        · rw [if_pos hne] at h; cases h
        · rw [if_neg hne] at h
          cases hpu : parseUint (beforeColon t) 16 with
          | none => simp only [hpu] at h; cases h
          | some asn' =>
            simp only [hpu] at h
            by_cases hcan : (!isCanonical (beforeColon t)) = true
            · rw [if_pos hcan] at h; cases h
            · rw [if_neg hcan] at h
              obtain ⟨hA, hlt⟩ := parseUint_canon hpu (by simpa using hcan)
              have heq : 94 :: t = 94 :: (toDec asn' ++ 58 :: rest') := by
                rw [← hA, ← (fromColon_cons hfc).1]
              cases rest' with
              | nil =>
                cases h
                exact ⟨heq, hlt, hna, fun c r' e => by cases e⟩
              | cons r0 r1 =>
                simp only at h
                by_cases hrep : isRepOp r0 = true
                · rw [if_pos hrep] at h; cases h
                · rw [if_neg hrep] at h
                  cases h
                  refine ⟨heq, hlt, hna, ?_⟩
                  intro c r' e
                  cases e
                  rw [← isRep_eq]; simpa using hrep

theorem asPfx_plain (asn : Nat) : ∀ c ∈ toDec asn ++ [58], Plain c := by
  intro c hc
  rcases List.mem_append.1 hc with hc | hc
  · exact digits_plain (toDec_all_digit asn) c hc
  · rw [List.mem_singleton.1 hc]; exact ⟨by omega, by omega⟩

/-- the shape theorem at the level of patterns: a pattern `^asn:rest` without top-level alternation
and without a repetition operator on the colon parses to `^`, the literal `asn:`, then something -/
theorem asn_shape_parse {s : Str} {asn : Nat} {rest : Str} {r : R}
    (hs : ASNShape s asn rest) (hp : parse s = .ok r) :
    ∃ Y, r = catList (.bot :: ((toDec asn ++ [58]).map lit ++ Y)) := by
  rcases parse_ok_full hp with ⟨b, hpf⟩
  have hb : b = false := by
    have := hs.noAlt
    simp only [hasTopAlt, hpf] at this
    exact this
  subst hb
  rw [hs.eq, List.append_cons] at hpf
  rcases parseFull_prefix (asPfx_plain asn) hpf with ⟨tks', S1, hl, hr, hf⟩
  rcases prefix_shape (lex_head_not_quant hs.noRep hl) hr hf with ⟨Y, hY⟩
  exact ⟨Y, by rw [hY, prefP_reverse]; rfl⟩

theorem asn_shape_text {s : Str} {asn : Nat} {rest : Str} {r : R} {t : Str}
    (hs : ASNShape s asn rest) (hp : parse s = .ok r) (hm : search r t = true) :
    ∃ u, t = toDec asn ++ 58 :: u := by
  rcases asn_shape_parse hs hp with ⟨Y, rfl⟩
  rcases search_prefix hm with ⟨u, hu⟩
  exact ⟨u, by rw [hu, List.append_assoc]; rfl⟩

end CommMatch
