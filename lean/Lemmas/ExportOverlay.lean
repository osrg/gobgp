/-
  Lemmas about the copy-on-write overlay of Model/Export.lean:
  per-type reads after setAttr / delAttr / clone, and the bridge between GetPathAttrs (the list that
  is serialised) and getPathAttr (the per-type read): `findTyp t (getAttrs p) = getAttr p t`.
-/
import Model.Export
namespace Export

theorem findTyp_cons (t : Nat) (b : Attr) (rest : List Attr) :
    findTyp t (b :: rest) = if b.typ == t then some b else findTyp t rest := rfl

theorem findTyp_cons_self (b : Attr) (rest : List Attr) : findTyp b.typ (b :: rest) = some b :=
  if_pos (beq_self_eq_true _)

theorem findTyp_cons_ne {t : Nat} {b : Attr} (rest : List Attr) (h : b.typ ≠ t) :
    findTyp t (b :: rest) = findTyp t rest :=
  if_neg (fun e => h (beq_iff_eq.1 e))

theorem findTyp_eq_find? (t : Nat) (l : List Attr) : findTyp t l = l.find? (·.typ == t) := by
  induction l with
  | nil => rfl
  | cons b rest ih =>
    rw [findTyp_cons, List.find?_cons, ih]
    cases b.typ == t <;> rfl

theorem findTyp_some_typ {t : Nat} {l : List Attr} {a : Attr} (h : findTyp t l = some a) : a.typ = t := by
  rw [findTyp_eq_find?] at h
  have := List.find?_some h
  exact beq_iff_eq.1 this

theorem findTyp_some_mem {t : Nat} {l : List Attr} {a : Attr} (h : findTyp t l = some a) : a ∈ l := by
  rw [findTyp_eq_find?] at h
  exact List.mem_of_find?_eq_some h

theorem findTyp_none_iff {t : Nat} {l : List Attr} : findTyp t l = none ↔ ∀ a ∈ l, a.typ ≠ t := by
  simp only [findTyp_eq_find?, List.find?_eq_none, beq_iff_eq, ne_eq]

theorem hasKey_eq_isSome (t : Nat) (l : List Attr) : hasKey t l = (findTyp t l).isSome := by
  rw [findTyp_eq_find?, Bool.eq_iff_iff, List.find?_isSome]
  exact List.any_eq_true

theorem findTyp_append (t : Nat) (l1 l2 : List Attr) :
    findTyp t (l1 ++ l2) = (findTyp t l1).or (findTyp t l2) := by
  simp only [findTyp_eq_find?, List.find?_append]

theorem findTyp_setInList (a : Attr) (l : List Attr) (t : Nat) :
    findTyp t (setInList a l) = if a.typ == t then some a else findTyp t l := by
  induction l with
  | nil => rfl
  | cons b rest ih =>
    rw [setInList]
    split
    · rename_i hb
      rw [findTyp_cons, findTyp_cons, ← beq_iff_eq.1 hb]
      cases a.typ == t <;> rfl
    · rename_i hb
      rw [findTyp_cons, ih, findTyp_cons]
      cases hbt : b.typ == t <;> cases hat : a.typ == t <;> try rfl
      exact absurd (by rw [beq_iff_eq.1 hbt, beq_iff_eq.1 hat]; exact beq_self_eq_true t) hb

theorem getAttrIn_cons (t : Nat) (l : Layer) (rest : List Layer) :
    getAttrIn t (l :: rest) =
      if t ∈ l.dels then none else (findTyp t l.attrs).or (getAttrIn t rest) := by
  rw [getAttrIn]
  simp only [List.contains_eq_mem, decide_eq_true_eq]
  cases findTyp t l.attrs <;> rfl

theorem getAttr_eq (p : Path) (t : Nat) :
    getAttr p t = if t ∈ p.leaf.dels then none else (findTyp t p.leaf.attrs).or (getAttrIn t p.parents) :=
  getAttrIn_cons t p.leaf p.parents

theorem getAttr_setAttr (p : Path) (a : Attr) (t : Nat) :
    getAttr (setAttr p a) t =
      if t = a.typ then (if t ∈ p.leaf.dels then none else some a) else getAttr p t := by
  simp only [getAttr_eq, setAttr, findTyp_setInList]
  by_cases h : t = a.typ
  · subst h; simp only [beq_self_eq_true, if_true, Option.some_or]
  · have : ¬ (a.typ == t) = true := fun e => h (beq_iff_eq.1 e).symm
    simp only [if_neg h, if_neg this]

theorem getAttr_setAttr_self (p : Path) {a : Attr} {t : Nat} (ht : a.typ = t) (h : t ∉ p.leaf.dels) :
    getAttr (setAttr p a) t = some a := by
  subst ht; rw [getAttr_setAttr, if_pos rfl, if_neg h]

theorem getAttr_delAttr (p : Path) (d t : Nat) :
    getAttr (delAttr p d) t = if t = d then none else getAttr p t := by
  simp only [getAttr_eq, delAttr, List.mem_append, List.mem_singleton]
  by_cases h : t = d
  · simp only [h, or_true, if_true]
  · simp only [h, or_false, if_false]

theorem getAttr_clone (p : Path) (w : Bool) (t : Nat) : getAttr (clone p w) t = getAttr p t := by
  rw [getAttr_eq]; rfl

theorem getAttr_of_del (p : Path) (t : Nat) (h : t ∈ p.leaf.dels) : getAttr p t = none := by
  rw [getAttr_eq, if_pos h]

theorem getAttr_some_typ {p : Path} {t : Nat} {a : Attr} (h : getAttr p t = some a) : a.typ = t := by
  unfold getAttr at h
  generalize p.layers = ls at h
  induction ls with
  | nil => cases h
  | cons l rest ih =>
    rw [getAttrIn_cons] at h
    split at h
    · cases h
    · rcases Option.or_eq_some_iff.1 h with hf | ⟨_, hr⟩
      · exact findTyp_some_typ hf
      · exact ih hr

/-- insertion moves `a` only past entries of a smaller type, so never past one of its own type -/
theorem findTyp_insertByTyp (t : Nat) (a : Attr) (l : List Attr) :
    findTyp t (insertByTyp a l) = findTyp t (a :: l) := by
  induction l with
  | nil => rfl
  | cons b rest ih =>
    rw [insertByTyp]
    split
    · rfl
    · rename_i hle
      by_cases hbt : b.typ = t
      · subst hbt
        rw [findTyp_cons_self, findTyp_cons_ne _ (by omega), findTyp_cons_self]
      · rw [findTyp_cons_ne _ hbt, ih, findTyp_cons, findTyp_cons, findTyp_cons_ne rest hbt]

theorem findTyp_sortByTyp (t : Nat) (l : List Attr) : findTyp t (sortByTyp l) = findTyp t l := by
  induction l with
  | nil => rfl
  | cons a rest ih =>
    show findTyp t (insertByTyp a (sortByTyp rest)) = _
    rw [findTyp_insertByTyp, findTyp_cons, findTyp_cons, ih]

theorem findTyp_filter_ne {t x : Nat} (l : List Attr) (h : t ≠ x) :
    findTyp t (l.filter (·.typ != x)) = findTyp t l := by
  induction l with
  | nil => rfl
  | cons b rest ih =>
    by_cases hb : b.typ = x
    · rw [List.filter_cons_of_neg (by simp [hb]), ih, findTyp_cons_ne rest (by omega)]
    · rw [List.filter_cons_of_pos (by simp [hb]), findTyp_cons, findTyp_cons, ih]

theorem collects_iff (del : List Nat) (a : Attr) (mod : List Attr) :
    (!del.contains a.typ && !hasKey a.typ mod) = true ↔ a.typ ∉ del ∧ findTyp a.typ mod = none := by
  simp only [Bool.and_eq_true, Bool.not_eq_true', hasKey_eq_isSome, Option.isSome_eq_false_iff,
    Option.isNone_iff_eq_none, List.contains_eq_mem, decide_eq_false_iff_not]

/-- what the override map holds for `t` after visiting one non-root node -/
theorem findTyp_collectLayer (t : Nat) (del : List Nat) (attrs mod : List Attr) :
    findTyp t (collectLayer del attrs mod) =
      (findTyp t mod).or (if t ∈ del then none else findTyp t attrs) := by
  induction attrs generalizing mod with
  | nil => simp only [collectLayer, findTyp, ite_self, Option.or_none]
  | cons a rest ih =>
    rw [collectLayer]
    by_cases hat : a.typ = t
    · subst hat
      rw [findTyp_cons_self]
      split
      · rename_i hc
        rw [collects_iff] at hc
        rw [ih, findTyp_append, findTyp_cons_self, hc.2, if_neg hc.1, if_neg hc.1]; rfl
      · rename_i hc
        rw [ih]
        cases hm : findTyp a.typ mod with
        | some m => rfl
        | none =>
          have : a.typ ∈ del := Decidable.not_not.1 fun h => hc ((collects_iff _ _ _).2 ⟨h, hm⟩)
          rw [if_pos this, if_pos this]
    · have : findTyp t (mod ++ [a]) = findTyp t mod := by
        rw [findTyp_append, findTyp_cons_ne [] hat]; exact Option.or_none
      rw [findTyp_cons_ne rest hat]
      split
      · rw [ih, this]
      · rw [ih]

theorem findTyp_rootWalk (t : Nat) (del : List Nat) (attrs mod : List Attr) :
    findTyp t ((rootWalk del attrs mod).1 ++ (rootWalk del attrs mod).2) =
      (findTyp t mod).or (if t ∈ del then none else findTyp t attrs) := by
  induction attrs generalizing mod with
  | nil => simp only [rootWalk, List.nil_append, findTyp, ite_self, Option.or_none]
  | cons a rest ih =>
    rw [rootWalk]
    by_cases hat : a.typ = t
    · subst hat
      rw [findTyp_cons_self]
      split
      · rename_i m hm
        rw [hm, List.cons_append, ← findTyp_some_typ hm, findTyp_cons_self]; rfl
      · rename_i hm
        rw [hm]
        split
        · rename_i hd
          rw [List.cons_append, findTyp_cons_self, if_neg (by simpa using hd)]; rfl
        · rename_i hd
          have : a.typ ∈ del := by simpa using hd
          rw [ih, hm, if_pos this, if_pos this]
    · rw [findTyp_cons_ne rest hat]
      split
      · rename_i m hm
        rw [List.cons_append, findTyp_cons_ne _ (by rw [findTyp_some_typ hm]; exact hat), ih,
          findTyp_filter_ne mod (Ne.symm hat)]
      · split
        · rw [List.cons_append, findTyp_cons_ne _ hat, ih]
        · rw [ih]

/-- the root arm of GetPathAttrs returns the substituted root attributes and the leftover overrides,
    sorted when there are leftovers -/
theorem rootArm_cases (l1 l2 : List Attr) :
    (if l2.length > 0 then sortByTyp (l1 ++ l2) else l1) = sortByTyp (l1 ++ l2) ∨
    (if l2.length > 0 then sortByTyp (l1 ++ l2) else l1) = l1 ++ l2 := by
  split
  · exact Or.inl rfl
  · rename_i h
    rw [List.eq_nil_of_length_eq_zero (Nat.eq_zero_of_not_pos h), List.append_nil]
    exact Or.inr rfl

theorem ite_mem_append (t : Nat) (d1 d2 : List Nat) (x : Option Attr) :
    (if t ∈ d1 ++ d2 then none else x) = if t ∈ d1 then none else if t ∈ d2 then none else x := by
  by_cases h1 : t ∈ d1
  · rw [if_pos (List.mem_append_left d2 h1), if_pos h1]
  · simp only [List.mem_append, h1, false_or, if_false]

theorem findTyp_getAttrsGo (t : Nat) (del : List Nat) (mod : List Attr) (l : Layer) (rest : List Layer) :
    findTyp t (getAttrsGo del mod l rest) =
      (findTyp t mod).or (if t ∈ del then none else getAttrIn t (l :: rest)) := by
  induction rest generalizing l del mod with
  | nil =>
    rw [getAttrsGo, getAttrIn_cons, getAttrIn, Option.or_none, ← ite_mem_append]
    rcases rootArm_cases (rootWalk (del ++ l.dels) l.attrs mod).1 (rootWalk (del ++ l.dels) l.attrs mod).2
      with h | h
    · rw [h, findTyp_sortByTyp, findTyp_rootWalk]
    · rw [h, findTyp_rootWalk]
  | cons l' rest ih =>
    rw [getAttrsGo, ih, findTyp_collectLayer, Option.or_assoc, getAttrIn_cons t l, ← ite_mem_append]
    congr 1
    split <;> rfl

/-- **Bridge.** Reading type `t` off the list GetPathAttrs returns is getPathAttr(t). -/
theorem findTyp_getAttrs (p : Path) (t : Nat) : findTyp t (getAttrs p) = getAttr p t := by
  rw [getAttrs, findTyp_getAttrsGo]; rfl

def typs (l : List Attr) : List Nat := l.map (·.typ)

theorem mem_typs {t : Nat} {l : List Attr} : t ∈ typs l ↔ ∃ a ∈ l, a.typ = t := List.mem_map

theorem not_mem_typs {t : Nat} {l : List Attr} : t ∉ typs l ↔ findTyp t l = none := by
  rw [findTyp_none_iff, mem_typs]
  exact ⟨fun h a ha e => h ⟨a, ha, e⟩, fun h ⟨a, ha, e⟩ => h a ha e⟩

theorem findTyp_of_mem_nodup {l : List Attr} {a : Attr} (hn : (typs l).Nodup) (ha : a ∈ l) :
    findTyp a.typ l = some a := by
  induction l with
  | nil => cases ha
  | cons b rest ih =>
    rw [typs, List.map_cons, List.nodup_cons] at hn
    rcases List.mem_cons.1 ha with h | h
    · rw [h, findTyp_cons_self]
    · rw [findTyp_cons_ne rest (fun e => hn.1 (mem_typs.2 ⟨a, h, e.symm⟩))]
      exact ih hn.2 h

theorem mem_collectLayer {del : List Nat} {attrs mod : List Attr} {x : Attr}
    (h : x ∈ collectLayer del attrs mod) : x ∈ mod ∨ x ∈ attrs := by
  induction attrs generalizing mod with
  | nil => exact Or.inl h
  | cons a rest ih =>
    rw [collectLayer] at h
    split at h
    · rcases ih h with h' | h'
      · rcases List.mem_append.1 h' with h'' | h''
        · exact Or.inl h''
        · exact Or.inr (List.mem_cons.2 (Or.inl (List.mem_singleton.1 h'')))
      · exact Or.inr (List.mem_cons_of_mem _ h')
    · exact (ih h).imp_right (List.mem_cons_of_mem _)

theorem nodup_collectLayer (del : List Nat) (attrs mod : List Attr) (hn : (typs mod).Nodup) :
    (typs (collectLayer del attrs mod)).Nodup := by
  induction attrs generalizing mod with
  | nil => exact hn
  | cons a rest ih =>
    rw [collectLayer]
    split
    · rename_i hc
      apply ih
      rw [typs, List.map_append]
      exact (List.perm_append_singleton _ _).nodup_iff.2
        (List.nodup_cons.2 ⟨not_mem_typs.2 ((collects_iff _ _ _).1 hc).2, hn⟩)
    · exact ih _ hn

theorem mem_rootWalk {del : List Nat} {attrs mod : List Attr} {x : Attr}
    (h : x ∈ (rootWalk del attrs mod).1 ++ (rootWalk del attrs mod).2) : x ∈ mod ∨ x ∈ attrs := by
  induction attrs generalizing mod with
  | nil => exact Or.inl h
  | cons a rest ih =>
    rw [rootWalk] at h
    split at h
    · rename_i m hm
      rcases List.mem_cons.1 h with h | h
      · exact Or.inl (h ▸ findTyp_some_mem hm)
      · exact (ih h).imp (fun h' => (List.mem_filter.1 h').1) (List.mem_cons_of_mem _)
    · split at h
      · rcases List.mem_cons.1 h with h | h
        · exact Or.inr (h ▸ List.mem_cons_self)
        · exact (ih h).imp_right (List.mem_cons_of_mem _)
      · exact (ih h).imp_right (List.mem_cons_of_mem _)

theorem nodup_rootWalk (del : List Nat) (attrs mod : List Attr)
    (ha : (typs attrs).Nodup) (hm : (typs mod).Nodup) :
    (typs ((rootWalk del attrs mod).1 ++ (rootWalk del attrs mod).2)).Nodup := by
  induction attrs generalizing mod with
  | nil => exact hm
  | cons a rest ih =>
    rw [typs, List.map_cons, List.nodup_cons] at ha
    -- an attribute put in front is of type `a.typ`; nothing of that type follows when none is left in the overrides
    have fresh : ∀ mod', findTyp a.typ mod' = none →
        a.typ ∉ typs ((rootWalk del rest mod').1 ++ (rootWalk del rest mod').2) := by
      intro mod' hnone hin
      rcases mem_typs.1 hin with ⟨x, hx, hxt⟩
      rcases mem_rootWalk hx with h' | h'
      · exact findTyp_none_iff.1 hnone x h' hxt
      · exact ha.1 (mem_typs.2 ⟨x, h', hxt⟩)
    rw [rootWalk]
    split
    · rename_i m hfm
      have hf : (typs (mod.filter (·.typ != a.typ))).Nodup :=
        (List.Sublist.map _ List.filter_sublist).nodup hm
      have hnone : findTyp a.typ (mod.filter (·.typ != a.typ)) = none :=
        findTyp_none_iff.2 fun x hx => by simpa using (List.mem_filter.1 hx).2
      rw [List.cons_append, typs, List.map_cons, List.nodup_cons, findTyp_some_typ hfm]
      exact ⟨fresh _ hnone, ih _ ha.2 hf⟩
    · rename_i hfm
      split
      · rw [List.cons_append, typs, List.map_cons, List.nodup_cons]
        exact ⟨fresh _ hfm, ih _ ha.2 hm⟩
      · exact ih _ ha.2 hm

theorem perm_insertByTyp (a : Attr) (l : List Attr) : (insertByTyp a l).Perm (a :: l) := by
  induction l with
  | nil => exact List.Perm.refl _
  | cons b rest ih =>
    rw [insertByTyp]
    split
    · exact List.Perm.refl _
    · exact (List.Perm.cons b ih).trans (List.Perm.swap a b rest)

theorem perm_sortByTyp (l : List Attr) : (sortByTyp l).Perm l := by
  induction l with
  | nil => exact List.Perm.refl _
  | cons a rest ih => exact (perm_insertByTyp a _).trans (List.Perm.cons a ih)

def rootOf : Layer → List Layer → Layer
  | l, [] => l
  | _, l' :: rest => rootOf l' rest

/-- the root node of the parent chain (what came off the wire / from the API) -/
def Path.root (p : Path) : Layer := rootOf p.leaf p.parents

theorem nodup_getAttrsGo (del : List Nat) (mod : List Attr) (l : Layer) (rest : List Layer)
    (hr : (typs (rootOf l rest).attrs).Nodup) (hm : (typs mod).Nodup) :
    (typs (getAttrsGo del mod l rest)).Nodup := by
  induction rest generalizing l del mod with
  | nil =>
    have h := nodup_rootWalk (del ++ l.dels) l.attrs mod hr hm
    rw [getAttrsGo]
    rcases rootArm_cases (rootWalk (del ++ l.dels) l.attrs mod).1 (rootWalk (del ++ l.dels) l.attrs mod).2
      with e | e
    · rw [e]; exact ((perm_sortByTyp _).map _).nodup_iff.2 h
    · rw [e]; exact h
  | cons l' rest ih =>
    rw [getAttrsGo]
    exact ih _ _ _ hr (nodup_collectLayer _ _ _ hm)

theorem nodup_getAttrs (p : Path) (h : (typs p.root.attrs).Nodup) : (typs (getAttrs p)).Nodup :=
  nodup_getAttrsGo [] [] p.leaf p.parents h List.nodup_nil

theorem getAttr_of_mem_getAttrs (p : Path) (h : (typs p.root.attrs).Nodup) {a : Attr}
    (ha : a ∈ getAttrs p) : getAttr p a.typ = some a := by
  rw [← findTyp_getAttrs]
  exact findTyp_of_mem_nodup (nodup_getAttrs p h) ha

theorem mem_getAttrs_of_getAttr {p : Path} {t : Nat} {a : Attr} (h : getAttr p t = some a) :
    a ∈ getAttrs p := by
  rw [← findTyp_getAttrs] at h
  exact findTyp_some_mem h

theorem getAttr_none_iff (p : Path) (t : Nat) : getAttr p t = none ↔ ∀ a ∈ getAttrs p, a.typ ≠ t := by
  rw [← findTyp_getAttrs]; exact findTyp_none_iff

end Export
