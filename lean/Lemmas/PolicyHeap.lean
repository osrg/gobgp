import Model.PolicyHeap
/-! frame and refinement lemmas for the Go-slice heap -/
namespace PolicyHeap

theorem cells_append (h : Heap) (x : List Nat) (i : Nat) (hi : i < h.length) :
    cells (h ++ [x]) i = cells h i := by
  rw [cells, cells, List.getD_eq_getElem?_getD, List.getD_eq_getElem?_getD, List.getElem?_append_left hi]

theorem cells_append_new (h : Heap) (x : List Nat) : cells (h ++ [x]) h.length = x := by
  rw [cells, List.getD_eq_getElem?_getD, List.getElem?_append_right (Nat.le_refl _), Nat.sub_self]
  rfl

theorem allocCap_frame (h : Heap) (vals : List Nat) (cap : Nat) (t : Slice) (ht : t.arr < h.length) :
    read (allocCap h vals cap).1 t = read h t := by
  rw [read, read, allocCap, cells_append _ _ _ ht]

theorem allocCap_length (h : Heap) (vals : List Nat) (cap : Nat) :
    (allocCap h vals cap).1.length = h.length + 1 :=
  List.length_append

theorem allocCap_read (h : Heap) (vals : List Nat) (cap : Nat) :
    read (allocCap h vals cap).1 (allocCap h vals cap).2 = vals := by
  rw [read, allocCap, cells_append_new]
  exact List.take_left

theorem get_set (r : HRoute) (w : Nat) (s : Slice) : (r.set w s).get w = s := by
  match w with
  | 0 => rfl
  | 1 => rfl
  | n + 2 => rfl

theorem hAct_frame (h : Heap) (r : HRoute) (a : HAct) (t : Slice) (ht : t.arr < h.length) :
    read (hAct h r a).1 t = read h t :=
  allocCap_frame _ _ _ _ ht

theorem hAct_length (h : Heap) (r : HRoute) (a : HAct) : (hAct h r a).1.length = h.length + 1 :=
  allocCap_length _ _ _

theorem hAct_refines (h : Heap) (r : HRoute) (a : HAct) :
    read (hAct h r a).1 ((hAct h r a).2.get a.which) = listAct a.op a.vals (read h (r.get a.which)) := by
  rw [hAct, get_set]
  exact allocCap_read _ _ _

theorem hActs_frame (h : Heap) (r : HRoute) (acts : List HAct) :
    ∀ t : Slice, t.arr < h.length → read (hActs h r acts).1 t = read h t := by
  induction acts generalizing h r with
  | nil => intro t _; rfl
  | cons a rest ih =>
    intro t ht
    rw [hActs, ih _ _ t (by rw [hAct_length]; exact Nat.lt_succ_of_lt ht)]
    exact hAct_frame h r a t ht

theorem goAppend_frame_of_grow (h : Heap) (s : Slice) (xs : List Nat) (hgrow : s.cap < s.len + xs.length)
    (t : Slice) (ht : t.arr < h.length) :
    read (goAppend h s xs).1 t = read h t := by
  rw [goAppend, if_neg (Nat.not_le.mpr hgrow)]
  exact allocCap_frame _ _ _ _ ht

end PolicyHeap
