/-
C13 — the decimal rendering `toDec`: it consists of digits, is canonical and injective, and
`digitsVal` inverts it on non-empty canonical digit strings (`toDec_digitsVal`), which is how a decimal
the recognisers accept becomes `toDec` of its value.
-/
import Model.CommMatch
namespace CommMatch
open Regex

theorem toDecAux_acc (f : Nat) : ∀ (n : Nat) (acc : Str),
    toDecAux f n acc = toDecAux f n [] ++ acc := by
  induction f with
  | zero => intro n acc; rfl
  | succ f ih =>
    intro n acc
    simp only [toDecAux]
    split
    · rfl
    · rw [ih, ih _ [_], List.append_assoc]
      rfl

theorem toDecAux_fuel (f : Nat) : ∀ (g n : Nat) (acc : Str), n < f → n < g →
    toDecAux f n acc = toDecAux g n acc := by
  induction f with
  | zero => intro g n acc hf; omega
  | succ f ih =>
    intro g n acc hf hg
    cases g with
    | zero => omega
    | succ g =>
      simp only [toDecAux]
      split
      · rfl
      · exact ih _ _ _ (by omega) (by omega)

theorem toDec_eq (n : Nat) :
    toDec n = if n < 10 then [48 + n] else toDec (n / 10) ++ [48 + n % 10] := by
  unfold toDec
  rw [toDecAux]
  split
  · rfl
  · rw [toDecAux_acc, toDecAux_fuel n (n / 10 + 1) (n / 10) [] (by omega) (by omega)]

theorem toDec_small {n : Nat} (h : n < 10) : toDec n = [48 + n] := by
  rw [toDec_eq, if_pos h]

theorem toDec_big {n : Nat} (h : ¬ n < 10) : toDec n = toDec (n / 10) ++ [48 + n % 10] := by
  rw [toDec_eq, if_neg h]

theorem toDec_induction {P : Nat → Prop} (small : ∀ n, n < 10 → P n)
    (big : ∀ n, ¬ n < 10 → P (n / 10) → P n) (n : Nat) : P n := by
  induction n using Nat.strongRecOn with
  | _ n ih =>
    by_cases h : n < 10
    · exact small n h
    · exact big n h (ih (n / 10) (by omega))

theorem toDec_ne_nil (n : Nat) : toDec n ≠ [] := by
  by_cases h : n < 10
  · rw [toDec_small h]; simp
  · rw [toDec_big h]; simp

theorem isDigit_iff {c : Nat} : isDigit c = true ↔ 48 ≤ c ∧ c ≤ 57 := by
  simp [isDigit]

theorem toDec_mem {n c : Nat} : c ∈ toDec n → 48 ≤ c ∧ c ≤ 57 := by
  induction n using toDec_induction with
  | small n h =>
    intro hc
    rw [toDec_small h, List.mem_singleton] at hc
    omega
  | big n h ih =>
    intro hc
    rw [toDec_big h, List.mem_append, List.mem_singleton] at hc
    rcases hc with hc | rfl
    · exact ih hc
    · omega

theorem toDec_all_digit (n : Nat) : (toDec n).all isDigit = true :=
  List.all_eq_true.2 fun _ hc => isDigit_iff.2 (toDec_mem hc)

theorem toDec_no_colon (n : Nat) : ¬ (58 ∈ toDec n) := fun h => by
  have := toDec_mem h
  omega

theorem toDec_no_newline (n : Nat) : ¬ (10 ∈ toDec n) := fun h => by
  have := toDec_mem h
  omega

theorem toDec_head (n : Nat) (hn : 1 ≤ n) : ∃ c t, toDec n = c :: t ∧ c ≠ 48 := by
  induction n using toDec_induction with
  | small n h => exact ⟨48 + n, [], toDec_small h, by omega⟩
  | big n h ih =>
    obtain ⟨c, t, hct, hc⟩ := ih (by omega)
    exact ⟨c, t ++ [48 + n % 10], by rw [toDec_big h, hct, List.cons_append], hc⟩

theorem isCanonical_cons (c : Nat) (t : Str) : isCanonical (c :: t) = true ↔ t = [] ∨ c ≠ 48 := by
  cases t <;> simp [isCanonical]

theorem toDec_canonical (n : Nat) : isCanonical (toDec n) = true := by
  by_cases h : n < 10
  · rw [toDec_small h]; rfl
  · obtain ⟨c, t, hct, hc⟩ := toDec_head (n / 10) (by omega)
    rw [toDec_big h, hct, List.cons_append, isCanonical_cons]
    exact .inr hc

theorem digitsVal_append_single (s : Str) (d : Nat) :
    digitsVal (s ++ [d]) = digitsVal s * 10 + (d - 48) := by
  simp [digitsVal, List.foldl_append]

theorem digitsVal_toDec (n : Nat) : digitsVal (toDec n) = n := by
  induction n using toDec_induction with
  | small n h =>
    rw [toDec_small h]
    simp [digitsVal]
  | big n h ih =>
    rw [toDec_big h, digitsVal_append_single, ih]
    omega

theorem toDec_inj {a b : Nat} (h : toDec a = toDec b) : a = b := by
  have := congrArg digitsVal h
  rwa [digitsVal_toDec, digitsVal_toDec] at this

theorem snoc_digit (v : Nat) {x : Nat} (h : x < 10) :
    (v * 10 + x) / 10 = v ∧ (v * 10 + x) % 10 = x := by
  omega

/-- stated for `r.reverse` so that the induction runs over the digit string from its end -/
theorem toDec_digitsVal_rev {c : Nat} (hc : isDigit c = true) : ∀ r : Str, r.all isDigit = true →
    (r = [] ∨ c ≠ 48) → toDec (digitsVal (c :: r.reverse)) = c :: r.reverse := by
  rw [isDigit_iff] at hc
  intro r
  induction r with
  | nil =>
    intro _ _
    have hv : digitsVal [c] = c - 48 := by simp [digitsVal]
    rw [List.reverse_nil, hv, toDec_small (by omega)]
    congr
    omega
  | cons d r ih =>
    intro h2 h0
    have h0 : c ≠ 48 := h0.resolve_left (List.cons_ne_nil _ _)
    simp only [List.all_cons, Bool.and_eq_true] at h2
    have hd := isDigit_iff.1 h2.1
    have ih := ih h2.2 (.inr h0)
    obtain ⟨x, rfl⟩ : ∃ x, d = 48 + x := ⟨d - 48, by omega⟩
    rw [List.reverse_cons, ← List.cons_append, digitsVal_append_single, Nat.add_sub_cancel_left]
    generalize digitsVal (c :: r.reverse) = v at ih ⊢
    -- the value read so far is not 0, since its decimal form does not start with `0`
    have hpos : v ≠ 0 := by
      intro hz
      rw [hz, toDec_small (by omega)] at ih
      injection ih with hh _
      omega
    obtain ⟨e1, e2⟩ := snoc_digit v (show x < 10 by omega)
    rw [toDec_big (by omega), e1, e2, ih]

theorem toDec_digitsVal (s : Str) (h1 : s ≠ []) (h2 : s.all isDigit = true)
    (h3 : isCanonical s = true) : toDec (digitsVal s) = s := by
  cases s with
  | nil => exact absurd rfl h1
  | cons c t =>
    simp only [List.all_cons, Bool.and_eq_true] at h2
    have := toDec_digitsVal_rev h2.1 t.reverse (by rw [List.all_reverse]; exact h2.2)
      (((isCanonical_cons c t).1 h3).imp_left (by simp))
    rwa [List.reverse_reverse] at this

end CommMatch
