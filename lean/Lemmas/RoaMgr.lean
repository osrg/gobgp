/-
  Lemmas for C16 about the RTR client / manager model: what one response does to the table,
  and the invariants every history keeps.
-/
import Lemmas.Roa
namespace Roa

/-- the PDUs of one connection, handled in order (HandleROAEvent(roaRTR) … for one client) -/
def feed (t : Table) (c : Client) (pdus : List Pdu) : Table × Client :=
  pdus.foldl (fun s pdu => ((handleRTR s.1 s.2 pdu).1, (handleRTR s.1 s.2 pdu).2.1)) (t, c)

theorem feed_nil (t : Table) (c : Client) : feed t c [] = (t, c) := rfl

theorem feed_cons (t : Table) (c : Client) (pdu : Pdu) (rest : List Pdu) :
    feed t c (pdu :: rest) = feed (handleRTR t c pdu).1 (handleRTR t c pdu).2.1 rest := rfl

theorem feed_append (t : Table) (c : Client) (l1 l2 : List Pdu) :
    feed t c (l1 ++ l2) = feed (feed t c l1).1 (feed t c l1).2 l2 :=
  List.foldl_append

/-- an announcement or withdrawal as sent by the cache -/
structure Delta where
  announce : Bool
  p        : Prefix
  maxLen   : Nat
  as       : Nat
deriving Repr, DecidableEq

def Delta.pdu (d : Delta) : Pdu := .prefix d.announce d.p d.maxLen d.as
def Delta.toRec (h : Nat) (d : Delta) : Rec := (d.p, ⟨d.maxLen, d.as, h⟩)

/-- "announced and not withdrawn": the set semantics of one delta, in order -/
def applyDelta (h : Nat) (S : List Rec) (d : Delta) : List Rec :=
  if d.announce then d.toRec h :: S else S.filter fun x => x != d.toRec h

theorem mem_applyDelta_announce {d : Delta} (ha : d.announce = true) (h : Nat) (S : List Rec) (x : Rec) :
    x ∈ applyDelta h S d ↔ x = d.toRec h ∨ x ∈ S := by
  rw [applyDelta, if_pos ha, List.mem_cons]

theorem mem_applyDelta_withdraw {d : Delta} (ha : d.announce = false) (h : Nat) (S : List Rec) (x : Rec) :
    x ∈ applyDelta h S d ↔ x ∈ S ∧ x ≠ d.toRec h := by
  rw [applyDelta, if_neg (ha ▸ Bool.false_ne_true), List.mem_filter, bne_iff_ne]

theorem mem_foldl_announce (h : Nat) (ds : List Delta) (hall : ∀ d ∈ ds, d.announce = true)
    (S : List Rec) (x : Rec) :
    x ∈ ds.foldl (applyDelta h) S ↔ (∃ d ∈ ds, x = d.toRec h) ∨ x ∈ S := by
  induction ds generalizing S with
  | nil => simp only [List.foldl_nil, List.not_mem_nil, false_and, exists_false, false_or]
  | cons d ds ih =>
    rw [List.foldl_cons, ih (fun d' hd' => hall d' (List.mem_cons_of_mem _ hd')),
      mem_applyDelta_announce (hall d List.mem_cons_self)]
    simp only [List.mem_cons, exists_eq_or_imp]
    rw [or_left_comm, or_assoc]

theorem handleRTR_announce_buffered (t : Table) (c : Client) {d : Delta} (ha : d.announce = true)
    (he : c.endOfData = false) :
    handleRTR t c d.pdu = (t, { c with pending := c.pending ++ [d.toRec c.host] }, []) := by
  simp only [Delta.pdu, handleRTR, ha, he, if_true, Bool.false_eq_true, if_false, Delta.toRec]

theorem handleRTR_withdraw (t : Table) (c : Client) {d : Delta} (ha : d.announce = false) :
    handleRTR t c d.pdu = (delete t d.p ⟨d.maxLen, d.as, c.host⟩,
      { c with pending := c.pending.filter fun x => x != d.toRec c.host }, []) := by
  simp only [Delta.pdu, handleRTR, ha, Bool.false_eq_true, if_false, Delta.toRec]

/-- While End of Data is outstanding, prefix PDUs move the buffer together with any part of the
    table (the records satisfying `keep`) exactly as `applyDelta` moves a set: a withdrawal
    removes from both, an announcement reaches the buffer only.  `keep := True` is what the
    answer to a Serial Query needs, `keep := (·.2.src ≠ c.host)` is what survives the purge at
    the end of the answer to a Reset Query. -/
theorem feed_deltas (ds : List Delta) (t : Table) (c : Client) (he : c.endOfData = false) (wf : WF t) :
    let r := feed t c (ds.map Delta.pdu)
    (∀ (keep : Rec → Prop) (S : List Rec), (∀ x, x ∈ S ↔ x ∈ c.pending ∨ (x ∈ recs t ∧ keep x)) →
        ∀ x, x ∈ ds.foldl (applyDelta c.host) S ↔ x ∈ r.2.pending ∨ (x ∈ recs r.1 ∧ keep x)) ∧
      WF r.1 ∧ r.2.host = c.host ∧ r.2.session = c.session ∧ r.2.queries = c.queries := by
  induction ds generalizing t c with
  | nil => exact ⟨fun _ _ hS => hS, wf, rfl, rfl, rfl⟩
  | cons d ds ih =>
    simp only [List.map_cons, feed_cons, List.foldl_cons]
    cases ha : d.announce with
    | true =>
      rw [handleRTR_announce_buffered t c ha he]
      have ih := ih t { c with pending := c.pending ++ [d.toRec c.host] } he wf
      refine ⟨fun keep S hS => ih.1 keep _ fun x => ?_, ih.2⟩
      rw [mem_applyDelta_announce ha, hS, List.mem_append, List.mem_singleton, or_left_comm,
        or_assoc]
    | false =>
      rw [handleRTR_withdraw t c ha]
      have ih := ih (delete t d.p ⟨d.maxLen, d.as, c.host⟩)
        { c with pending := c.pending.filter fun x => x != d.toRec c.host } he (wf_delete _ _ _ wf)
      refine ⟨fun keep S hS => ih.1 keep _ fun x => ?_, ih.2⟩
      rw [mem_applyDelta_withdraw ha, hS, List.mem_filter, bne_iff_ne, or_and_right,
        and_right_comm]
      exact or_congr_right (and_congr_left fun _ => (mem_recs_delete t _ _ x wf).symm)

theorem findClient_some {cs : List Client} {h : Nat} {c : Client} (hf : findClient cs h = some c) :
    c ∈ cs ∧ c.host = h := by
  unfold findClient at hf
  have hh := List.find?_some hf
  exact ⟨List.mem_of_find?_eq_some hf, beq_iff_eq.mp hh⟩

theorem findClient_none {cs : List Client} {h : Nat} (hf : findClient cs h = none) :
    ∀ c ∈ cs, c.host ≠ h :=
  fun c hc e => List.find?_eq_none.mp hf c hc (beq_iff_eq.mpr e)

theorem hosts_setClient (cs : List Client) (c : Client) :
    (setClient cs c).map (·.host) = cs.map (·.host) := by
  rw [setClient, List.map_map]
  refine List.map_congr_left fun x _ => ?_
  show (if x.host == c.host then c else x).host = x.host
  split
  · rename_i hx
    exact (beq_iff_eq.mp hx).symm
  · rfl

theorem mem_setClient {cs : List Client} {c y : Client} (hy : y ∈ setClient cs c) : y = c ∨ y ∈ cs := by
  obtain ⟨x, hx, e⟩ := List.mem_map.mp hy
  split at e
  · exact Or.inl e.symm
  · exact Or.inr (e ▸ hx)

theorem mem_setClient_host {cs : List Client} {c y : Client} (hy : y ∈ setClient cs c)
    (hh : y.host = c.host) : y = c := by
  obtain ⟨x, _, e⟩ := List.mem_map.mp hy
  split at e
  · exact e.symm
  · rename_i hne
    exact absurd (beq_iff_eq.mpr (e ▸ hh)) hne

structure Keeps (c c' : Client) : Prop where
  host     : c'.host = c.host
  timer    : c'.timer = c.timer
  timerGen : c'.timerGen = c.timerGen
  pending  : ∀ x ∈ c'.pending, x ∈ c.pending

theorem Keeps.refl (c : Client) : Keeps c c := ⟨rfl, rfl, rfl, fun _ h => h⟩

theorem Keeps.trans {a b c : Client} (h1 : Keeps a b) (h2 : Keeps b c) : Keeps a c :=
  ⟨h2.host.trans h1.host, h2.timer.trans h1.timer, h2.timerGen.trans h1.timerGen,
    fun x hx => h1.pending x (h2.pending x hx)⟩

theorem keeps_enable (c : Client) : Keeps c c.enable.1 := by
  unfold Client.enable
  split
  · exact ⟨rfl, rfl, rfl, fun _ h => h⟩
  · exact .refl c

theorem keeps_softReset (c : Client) : Keeps c c.softReset.1 := by
  unfold Client.softReset
  split
  · exact ⟨rfl, rfl, rfl, fun _ h => absurd h List.not_mem_nil⟩
  · exact .refl c

theorem keeps_reset (c : Client) : Keeps c c.reset := by
  unfold Client.reset
  split
  · exact ⟨rfl, rfl, rfl, fun _ h => h⟩
  · exact .refl c

theorem keeps_answered (c : Client) : Keeps c c.answered.1 := by
  unfold Client.answered
  split
  · exact .refl c
  · exact ⟨rfl, rfl, rfl, fun _ h => h⟩

theorem answered_snd (c : Client) : c.answered.2 = c.queries.headD false := by
  unfold Client.answered
  cases c.queries with
  | nil => rfl
  | cons _ _ => rfl

theorem answered_queries (c : Client) : c.answered.1.queries = c.queries.tail := by
  unfold Client.answered
  split
  · rename_i h
    exact h.trans (congrArg List.tail h).symm
  · rename_i h
    exact (congrArg List.tail h).symm

structure TouchesOnly (h : Nat) (t t' : Table) : Prop where
  wf     : WF t'
  others : ∀ x : Rec, x.2.src ≠ h → (x ∈ recs t' ↔ x ∈ recs t)

theorem TouchesOnly.refl {h : Nat} {t : Table} (wf : WF t) : TouchesOnly h t t := ⟨wf, fun _ _ => .rfl⟩

theorem TouchesOnly.trans {h : Nat} {t1 t2 t3 : Table} (h1 : TouchesOnly h t1 t2)
    (h2 : TouchesOnly h t2 t3) : TouchesOnly h t1 t3 :=
  ⟨h2.wf, fun x hx => (h2.others x hx).trans (h1.others x hx)⟩

theorem touchesOnly_add (p : Prefix) (r : Roa) {t : Table} (wf : WF t) :
    TouchesOnly r.src t (add t p r) :=
  ⟨wf_add t p r wf, fun x hx => (mem_recs_add t p r x).trans (or_iff_right fun e => hx (e ▸ rfl))⟩

theorem touchesOnly_delete (p : Prefix) (r : Roa) {t : Table} (wf : WF t) :
    TouchesOnly r.src t (delete t p r) :=
  ⟨wf_delete t p r wf,
    fun x hx => (mem_recs_delete t p r x wf).trans (and_iff_left fun e => hx (e ▸ rfl))⟩

theorem touchesOnly_deleteAll (h : Nat) {t : Table} (wf : WF t) : TouchesOnly h t (deleteAll t h) :=
  ⟨wf_deleteAll t h wf, fun x hx => (mem_recs_deleteAll t h x).trans (and_iff_left hx)⟩

theorem touchesOnly_addAll {h : Nat} {l : List Rec} (hl : ∀ x ∈ l, x.2.src = h) {t : Table} (wf : WF t) :
    TouchesOnly h t (addAll t l) :=
  ⟨wf_addAll l t wf, fun x hx => (mem_recs_addAll l t x).trans (or_iff_right fun hm => hx (hl x hm))⟩

/-- What any event does to the client it addresses and to the table.  `n` is the number of
    lifetime timers armed so far, so `n < c'.timerGen` is a generation not issued before.  The
    table clause needs the client to buffer only its own records, because End of Data adds the
    buffer to the table. -/
structure Evolves (n : Nat) (c c' : Client) (t t' : Table) : Prop where
  host    : c'.host = c.host
  pending : ∀ x ∈ c'.pending, x ∈ c.pending ∨ x.2.src = c.host
  timer   : c'.timer = false ∨ (c'.timer = c.timer ∧ c'.timerGen = c.timerGen) ∨ n < c'.timerGen
  table   : WF t → (∀ x ∈ c.pending, x.2.src = c.host) → TouchesOnly c.host t t'

theorem Keeps.evolves {c c' : Client} {n : Nat} {t t' : Table} (h : Keeps c c')
    (ht : WF t → TouchesOnly c.host t t') : Evolves n c c' t t' :=
  ⟨h.host, fun x hx => Or.inl (h.pending x hx), Or.inr (Or.inl ⟨h.timer, h.timerGen⟩), fun wf _ => ht wf⟩

theorem handleRTR_evolves (n : Nat) (t : Table) (c : Client) (pdu : Pdu) :
    Evolves n c (handleRTR t c pdu).2.1 t (handleRTR t c pdu).1 := by
  cases pdu with
  | serialNotify sid sn =>
    simp only [handleRTR]
    split
    · exact (keeps_enable c).evolves .refl
    · split
      · exact (Keeps.refl c).evolves .refl
      · exact (keeps_softReset c).evolves .refl
  | cacheResponse sid => exact Keeps.evolves ⟨rfl, rfl, rfl, fun _ h => h⟩ .refl
  | «prefix» ann p ml as =>
    simp only [handleRTR]
    split
    · split
      · exact (Keeps.refl c).evolves (touchesOnly_add p ⟨ml, as, c.host⟩)
      · -- a buffered announcement is the client's own record
        refine ⟨rfl, fun x hx => ?_, Or.inr (Or.inl ⟨rfl, rfl⟩), fun wf _ => .refl wf⟩
        rcases List.mem_append.mp hx with hx | hx
        · exact Or.inl hx
        · exact Or.inr (List.mem_singleton.mp hx ▸ rfl)
    · exact Keeps.evolves ⟨rfl, rfl, rfl, fun x hx => (List.mem_filter.mp hx).1⟩
        (touchesOnly_delete p ⟨ml, as, c.host⟩)
  | endOfData sid sn =>
    -- End of Data stops the timer and moves the buffer into the (possibly purged) table
    refine ⟨(keeps_answered c).host, fun _ h => absurd h List.not_mem_nil, Or.inl rfl, fun wf hp => ?_⟩
    simp only [handleRTR]
    split
    · exact (touchesOnly_deleteAll c.host wf).trans (touchesOnly_addAll hp (wf_deleteAll _ _ wf))
    · exact touchesOnly_addAll hp wf
  | cacheReset => exact ((keeps_answered c).trans (keeps_softReset _)).evolves .refl
  | errorReport => exact (keeps_answered c).evolves .refl
  | other => exact (Keeps.refl c).evolves .refl

/-- Every event does one of four things to the manager (`step_moves`); the invariants are shown
    to survive each of the four, not each event. -/
inductive Moves (m : Mgr) : Mgr → Prop
  | same : Moves m m
  | added (h : Nat) : Moves m { m with clients := m.clients ++ [{ host := h }] }
  | deleted (h : Nat) :
    Moves m { m with clients := m.clients.filter (fun c => c.host != h), table := deleteAll m.table h }
  | updated {c c' : Client} {t' : Table} {k : Nat} (hc : c ∈ m.clients)
    (he : Evolves m.timerSeq c c' m.table t') (hk : m.timerSeq ≤ k) :
    Moves m ⟨setClient m.clients c', t', k⟩

theorem step_moves (m : Mgr) (e : Ev) : Moves m (step m e).1 := by
  cases e with
  | addServer h =>
    simp only [step]
    split
    · exact .same
    · exact .added h
  | deleteServer h =>
    simp only [step]
    split
    · exact .same
    · exact .deleted h
  | connected h =>
    simp only [step]
    split
    · exact .same
    · rename_i c hf
      have hk : Keeps c { c with conn := .open } := ⟨rfl, rfl, rfl, fun _ h => h⟩
      exact .updated (findClient_some hf).1 ((hk.trans (keeps_softReset _)).evolves .refl) (Nat.le_refl _)
  | connClosed h =>
    simp only [step]
    split
    · exact .same
    · rename_i c hf
      exact .updated (findClient_some hf).1 ((keeps_reset c).evolves .refl) (Nat.le_refl _)
  | disconnected h =>
    simp only [step]
    split
    · exact .same
    · rename_i c hf
      -- a pending timer is left alone, otherwise the next generation is taken
      cases ht : c.timer with
      | true =>
        exact .updated (findClient_some hf).1
          ⟨rfl, fun _ h => absurd h List.not_mem_nil, Or.inr (Or.inl ⟨ht.symm, rfl⟩), fun wf _ => .refl wf⟩
          (Nat.le_refl _)
      | false =>
        exact .updated (findClient_some hf).1
          ⟨rfl, fun _ h => absurd h List.not_mem_nil, Or.inr (Or.inr (Nat.lt_succ_self _)), fun wf _ => .refl wf⟩
          (Nat.le_succ _)
  | lifetime h g =>
    simp only [step]
    split
    · exact .same
    · rename_i c hf
      obtain ⟨hc, rfl⟩ := findClient_some hf
      have he {t'} (ht : WF m.table → TouchesOnly c.host m.table t') :
          Evolves m.timerSeq c { c with timer := false } m.table t' :=
        ⟨rfl, fun x hx => Or.inl hx, Or.inl rfl, fun wf _ => ht wf⟩
      split
      · exact .same
      · split
        · exact .updated hc (he .refl) (Nat.le_refl _)
        · exact .updated hc (he (touchesOnly_deleteAll _)) (Nat.le_refl _)
  | rtr h pdu =>
    simp only [step]
    split
    · exact .same
    · rename_i c hf
      exact .updated (findClient_some hf).1 (handleRTR_evolves _ m.table c pdu) (Nat.le_refl _)
  | enable h =>
    simp only [step]
    split
    · exact .same
    · rename_i c hf
      exact .updated (findClient_some hf).1 ((keeps_enable c).evolves .refl) (Nat.le_refl _)
  | disable h =>
    simp only [step]
    split
    · exact .same
    · rename_i c hf
      obtain ⟨hc, rfl⟩ := findClient_some hf
      exact .updated hc ((keeps_reset c).evolves (touchesOnly_deleteAll _)) (Nat.le_refl _)
  | softReset h =>
    simp only [step]
    split
    · exact .same
    · rename_i c hf
      obtain ⟨hc, rfl⟩ := findClient_some hf
      exact .updated hc ((keeps_softReset c).evolves (touchesOnly_deleteAll _)) (Nat.le_refl _)

/-- what every reachable manager state satisfies -/
structure Inv (m : Mgr) : Prop where
  wf      : WF m.table
  /-- every record in the table belongs to a configured cache -/
  src     : ∀ x ∈ recs m.table, x.2.src ∈ m.clients.map (·.host)
  /-- a client buffers only its own records -/
  pending : ∀ c ∈ m.clients, ∀ x ∈ c.pending, x.2.src = c.host

theorem inv_empty : Inv {} := ⟨wf_nil, fun _ h => absurd h List.not_mem_nil, fun _ h => absurd h List.not_mem_nil⟩

theorem inv_moves {m m' : Mgr} (hm : Moves m m') (hi : Inv m) : Inv m' := by
  cases hm with
  | same => exact hi
  | added h =>
    refine ⟨hi.wf, fun x hx => ?_, fun c hc x hx => ?_⟩
    · rw [List.map_append]
      exact List.mem_append_left _ (hi.src x hx)
    · rcases List.mem_append.mp hc with hc | hc
      · exact hi.pending c hc x hx
      · rw [List.mem_singleton.mp hc] at hx
        nomatch hx
  | deleted h =>
    refine ⟨wf_deleteAll _ _ hi.wf, fun x hx => ?_, fun c hc => hi.pending c (List.mem_filter.mp hc).1⟩
    rw [mem_recs_deleteAll] at hx
    obtain ⟨c, hc, e⟩ := List.mem_map.mp (hi.src x hx.1)
    exact List.mem_map.mpr ⟨c, List.mem_filter.mpr ⟨hc, bne_iff_ne.mpr (e ▸ hx.2)⟩, e⟩
  | @updated c c' t' k hc he _ =>
    have ht := he.table hi.wf (hi.pending c hc)
    refine ⟨ht.wf, fun x hx => ?_, fun y hy x hx => ?_⟩
    · rw [hosts_setClient]
      by_cases hs : x.2.src = c.host
      · exact hs ▸ List.mem_map_of_mem hc
      · exact hi.src x ((ht.others x hs).mp hx)
    · rcases mem_setClient hy with rfl | hy'
      · rw [he.host]
        exact (he.pending x hx).elim (hi.pending c hc x) id
      · exact hi.pending y hy' x hx

theorem inv_run (m : Mgr) (evs : List Ev) (hi : Inv m) : Inv (run m evs) := by
  induction evs generalizing m with
  | nil => exact hi
  | cons e es ih => exact ih _ (inv_moves (step_moves m e) hi)

/-- generation `g` has been issued and no client named `h` has the timer of generation `g`
    running: a timeout event (h, g) still in the channel is stale -/
def StaleGen (m : Mgr) (h g : Nat) : Prop :=
  g ≤ m.timerSeq ∧ ∀ c ∈ m.clients, c.host = h → (c.timer = false ∨ c.timerGen ≠ g)

theorem stale_moves {m m' : Mgr} {h g : Nat} (hm : Moves m m') (hs : StaleGen m h g) :
    StaleGen m' h g := by
  cases hm with
  | same => exact hs
  | added h' =>
    refine ⟨hs.1, fun c hc hch => ?_⟩
    rcases List.mem_append.mp hc with hc | hc
    · exact hs.2 c hc hch
    · exact Or.inl (List.mem_singleton.mp hc ▸ rfl)
  | deleted h' => exact ⟨hs.1, fun c hc => hs.2 c (List.mem_filter.mp hc).1⟩
  | @updated c c' t' k hc he hk =>
    refine ⟨Nat.le_trans hs.1 hk, fun y hy hyh => ?_⟩
    rcases mem_setClient hy with rfl | hy'
    · rcases he.timer with h1 | ⟨h1, h2⟩ | h1
      · exact Or.inl h1
      · rw [h1, h2]
        exact hs.2 c hc (he.host ▸ hyh)
      · exact Or.inr (Nat.ne_of_gt (Nat.lt_of_le_of_lt hs.1 h1))
    · exact hs.2 y hy' hyh

theorem stale_run (m : Mgr) (evs : List Ev) (h g : Nat) (hs : StaleGen m h g) : StaleGen (run m evs) h g := by
  induction evs generalizing m with
  | nil => exact hs
  | cons e es ih => exact ih _ (stale_moves (step_moves m e) hs)

theorem stale_lifetime_noop (m : Mgr) (h g : Nat) (hs : StaleGen m h g) :
    step m (.lifetime h g) = (m, true, []) := by
  simp only [step]
  split
  · rfl
  · rename_i c hf
    obtain ⟨hc, hh⟩ := findClient_some hf
    rw [if_pos]
    exact (hs.2 c hc hh).imp id fun h1 e => h1 e.symm

end Roa
