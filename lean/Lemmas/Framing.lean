import Model.Framing
import Lemmas.Octets
/-!
  A serialiser lays out fields (`enc8` … `enc64`, `copyInto`, `zeros`, opaque octet strings) one
  after another; a decoder reads at the offset where a field was put. The simp lemmas here follow
  that without unfolding an encoder.
-/
namespace Framing

theorem enc16_be (a b : Nat) (ha : a < 256) (hb : b < 256) : enc16 (a * 256 + b) = [a, b] :=
  Octets.digits16 ha hb

theorem enc32_be (a b c e : Nat) (ha : a < 256) (hb : b < 256) (hc : c < 256) (he : e < 256) :
    enc32 (((a * 256 + b) * 256 + c) * 256 + e) = [a, b, c, e] :=
  Octets.digits32 ha hb hc he

@[simp] theorem rd8_zero (a : Nat) (l : Bytes) : rd8 (a :: l) 0 = a := rfl
@[simp] theorem rd8_succ (a : Nat) (l : Bytes) (i : Nat) : rd8 (a :: l) (i + 1) = rd8 l i := rfl
@[simp] theorem rd16_zero (a b : Nat) (l : Bytes) : rd16 (a :: b :: l) 0 = a * 256 + b := rfl
@[simp] theorem rd16_succ (a : Nat) (l : Bytes) (i : Nat) : rd16 (a :: l) (i + 1) = rd16 l i := rfl
@[simp] theorem rd32_zero (a b c e : Nat) (l : Bytes) :
    rd32 (a :: b :: c :: e :: l) 0 = ((a * 256 + b) * 256 + c) * 256 + e := rfl
@[simp] theorem rd32_succ (a : Nat) (l : Bytes) (i : Nat) : rd32 (a :: l) (i + 1) = rd32 l i := rfl
@[simp] theorem slice_succ (a : Nat) (l : Bytes) (i n : Nat) : slice (a :: l) (i + 1) n = slice l i n := rfl
@[simp] theorem slice_zero (l : Bytes) (n : Nat) : slice l 0 n = l.take n := rfl

theorem rd64_succ (a : Nat) (l : Bytes) (i : Nat) : rd64 (a :: l) (i + 1) = rd64 l i := rfl

/- Not stated by `rfl`: `simp` has to use the lengths when it discharges the side condition
  `p.length ≤ i` of the lemmas below, and it cannot hand on a proof found by `rfl`-lemmas alone. -/
@[simp] theorem enc8_length (n : Nat) : (enc8 n).length = 1 := by simp [enc8]
@[simp] theorem enc16_length (n : Nat) : (enc16 n).length = 2 := by simp [enc16]
@[simp] theorem enc32_length (n : Nat) : (enc32 n).length = 4 := by simp [enc32]
@[simp] theorem enc64_length (n : Nat) : (enc64 n).length = 8 := by simp [enc64]
@[simp] theorem zeros_length (n : Nat) : (zeros n).length = n := List.length_replicate

@[simp] theorem copyInto_length (n : Nat) (s : Bytes) : (copyInto n s).length = n := by
  simp only [copyInto, List.length_append, List.length_take, zeros_length]
  omega

theorem copyInto_exact (n : Nat) (s : Bytes) (h : s.length = n) : copyInto n s = s := by
  subst h
  simp [copyInto, zeros]

-- Every fixed-offset reader looks at `d.drop i` only.
theorem drop_append_right {p : Bytes} {i : Nat} (l : Bytes) (h : p.length ≤ i) :
    (p ++ l).drop i = l.drop (i - p.length) := by
  rw [List.drop_append, List.drop_eq_nil_of_le h, List.nil_append]

@[simp] theorem rd8_append_right {p : Bytes} {i : Nat} (l : Bytes) (h : p.length ≤ i) :
    rd8 (p ++ l) i = rd8 l (i - p.length) := by
  simp only [rd8, drop_append_right l h]

@[simp] theorem rd16_append_right {p : Bytes} {i : Nat} (l : Bytes) (h : p.length ≤ i) :
    rd16 (p ++ l) i = rd16 l (i - p.length) := by
  simp only [rd16, drop_append_right l h]

@[simp] theorem rd32_append_right {p : Bytes} {i : Nat} (l : Bytes) (h : p.length ≤ i) :
    rd32 (p ++ l) i = rd32 l (i - p.length) := by
  simp only [rd32, drop_append_right l h]

@[simp] theorem rd64_append_right {p : Bytes} {i : Nat} (l : Bytes) (h : p.length ≤ i) :
    rd64 (p ++ l) i = rd64 l (i - p.length) := by
  simp only [rd64, rd32_append_right l h, rd32_append_right l (Nat.le_add_right_of_le h),
    Nat.sub_add_comm h]

@[simp] theorem slice_append_right {p : Bytes} {i : Nat} (l : Bytes) (n : Nat) (h : p.length ≤ i) :
    slice (p ++ l) i n = slice l (i - p.length) n := by
  simp only [slice, drop_append_right l h]

@[simp] theorem rd8_enc8 (n : Nat) (r : Bytes) (h : n < 256) : rd8 (enc8 n ++ r) 0 = n :=
  Nat.mod_eq_of_lt h

@[simp] theorem rd16_enc16 (n : Nat) (r : Bytes) (h : n < 65536) : rd16 (enc16 n ++ r) 0 = n :=
  Octets.horner16 h

@[simp] theorem rd32_enc32 (n : Nat) (r : Bytes) (h : n < 4294967296) : rd32 (enc32 n ++ r) 0 = n :=
  Octets.horner32 h

@[simp] theorem rd64_enc64 (n : Nat) (r : Bytes) (h : n < 18446744073709551616) :
    rd64 (enc64 n ++ r) 0 = n := by
  have h1 : n / 4294967296 < 4294967296 := by omega
  have h2 : n % 4294967296 < 4294967296 := by omega
  simp only [rd64, enc64, List.append_assoc, rd32_enc32 _ _ h1,
    rd32_append_right _ (Nat.le_of_eq (enc32_length _)), enc32_length, rd32_enc32 _ _ h2]
  omega

/-- a field that starts exactly behind the prefix (for offsets that are not literals) -/
theorem rd32_append (p l : Bytes) (i : Nat) (h : p.length = i) : rd32 (p ++ l) i = rd32 l 0 := by
  rw [rd32_append_right l (Nat.le_of_eq h), h, Nat.sub_self]

theorem slice_append (p l : Bytes) (i n : Nat) (h : p.length = i) : slice (p ++ l) i n = l.take n := by
  rw [slice_append_right l n (Nat.le_of_eq h), h, Nat.sub_self, slice_zero]

@[simp] theorem blit_length (buf src : Bytes) (off : Nat) : (blit buf off src).length = buf.length := by
  simp only [blit, List.length_append, List.length_take, List.length_drop]
  omega

namespace Rtr

theorem padTo_ok (f : Bytes) (len : Nat) (h : f.length ≤ len) :
    padTo f len = some (f ++ zeros (len - f.length)) :=
  if_neg (Nat.not_lt.mpr h)

theorem padTo_length (f : Bytes) (len : Nat) (bs : Bytes) (h : padTo f len = some bs) :
    bs.length = len := by
  unfold padTo at h
  split at h
  · cases h
  · cases h
    simp only [List.length_append, zeros_length]
    omega

/-- `copy(buf[off:], src)` into a zero tail that is long enough -/
theorem blit_zeros (p src : Bytes) (k off : Nat) (hoff : p.length = off) (h : src.length ≤ k) :
    blit (p ++ zeros k) off src = p ++ src ++ zeros (k - src.length) := by
  subst hoff
  have h1 : (p ++ zeros k).length - p.length = k := by simp
  have h2 : List.drop (p.length + src.length) (p ++ zeros k) = zeros (k - src.length) := by
    rw [drop_append_right _ (Nat.le_add_right _ _)]
    simp [zeros]
  rw [blit, h1, Nat.min_eq_left h, List.take_left, List.take_of_length_le h, h2]

/-- The three `copy` calls of (*RTRErrorReport).Serialize fill the zeroed buffer exactly. -/
theorem serialize_errReport (ver code : Nat) (pdu text : Bytes)
    (hlen : 16 + pdu.length + text.length < 4294967296) :
    serialize (.errReport ver 10 code (16 + pdu.length + text.length) pdu.length pdu text.length text) =
      some (enc8 ver ++ enc8 10 ++ enc16 code ++ enc32 (16 + pdu.length + text.length) ++ enc32 pdu.length
              ++ pdu ++ enc32 text.length ++ text) := by
  have hk : 16 + pdu.length + text.length - 12 = pdu.length + (4 + text.length) := by omega
  have hlo : (12 + pdu.length) % 4294967296 = 12 + pdu.length := Nat.mod_eq_of_lt (by omega)
  have hhi : (16 + pdu.length) % 4294967296 = 16 + pdu.length := Nat.mod_eq_of_lt (by omega)
  simp only [serialize]
  rw [if_neg (by omega), hlo, hhi, if_neg (by omega), hk,
    blit_zeros _ pdu _ 12 (by simp) (by omega), Nat.add_sub_cancel_left,
    blit_zeros _ (enc32 text.length) _ (12 + pdu.length) (by simp; omega) (by simp),
    enc32_length, Nat.add_sub_cancel_left,
    blit_zeros _ text _ (16 + pdu.length) (by simp; omega) (Nat.le_refl _)]
  simp [zeros]

/-- ParseRTR on an Error Report laid out field by field: the erroneous PDU and the text sit at
    offsets that depend on the length fields read before them. -/
theorem parse_errReport (ver code : Nat) (pdu text : Bytes) (hv : ver < 256) (hc : code < 65536)
    (hlen : 16 + pdu.length + text.length < 4294967296) :
    parse (enc8 ver ++ enc8 10 ++ enc16 code ++ enc32 (16 + pdu.length + text.length) ++ enc32 pdu.length
              ++ pdu ++ enc32 text.length ++ text) =
      .ok (.errReport ver 10 code (16 + pdu.length + text.length) pdu.length pdu text.length text) := by
  have hp : pdu.length < 4294967296 := by omega
  have ht : text.length < 4294967296 := by omega
  generalize hd : enc8 ver ++ enc8 10 ++ enc16 code ++ enc32 (16 + pdu.length + text.length) ++ enc32 pdu.length
    ++ pdu ++ enc32 text.length ++ text = d
  have hl : d.length = 16 + pdu.length + text.length := by
    subst hd
    simp only [List.length_append, enc8_length, enc16_length, enc32_length]
    omega
  have hfix : rd8 d 0 = ver ∧ rd8 d 1 = 10 ∧ rd16 d 2 = code ∧ rd32 d 4 = 16 + pdu.length + text.length ∧
      rd32 d 8 = pdu.length ∧ slice d 12 pdu.length = pdu := by
    subst hd
    simp [*]
  have htl : rd32 d (12 + pdu.length) = text.length := by
    subst hd
    rw [List.append_assoc, rd32_append _ _ _ (by simp; omega), rd32_enc32 _ _ ht]
  have htx : slice d (12 + pdu.length + 4) text.length = text := by
    subst hd
    rw [slice_append _ _ _ _ (by simp; omega), List.take_length]
  obtain ⟨f0, f1, f2, f4, f8, f12⟩ := hfix
  have htake : d.take (16 + pdu.length + text.length) = d := List.take_of_length_le (Nat.le_of_eq hl)
  have hchk : ∀ a b : Nat, ¬ 16 + a + b < 8 ∧ ¬ 16 + a + b < 12 ∧ ¬ 16 + a + b < 16 ∧
      ¬ 16 + a + b - 12 - 4 < a ∧ ¬ 16 + a + b - (12 + a + 4) < b := by omega
  simp [parse, decErr, hl, htake, f0, f1, f2, f4, f8, f12, htl, htx, hchk]

end Rtr

namespace Zapi

theorem decode_ok_facts (d : Bytes) (h : Hdr) (hd : decode d = .ok h) :
    h.len = rd16 d 0 ∧ h.ver = rd8 d 3 ∧ headerSize h.ver ≤ h.len := by
  unfold decode at hd
  -- the three guards are taken by hand: `split` is very slow on conditions that mention `% 65536`
  by_cases h1 : d.length % 65536 < 4
  · rw [if_pos h1] at hd
    cases hd
  by_cases h2 : d.length % 65536 < headerSize (rd8 d 3)
  · simp only [if_neg h1, if_pos h2] at hd
    cases hd
  by_cases h3 : rd16 d 0 < headerSize (rd8 d 3)
  · simp only [if_neg h1, if_neg h2, if_pos h3] at hd
    repeat' split at hd
    all_goals cases hd
  -- whichever version branch accepts, it builds the header from the same three reads
  simp only [if_neg h1, if_neg h2, if_neg h3] at hd
  have hle := Nat.le_of_not_lt h3
  split at hd
  · cases hd; exact ⟨rfl, rfl, hle⟩
  split at hd
  · cases hd; exact ⟨rfl, rfl, hle⟩
  split at hd
  · cases hd; exact ⟨rfl, rfl, hle⟩
  · cases hd

theorem rd16_lt : ∀ (d : Bytes), (∀ x ∈ d, x < 256) → rd16 d 0 < 65536
  | a :: b :: _, hb => Octets.lt256 (hb a (.head _)) (hb b (.tail _ (.head _)))
  | [], _ | [_], _ => Nat.zero_lt_succ _

theorem recv_hdrRead {v : Nat} {s : Bytes} (h1 : s.length < headerSize v) : recv v s = .hdrRead s.length := by
  simp only [recv, if_pos h1]

theorem recv_mismatch {v : Nat} {s : Bytes} (h1 : ¬ s.length < headerSize v)
    (h2 : v ≠ rd8 (s.take (headerSize v)) 3) : recv v s = .mismatch (headerSize v) := by
  simp only [recv, if_neg h1, if_pos h2]

theorem recv_hdrErr {v : Nat} {s : Bytes} {e : Err} (h1 : ¬ s.length < headerSize v)
    (h2 : v = rd8 (s.take (headerSize v)) 3) (hd : decode (s.take (headerSize v)) = .error e) :
    recv v s = .hdrErr (headerSize v) := by
  simp only [recv, if_neg h1, if_neg (Decidable.not_not.mpr h2), hd]

theorem recv_decoded {v : Nat} {s : Bytes} {h : Hdr} (h1 : ¬ s.length < headerSize v)
    (h2 : v = rd8 (s.take (headerSize v)) 3) (hd : decode (s.take (headerSize v)) = .ok h) :
    recv v s =
      if (s.drop (headerSize v)).length < (h.len + 65536 - headerSize v) % 65536 then .bodyRead s.length
      else .framed (headerSize v + (h.len + 65536 - headerSize v) % 65536) h
        ((s.drop (headerSize v)).take ((h.len + 65536 - headerSize v) % 65536)) := by
  simp only [recv, if_neg h1, if_neg (Decidable.not_not.mpr h2), hd]

end Zapi
end Framing
