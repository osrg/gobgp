import Model.ApiConv
import Lemmas.Wire
/-! What the round-trip theorems of Props/C18 share: address texts against 32-bit numbers,
AS-path segments, the narrowing conversions against the capability encoders. -/
namespace ApiConv
open Wire

theorem map_id_of {α} {g : α → α} {l : List α} (h : ∀ a ∈ l, g a = a) : l.map g = l :=
  (List.map_congr_left h).trans (List.map_id' l)

theorem map_map_id_of {α β} {f : α → β} {g : β → α} {l : List α} (h : ∀ a ∈ l, g (f a) = a) :
    (l.map f).map g = l := by
  rw [List.map_map]; exact map_id_of h

theorem isV4_be32 (n : Nat) : isV4 (be32 n) = true := rfl

theorem all_isV4_be32 (ids : List Nat) : (ids.map be32).all isV4 = true := by
  rw [List.all_map]; exact List.all_eq_true.mpr fun _ _ => rfl

def Octets4 (b : Bytes) : Prop := b.length = 4 ∧ ∀ x ∈ b, x < 256

theorem isV4_of_octets {b : Bytes} (h : Octets4 b) : isV4 b = true := by rw [isV4, h.1]; rfl

theorem be32_rd32_of (b : Bytes) (h : Octets4 b) : be32 (rd32 b) = b := by
  obtain ⟨hl, hb⟩ := h
  match b, hl with
  | [x, y, z, w], _ =>
    simp only [List.forall_mem_cons] at hb
    exact be32_rd32 hb.1 hb.2.1 hb.2.2.1 hb.2.2.2.1 []

/-- segments: one trip through the API -/
theorem fromApiSeg_toApiSeg (s : Seg) : fromApiSeg (toApiSeg s) = rebuildSeg s := rfl

theorem map_fromApiSeg_toApiSeg (segs : List Seg) :
    (segs.map toApiSeg).map fromApiSeg = segs.map rebuildSeg := List.map_map

theorem rebuildSeg_of_wf {s : Seg} (h : SegWF true s) : rebuildSeg s = s := by
  obtain ⟨h1, _, h3, h4, _, h6, _⟩ := h
  rw [rebuildSeg, mkSeg, Nat.mod_eq_of_lt (by omega), Nat.mod_eq_of_lt (by omega), ← h1, ← h4]

/-- an API segment within the ranges Marshal produces -/
def ApiSegOk (s : ApiSeg) : Prop := s.typ < 256

theorem toApiSeg_fromApiSeg {s : ApiSeg} (h : ApiSegOk s) : toApiSeg (fromApiSeg s) = s := by
  obtain ⟨typ, numbers⟩ := s
  show ApiSeg.mk (typ % 256) numbers = _
  rw [Nat.mod_eq_of_lt h]

theorem map_toApiSeg_fromApiSeg {segs : List ApiSeg} (h : ∀ s ∈ segs, ApiSegOk s) :
    (segs.map fromApiSeg).map toApiSeg = segs :=
  map_map_id_of fun s hs => toApiSeg_fromApiSeg (h s hs)

/-- the extended-length rule of NewPathAttributeUnknown is idempotent -/
theorem mkUnknown_flags_idem (f : Nat) (hf : f < 256) (n : Nat) :
    let f' := if n > 255 && !hasBit f FLAG_EXT then f + FLAG_EXT else f
    f' < 256 ∧ (if n > 255 && !hasBit f' FLAG_EXT then f' + FLAG_EXT else f') = f' := by
  intro f'
  by_cases hc : (decide (n > 255) && !hasBit f FLAG_EXT) = true
  · -- the bit was missing and is set now, so the rule does not fire again
    have e : f' = f + FLAG_EXT := if_pos hc
    rw [Bool.and_eq_true, Bool.not_eq_true'] at hc
    obtain ⟨hlt, hset, _⟩ := hasBit_add_ext hf hc.2
    rw [e, hset]
    exact ⟨hlt, if_neg (by simp)⟩
  · have e : f' = f := if_neg hc
    rw [e]
    exact ⟨hf, if_neg hc⟩

/- Capabilities: Serialize truncates the way the conversions do. -/

theorem be16_mod (n : Nat) : be16 (n % 65536) = be16 n := by
  show [n % (256 * 256) / 256 % 256, n % (256 * 256) % 256] = [n / 256 % 256, n % 256]
  rw [Nat.mod_mul_right_div_self, Nat.mod_mod, Nat.mod_mod_of_dvd n (Nat.dvd_mul_right 256 256)]

theorem encTuples3_norm : ∀ ts : List (Nat × Nat × Nat),
    encTuples3 (ts.map fun (afi, safi, x) => (afi % 65536, safi % 256, x % 256)) = encTuples3 ts
  | [] => rfl
  | (a, s, x) :: ts => by
    simp only [List.map_cons, encTuples3, be16_mod, Nat.mod_mod, encTuples3_norm ts]

theorem encLlgr_norm : ∀ ts : List (Nat × Nat × Nat × Nat),
    encLlgrTuples (ts.map fun (afi, safi, fl, t) => (afi % 65536, safi % 256, fl % 256, t)) = encLlgrTuples ts
  | [] => rfl
  | (a, s, x, t) :: ts => by
    simp only [List.map_cons, encLlgrTuples, be16_mod, Nat.mod_mod, encLlgr_norm ts]

end ApiConv
