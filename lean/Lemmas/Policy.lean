import Model.Policy
/-! The loops of the Go condition evaluators decide the documented quantifiers, on the programs the
  configuration path can build: `Cond.wf`, `Stmt.wf`, `Pol.wf`, defined here. -/
namespace Policy

/-! ### well-formedness: what the configuration path can produce / what the documentation covers -/

/-- prefix and neighbour conditions only take `any`/`invert` (MatchSetOptionsRestrictedType);
    an `all` condition refers to a non-empty set (on an empty set the documentation's
    "matches all members" is vacuously true, the code answers false — see `all_on_empty_set`). -/
def Cond.wf : Cond → Bool
  | .prefix _ _ opt => opt != .all
  | .neighbor _ opt => opt != .all
  | .comm ps opt => !(opt == .all && ps.isEmpty)
  | .ext ps opt => !(opt == .all && ps.isEmpty)
  | .large ps opt => !(opt == .all && ps.isEmpty)
  | _ => true

def Stmt.wf (s : Stmt) : Bool := s.conds.all Cond.wf
def Pol.wf (p : Pol) : Bool := p.stmts.all Stmt.wf

theorem firstHit_eq_any {α : Type} (hit : α → Bool) (loop : List α → Bool) (hnil : loop [] = false)
    (hcons : ∀ m rest, loop (m :: rest) = if hit m then true else loop rest) (l : List α) :
    loop l = l.any hit := by
  induction l with
  | nil => exact hnil
  | cons m rest ih =>
    rw [hcons, ih, List.any_cons]
    cases hit m <;> rfl

theorem netLoop_eq_any (a : Addr) (nets : List Pfx) :
    netLoop a nets = nets.any (fun n => n.contains a) :=
  firstHit_eq_any _ (netLoop a) rfl (fun _ _ => rfl) nets

theorem prefixLoop_eq_any (r : Pfx) (es : List PfxEntry) :
    prefixLoop r es =
      es.any (fun e => e.lo ≤ r.len && r.len ≤ e.hi && e.p.contains r.maskedAddr) :=
  firstHit_eq_any _ (prefixLoop r) rfl (fun _ _ => rfl) es

theorem shift_mask_shift (x k m : Nat) (h : k ≤ m) : ((x >>> k) <<< k) >>> m = x >>> m := by
  obtain ⟨j, rfl⟩ := Nat.exists_eq_add_of_le h
  rw [Nat.shiftRight_eq_div_pow, Nat.shiftLeft_eq, Nat.shiftRight_eq_div_pow, Nat.shiftRight_eq_div_pow,
    Nat.pow_add, ← Nat.div_div_eq_div_mul, ← Nat.div_div_eq_div_mul,
    Nat.mul_div_cancel _ (Nat.pow_pos (by decide : 0 < 2))]

/-- the `p.Prefix.Contains(addr)` test inside the Supernets loop never fails -/
theorem covers_contains (p r : Pfx) (h : p.covers r = true) : p.contains r.maskedAddr = true := by
  simp only [Pfx.covers, Bool.and_eq_true, beq_iff_eq, decide_eq_true_eq] at h
  obtain ⟨⟨hv, hl⟩, ha⟩ := h
  simp only [Pfx.contains, Pfx.maskedAddr, Bool.and_eq_true, beq_iff_eq]
  refine ⟨hv, ?_⟩
  rw [← hv, shift_mask_shift _ _ _ (Nat.sub_le_sub_left hl _)]
  exact ha

/-- the range loop over the Supernets is the documented membership test over the whole set -/
theorem prefixLoop_filter (r : Pfx) (es : List PfxEntry) :
    prefixLoop r (es.filter (fun e => e.p.covers r)) = es.any (specPrefixMember r) := by
  rw [prefixLoop_eq_any, List.any_filter]
  congr 1
  funext e
  unfold specPrefixMember
  cases hc : e.p.covers r
  · rfl
  · rw [covers_contains _ _ hc, Bool.and_true]
    rfl

theorem any_swap {α β : Type} (l : List α) (m : List β) (f : α → β → Bool) :
    l.any (fun a => m.any (fun b => f a b)) = m.any (fun b => l.any (fun a => f a b)) := by
  rw [Bool.eq_iff_iff]
  simp only [List.any_eq_true]
  constructor
  · rintro ⟨a, ha, b, hb, h⟩; exact ⟨b, hb, a, ha, h⟩
  · rintro ⟨b, hb, a, ha, h⟩; exact ⟨a, ha, b, hb, h⟩

theorem commIndexAny_eq (pats cs : List Nat) :
    commIndexAny pats cs = cs.any (fun c => pats.contains c) :=
  firstHit_eq_any _ (commIndexAny pats) rfl (fun _ _ => rfl) cs

/-- the index asks "is some community of the path a pattern"; the documentation asks "is some
    pattern a community of the path" -/
theorem commIndexAny_spec (pats cs : List Nat) :
    commIndexAny pats cs = pats.any (fun p => cs.contains p) := by
  rw [commIndexAny_eq]
  simp only [List.contains_eq_any_beq (l := pats)]
  rw [any_swap]
  simp only [List.any_beq']

theorem ExtPat.matches_of_kind_ne (p : ExtPat) (x : Ext) (h : x.kind ≠ 0) : p.matches x = false := by
  rw [ExtPat.matches, beq_eq_false_iff_ne.mpr h]
  rfl

theorem extIndexAny_eq (pats : List ExtPat) (es : List Ext) :
    extIndexAny pats es = es.any (fun x => pats.any (fun p => x.trans && p.matches x)) :=
  firstHit_eq_any _ (extIndexAny pats) rfl (fun x rest => by
    rw [extIndexAny, ← List.and_any_distrib_left]
    cases x.trans
    · rfl
    · cases hk : x.kind != 0
      · cases pats.any (fun p => p.matches x) <;> rfl
      · -- the loop skips a community of another Go type; no exact pattern matches one either
        have : pats.any (fun p => p.matches x) = false :=
          List.any_eq_false.mpr fun p _ => ne_true_of_eq_false (p.matches_of_kind_ne x (bne_iff_ne.mp hk))
        rw [this]
        rfl) es

theorem extIndexAny_spec (pats : List ExtPat) (es : List Ext) :
    extIndexAny pats es = pats.any (fun p => es.any (fun x => x.trans && p.matches x)) := by
  rw [extIndexAny_eq, any_swap]

theorem generalLoop_cons {α : Type} (hit : α → Bool) (opt : MatchOpt) (m : α) (rest : List α) (b : Bool) :
    generalLoop hit opt (m :: rest) b =
      if opt == .all then (m :: rest).all hit else (m :: rest).any hit := by
  induction rest generalizing m b with
  | nil =>
    rw [generalLoop, generalLoop, List.all_cons, List.any_cons]
    cases opt <;> cases hit m <;> rfl
  | cons m' rest ih =>
    rw [generalLoop, ih]
    simp only [List.all_cons, List.any_cons]
    cases opt <;> cases hit m <;> rfl

/-- the three community-type conditions' general path = the documented quantifier
    (for `all` on a non-empty set) -/
theorem generalLoop_spec {α : Type} (hit : α → Bool) (opt : MatchOpt) (l : List α)
    (hwf : (!(opt == .all && l.isEmpty)) = true) :
    (let result := generalLoop hit opt l false
     if opt == .invert then !result else result) = specSet opt l hit := by
  cases l with
  | nil => cases opt <;> first | rfl | cases hwf
  | cons m rest => rw [generalLoop_cons]; cases opt <;> rfl

/-- Community and ext-community conditions: an index lookup `found` for `any`/`invert` on a
    non-empty set, the general loop otherwise; both decide the documented quantifier. -/
theorem indexedLoop_spec {α : Type} (hit : α → Bool) (opt : MatchOpt) (l : List α) (found : Bool)
    (hfound : found = l.any hit) (hwf : (!(opt == .all && l.isEmpty)) = true) :
    (if (opt == .any || opt == .invert) && !l.isEmpty then
       if opt == .invert then !found else found
     else
       let result := generalLoop hit opt l false
       if opt == .invert then !result else result) = specSet opt l hit := by
  by_cases hfast : ((opt == .any || opt == .invert) && !l.isEmpty) = true
  · rw [if_pos hfast, hfound]
    cases opt
    · rfl
    · cases hfast
    · rfl
  · rw [if_neg hfast]
    exact generalLoop_spec hit opt l hwf

/-- What a loop with the break flags of AsPathCondition.Evaluate returns, by match option: the
    verdict it breaks with, or `none` when it falls through to the code after it. -/
def fallThrough {α : Type} (hit : α → Bool) (opt : MatchOpt) (l : List α) : Option Bool :=
  match opt with
  | .any => if l.any hit then some true else none
  | .all => if l.all hit then none else some false
  | .invert => if l.any hit then some false else none

theorem breakLoop_closed {α : Type} (hit : α → Bool) (opt : MatchOpt) (loop : List α → Option Bool)
    (hnil : loop [] = none)
    (hcons : ∀ m rest, loop (m :: rest) =
      if opt == .all && !hit m then some false
      else if opt == .any && hit m then some true
      else if opt == .invert && hit m then some false
      else loop rest) (l : List α) :
    loop l = fallThrough hit opt l := by
  induction l with
  | nil => cases opt <;> exact hnil
  | cons m rest ih =>
    rw [hcons, ih]
    unfold fallThrough
    rw [List.any_cons, List.all_cons]
    cases opt <;> cases hit m <;> rfl

theorem asSingleLoop_closed (opt : MatchOpt) (a : List Nat) (ss : List AsSingle) :
    asSingleLoop opt a ss = fallThrough (fun m => m.matches a) opt ss :=
  breakLoop_closed _ opt (asSingleLoop opt a) rfl (fun _ _ => rfl) ss

theorem asReLoop_closed (opt : MatchOpt) (s : String) (res : List AsRe) :
    asReLoop opt s res = fallThrough (fun re => re.matches s) opt res :=
  breakLoop_closed _ opt (asReLoop opt s) rfl (fun _ _ => rfl) res

/-- two such loops in a row, answering `opt ≠ any` when both fall through (AsPathCondition.Evaluate),
    decide the documented quantifier over both lists together -/
theorem fallThrough_chain {α β : Type} (f : α → Bool) (g : β → Bool) (opt : MatchOpt)
    (l : List α) (k : List β) :
    (match fallThrough f opt l with
     | some b => b
     | none =>
       match fallThrough g opt k with
       | some b => b
       | none => if opt == .any then false else true) =
    match opt with
    | .any => l.any f || k.any g
    | .all => l.all f && k.all g
    | .invert => !(l.any f || k.any g) := by
  unfold fallThrough
  cases opt
  · cases l.any f <;> cases k.any g <;> rfl
  · cases l.all f <;> cases k.all g <;> rfl
  · cases l.any f <;> cases k.any g <;> rfl

/-! ### the evaluators of `evalCond`, each against its branch of `specCond` (the hypotheses are the
    clauses of `Cond.wf`; `show` brings the head of the branch into view) -/

theorem evalPrefix_eq (fam : Option Bool) (es : List PfxEntry) (opt : MatchOpt) (r : Route) (o : Opts)
    (h : (opt != .all) = true) :
    evalPrefix fam es opt r = specCond (.prefix fam es opt) r o := by
  rw [evalPrefix, prefixLoop_filter, bne]
  show _ = (fam == some r.v6 && _)
  cases fam == some r.v6
  · rfl
  · cases opt <;> first | rfl | cases h

theorem evalNeighbor_eq (nets : List Pfx) (opt : MatchOpt) (r : Route) (o : Opts)
    (h : (opt != .all) = true) :
    evalNeighbor nets opt r o = specCond (.neighbor nets opt) r o := by
  simp only [evalNeighbor, netLoop_eq_any]
  show _ = (nets.isEmpty || _)
  cases nets.isEmpty
  · cases neighborAddr r o with
    | none => rfl
    | some a => cases opt <;> first | rfl | cases h
  · rfl

theorem evalNextHop_eq (nets : List Pfx) (r : Route) (o : Opts) :
    evalNextHop nets r o = specCond (.nextHop nets) r o := by
  rw [evalNextHop]
  show _ = (nets.isEmpty || _)
  cases nets.isEmpty
  · cases conditionNextHop r o with
    | none => rfl
    | some a => exact netLoop_eq_any a nets
  · rfl

theorem evalAsPath_eq (ss : List AsSingle) (res : List AsRe) (opt : MatchOpt) (r : Route) (o : Opts) :
    evalAsPath ss res opt r = specCond (.asPath ss res opt) r o := by
  rw [evalAsPath, asSingleLoop_closed, asReLoop_closed]
  exact fallThrough_chain _ _ opt ss res

theorem evalComm_eq (ps : List Nat) (opt : MatchOpt) (r : Route) (o : Opts)
    (h : (!(opt == .all && ps.isEmpty)) = true) :
    evalComm ps opt r = specCond (.comm ps opt) r o := by
  simp only [evalComm, List.any_beq']
  exact indexedLoop_spec _ opt ps _ (commIndexAny_spec ps r.comms) h

theorem evalExt_eq (ps : List ExtPat) (opt : MatchOpt) (r : Route) (o : Opts)
    (h : (!(opt == .all && ps.isEmpty)) = true) :
    evalExt ps opt r = specCond (.ext ps opt) r o :=
  indexedLoop_spec _ opt ps _ (extIndexAny_spec ps r.exts) h

theorem evalLarge_eq (ps : List Large) (opt : MatchOpt) (r : Route) (o : Opts)
    (h : (!(opt == .all && ps.isEmpty)) = true) :
    evalLarge ps opt r = specCond (.large ps opt) r o := by
  rw [evalLarge]
  simp only [List.any_beq']
  exact generalLoop_spec _ opt ps h

theorem match_some_beq (x : Option Nat) (v : Nat) :
    (match x with | some s => s == v | none => false) = (x == some v) := by
  cases x with
  | none => rfl
  | some s => exact Option.some_beq_some.symm

theorem match_beq_some (x : Option Nat) (v : Nat) :
    (match x with | some s => v == s | none => false) = (x == some v) := by
  cases x with
  | none => rfl
  | some s => exact BEq.comm.trans Option.some_beq_some.symm

theorem evalRouteType_local (r : Route) : evalRouteType 3 r = r.isLocal := rfl

theorem evalRouteType_internal (r : Route) : evalRouteType 1 r = (!r.isLocal && r.isIBGP) := rfl

theorem evalRouteType_external (r : Route) : evalRouteType 2 r = (!r.isLocal && !r.isIBGP) := rfl

theorem evalRouteType_eq (t : Nat) (r : Route) (o : Opts) :
    evalRouteType t r = specCond (.routeType t) r o := by
  -- at a numeral both sides compute; the documented disjuncts of the other types are `false && _`
  match t with
  | 0 => rfl
  | 1 => exact (Bool.or_false _).symm
  | 2 => rfl
  | 3 => exact ((Bool.or_false _).trans (Bool.or_false _)).symm
  | n + 4 => rfl

end Policy
