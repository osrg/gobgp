/-
  C17: one destination and one table update in equations; every update (Table.update with updateVPNIdx) keeps the
  table well formed and the RT index exact (`reach_inv`).
-/
import Lemmas.VrfRtcDefs
namespace VrfRtc

theorem idx_mem_del (i : Idx) (k' : Nat) (p : VPath) (k : Nat) (q : VPath) :
    (k, q) ∈ i.del k' p ↔ ((k, q) ∈ i ∧ ¬ (k = k' ∧ pkey q = pkey p)) := by
  simp only [Idx.del, List.mem_filter, Bool.not_eq_true', Bool.and_eq_false_imp, beq_iff_eq,
    beq_eq_false_iff_ne, ne_eq, not_and]

theorem idx_mem_put (i : Idx) (k' : Nat) (p : VPath) (k : Nat) (q : VPath) :
    (k, q) ∈ i.put k' p ↔ ((k = k' ∧ q = p) ∨ ((k, q) ∈ i ∧ ¬ (k = k' ∧ pkey q = pkey p))) := by
  rw [Idx.put, List.mem_cons, idx_mem_del, Prod.mk.injEq]

theorem idx_mem_unregister (i : Idx) (p : VPath) (k : Nat) (q : VPath) :
    (k, q) ∈ i.unregister p ↔ ((k, q) ∈ i ∧ ¬ (k ∈ keys p.ecs ∧ pkey q = pkey p)) := by
  unfold Idx.unregister
  induction keys p.ecs generalizing i with
  | nil => simp
  | cons a ks ih => rw [List.foldl_cons, ih, idx_mem_del, List.mem_cons, or_and_right, not_or, and_assoc]

theorem idx_mem_register (i : Idx) (p : VPath) (k : Nat) (q : VPath) :
    (k, q) ∈ i.register p ↔ ((k ∈ keys p.ecs ∧ q = p) ∨ ((k, q) ∈ i ∧ ¬ (k ∈ keys p.ecs ∧ pkey q = pkey p))) := by
  unfold Idx.register
  induction keys p.ecs generalizing i with
  | nil => simp
  | cons a ks ih =>
    rw [List.foldl_cons, ih, idx_mem_put, List.mem_cons]
    by_cases hq : q = p
    · subst hq
      by_cases hk : k ∈ ks <;> simp [hk]
    · simp only [hq, and_false, false_or, or_and_right, not_or, and_assoc]

theorem mem_byRT (i : Idx) (k : Nat) (q : VPath) : q ∈ i.byRT k ↔ (k, q) ∈ i := by
  simp [Idx.byRT]

theorem sameSlot_self (p : VPath) : sameSlot p p = true := by
  simp [sameSlot]

private theorem sameSlot_symm (p q : VPath) : sameSlot p q = sameSlot q p := by
  rw [sameSlot, sameSlot, BEq.comm (a := q.src), BEq.comm (a := q.pathId)]

private theorem sameSlot_trans_eq (p q x : VPath) (h : sameSlot p q = true) : sameSlot p x = sameSlot q x := by
  simp only [sameSlot, Bool.and_eq_true, beq_iff_eq] at h ⊢
  rw [h.1, h.2]

theorem mem_removeSlot (l : List VPath) (p x : VPath) :
    x ∈ l ↔ (x ∈ (removeSlot l p).1 ∨ (removeSlot l p).2 = some x) := by
  induction l with
  | nil => simp [removeSlot]
  | cons q r ih =>
    rw [removeSlot]
    split
    · simp only [List.mem_cons, Option.some.injEq, or_comm, eq_comm]
    · simp only [List.mem_cons, ih, or_assoc]

theorem removeSlot_sublist (l : List VPath) (p : VPath) : (removeSlot l p).1.Sublist l := by
  induction l with
  | nil => exact List.Sublist.slnil
  | cons q r ih =>
    rw [removeSlot]
    split
    · exact List.sublist_cons_self q r
    · exact ih.cons_cons q

theorem removeSlot_old (l : List VPath) (p o : VPath) (h : (removeSlot l p).2 = some o) :
    sameSlot p o = true := by
  induction l with
  | nil => cases h
  | cons q r ih =>
    rw [removeSlot] at h
    split at h
    · cases h; assumption
    · exact ih h

theorem removeSlot_eq_filter (l : List VPath) (p : VPath) (hl : l.Pairwise (fun a b => sameSlot a b = false)) :
    (removeSlot l p).1 = l.filter (fun x => !sameSlot p x) := by
  induction l with
  | nil => rfl
  | cons q r ih =>
    rw [List.pairwise_cons] at hl
    rw [removeSlot, List.filter_cons]
    split
    · rename_i hs
      simp only [hs, Bool.not_true, Bool.false_eq_true, if_false]
      symm
      rw [List.filter_eq_self]
      intro x hx
      rw [sameSlot_trans_eq p q x hs, hl.1 x hx]
      rfl
    · rename_i hs
      simp only [hs, Bool.not_eq_true', if_true, ih hl.2]

theorem removeSlot_none (l : List VPath) (p : VPath) (hl : l.Pairwise (fun a b => sameSlot a b = false))
    (x : VPath) (hx : x ∈ (removeSlot l p).1) : sameSlot p x = false := by
  rw [removeSlot_eq_filter l p hl, List.mem_filter, Bool.not_eq_true'] at hx
  exact hx.2

theorem removeSlot_excl (l : List VPath) (p q : VPath) (hl : l.Pairwise (fun a b => sameSlot a b = false))
    (hq : q ∈ (removeSlot l p).1) : (removeSlot l p).2 ≠ some q := by
  intro e
  have a := removeSlot_none l p hl q hq
  rw [removeSlot_old l p q e] at a
  cases a

theorem mem_insertSort (l : List VPath) (p x : VPath) : x ∈ insertSort l p ↔ (x = p ∨ x ∈ l) := by
  induction l with
  | nil => simp [insertSort]
  | cons q r ih =>
    rw [insertSort]
    split
    · exact List.mem_cons
    · rw [List.mem_cons, ih, List.mem_cons, or_left_comm]

private theorem insertSort_pairwise (l : List VPath) (p : VPath)
    (hl : l.Pairwise (fun a b => sameSlot a b = false))
    (hp : ∀ x, x ∈ l → sameSlot p x = false) :
    (insertSort l p).Pairwise (fun a b => sameSlot a b = false) := by
  induction l with
  | nil => simp [insertSort]
  | cons q r ih =>
    rw [insertSort]
    split
    · exact List.pairwise_cons.2 ⟨hp, hl⟩
    · rw [List.pairwise_cons] at hl ⊢
      refine ⟨?_, ih hl.2 (fun x hx => hp x (List.mem_cons_of_mem _ hx))⟩
      intro x hx
      rcases (mem_insertSort r p x).1 hx with rfl | hx
      · rw [sameSlot_symm]; exact hp q List.mem_cons_self
      · exact hl.1 x hx

private theorem is_head (l : List VPath) (p : VPath) : ∃ x, (insertSort l p).head? = some x := by
  cases l with
  | nil => exact ⟨p, rfl⟩
  | cons q r =>
    rw [insertSort]
    split
    · exact ⟨p, rfl⟩
    · exact ⟨q, rfl⟩

theorem mem_calcDest (l : List VPath) (p : VPath) (wd : Bool) (x : VPath) :
    x ∈ (calcDest l p wd).1 ↔ ((wd = false ∧ x = p) ∨ x ∈ (removeSlot l p).1) := by
  cases wd
  · simp [calcDest, mem_insertSort]
  · simp [calcDest]

theorem calcDest_snd (l : List VPath) (p : VPath) (wd : Bool) : (calcDest l p wd).2 = (removeSlot l p).2 := by
  cases wd <;> rfl

theorem update_dest_self (t : Tbl) (p : VPath) (wd : Bool) :
    (t.update p wd).dest p.nlri = (calcDest (t.dest p.nlri) p wd).1 :=
  if_pos rfl

theorem update_dest_other (t : Tbl) (p : VPath) (wd : Bool) (n : Nat × Nat) (h : n ≠ p.nlri) :
    (t.update p wd).dest n = t.dest n :=
  if_neg h

theorem mem_update_nlris (t : Tbl) (p : VPath) (wd : Bool) (n : Nat × Nat) :
    n ∈ (t.update p wd).nlris ↔ (n = p.nlri ∨ n ∈ t.nlris) := by
  show n ∈ (if p.nlri ∈ t.nlris then t.nlris else p.nlri :: t.nlris) ↔ _
  split
  · exact ⟨Or.inr, fun h => h.elim (fun e => e ▸ ‹_›) id⟩
  · exact List.mem_cons

theorem mem_update_dest (t : Tbl) (p : VPath) (wd : Bool) (n : Nat × Nat) (x : VPath)
    (hx : x ∈ (t.update p wd).dest n) : x = p ∨ x ∈ t.dest n := by
  by_cases hn : n = p.nlri
  · subst hn
    rw [update_dest_self, mem_calcDest] at hx
    exact hx.imp And.right (fun hr => (removeSlot_sublist _ p).subset hr)
  · exact Or.inr (update_dest_other t p wd n hn ▸ hx)

theorem dest_nil_of_unlisted (t : Tbl) (h : TblWF t) (n : Nat × Nat) (hn : n ∉ t.nlris) : t.dest n = [] :=
  Decidable.by_contra (fun hne => hn (h.listed n hne))

theorem mem_update (t : Tbl) (p : VPath) (wd : Bool) (h : TblWF t) (n : Nat × Nat) (x : VPath) :
    x ∈ (t.update p wd).dest n ↔
      ((wd = false ∧ x = p ∧ n = p.nlri) ∨ (x ∈ t.dest n ∧ (removeSlot (t.dest p.nlri) p).2 ≠ some x)) := by
  by_cases hn : n = p.nlri
  · subst hn
    rw [update_dest_self, mem_calcDest, mem_removeSlot (t.dest p.nlri) p x]
    have := removeSlot_excl (t.dest p.nlri) p x (h.slot_uniq _)
    constructor
    · rintro (⟨hw, hx⟩ | hx)
      · exact Or.inl ⟨hw, hx, rfl⟩
      · exact Or.inr ⟨Or.inl hx, this hx⟩
    · rintro (⟨hw, hx, _⟩ | ⟨hx | hx, hne⟩)
      · exact Or.inl ⟨hw, hx⟩
      · exact Or.inr hx
      · exact absurd hx hne
  · rw [update_dest_other t p wd n hn]
    constructor
    · intro hx
      refine Or.inr ⟨hx, fun e => hn ?_⟩
      rw [← h.nlri_ok n x hx, h.nlri_ok p.nlri x ((mem_removeSlot _ p x).2 (Or.inr e))]
    · rintro (⟨_, _, e⟩ | ⟨hx, _⟩)
      · exact absurd e hn
      · exact hx

theorem empty_wf : TblWF Tbl.empty :=
  ⟨fun _ _ h => (nomatch h), fun _ _ _ _ h => (nomatch h), fun _ _ _ _ h => (nomatch h),
   fun _ => List.Pairwise.nil, fun _ h => absurd rfl h⟩

theorem empty_idxInv : IdxInv Tbl.empty :=
  fun _ _ => ⟨fun h => (nomatch h), fun h => (nomatch h.1)⟩

private theorem fresh_root (t : Tbl) (p : VPath) (h : TblWF t) (hf : Fresh t p) (n : Nat × Nat) (q : VPath)
    (hq : q ∈ t.dest n) (e : q.root = p.root) : (removeSlot (t.dest p.nlri) p).2 = some q := by
  have f := hf.2 n q hq e
  have hn : n = p.nlri := by rw [← h.nlri_ok n q hq]; exact f.1
  subst hn
  rcases (mem_removeSlot _ p q).1 hq with hr | ho
  · rw [removeSlot_none _ p (h.slot_uniq _) q hr] at f
    cases f.2
  · exact ho

/-- the universe of paths around one update: what is stored, and the announced path -/
private def InU (t : Tbl) (p : VPath) (wd : Bool) (q : VPath) : Prop :=
  (∃ n, q ∈ t.dest n) ∨ (wd = false ∧ q = p)

private theorem inU_inj (t : Tbl) (p : VPath) (wd : Bool) (h : TblWF t) (hf : wd = false → Fresh t p)
    (a b : VPath) (ha : InU t p wd a) (hb : InU t p wd b) (e : a.uid = b.uid) : a = b := by
  rcases ha with ⟨n, ha⟩ | ⟨hw, rfl⟩ <;> rcases hb with ⟨n', hb⟩ | ⟨hw', rfl⟩
  · exact h.uid_uniq n n' a b ha hb e
  · exact (hf hw').1 n a ha e
  · exact ((hf hw).1 n' b hb e.symm).symm
  · rfl

private theorem update_inU (t : Tbl) (p : VPath) (wd : Bool) (h : TblWF t) (n : Nat × Nat) (x : VPath)
    (hx : x ∈ (t.update p wd).dest n) : InU t p wd x := by
  rcases (mem_update t p wd h n x).1 hx with ⟨hw, e, _⟩ | ⟨hx, _⟩
  · exact Or.inr ⟨hw, e⟩
  · exact Or.inl ⟨n, hx⟩

theorem update_uid_inj (t : Tbl) (p : VPath) (wd : Bool) (h : TblWF t) (hf : wd = false → Fresh t p)
    {n n' : Nat × Nat} {a b : VPath} (ha : a ∈ t.dest n) (hb : b ∈ (t.update p wd).dest n')
    (e : a.uid = b.uid) : a = b :=
  inU_inj t p wd h hf a b (Or.inl ⟨n, ha⟩) (update_inU t p wd h n' b hb) e

theorem update_wf (t : Tbl) (p : VPath) (wd : Bool) (h : TblWF t) (hf : wd = false → Fresh t p) :
    TblWF (t.update p wd) := by
  have hm := mem_update t p wd h
  refine ⟨?_, ?_, ?_, ?_, ?_⟩
  · intro n x hx
    rcases (hm n x).1 hx with ⟨_, rfl, rfl⟩ | ⟨hx, _⟩
    · rfl
    · exact h.nlri_ok n x hx
  · intro n n' a b ha hb e
    exact inU_inj t p wd h hf a b (update_inU t p wd h n a ha) (update_inU t p wd h n' b hb) e
  · intro n n' a b ha hb e
    have key : ∀ m y, y ∈ t.dest m → (removeSlot (t.dest p.nlri) p).2 ≠ some y → wd = false → y.root ≠ p.root :=
      fun m y hy hne hw er => hne (fresh_root t p h (hf hw) m y hy er)
    rcases (hm n a).1 ha with ⟨hw, ea, _⟩ | ⟨ha', hna⟩ <;> rcases (hm n' b).1 hb with ⟨hw', eb, _⟩ | ⟨hb', hnb⟩
    · rw [ea, eb]
    · exact (key n' b hb' hnb hw (ea ▸ e.symm)).elim
    · exact (key n a ha' hna hw' (eb ▸ e)).elim
    · exact h.root_uniq n n' a b ha' hb' e
  · intro n
    by_cases hn : n = p.nlri
    · subst hn
      rw [update_dest_self]
      have hR := (h.slot_uniq p.nlri).sublist (removeSlot_sublist (t.dest p.nlri) p)
      cases wd
      · exact insertSort_pairwise _ p hR (removeSlot_none _ p (h.slot_uniq p.nlri))
      · exact hR
    · rw [update_dest_other t p wd n hn]
      exact h.slot_uniq n
  · intro n hne
    rw [mem_update_nlris]
    by_cases hn : n = p.nlri
    · exact Or.inl hn
    · rw [update_dest_other t p wd n hn] at hne
      exact Or.inr (h.listed n hne)

private def Good (U : VPath → Prop) (S : Idx) : Prop := ∀ k q, (k, q) ∈ S → U q ∧ k ∈ keys q.ecs

/-- the index `S` holds exactly the paths `W`, each under all its keys -/
private def Rep (S : Idx) (W : VPath → Prop) : Prop := ∀ k q, (k, q) ∈ S ↔ (k ∈ keys q.ecs ∧ W q)

/-- no held path other than `x` has the index key of `x` -/
private def Sep (W : VPath → Prop) (x : VPath) : Prop := ∀ q, W q → pkey q = pkey x → q = x

/-- UnregisterPath of the path in `o`, under a condition `c` that says `P` of it -/
private theorem Rep.unregister {S : Idx} {W : VPath → Prop} (hS : Rep S W) (o : Option VPath)
    (c : VPath → Bool) (P : VPath → Prop) (hc : ∀ x, o = some x → (c x = true ↔ P x))
    (hs : ∀ x, o = some x → P x → Sep W x) :
    Rep (match (generalizing := false) o with
      | some x => if c x then S.unregister x else S
      | none => S) (fun q => W q ∧ ¬ (o = some q ∧ P q)) := by
  intro k q
  cases o with
  | none => simp [hS k q]
  | some x =>
    simp only [Option.some.injEq]
    split
    · rename_i hcx
      have hP := (hc x rfl).1 hcx
      rw [idx_mem_unregister, hS k q, and_assoc]
      refine and_congr_right fun hk => and_congr_right fun hw => not_congr ⟨fun e => ?_, ?_⟩
      · have := hs x rfl hP q hw e.2
        exact ⟨this.symm, this ▸ hP⟩
      · rintro ⟨rfl, _⟩
        exact ⟨hk, rfl⟩
    · rename_i hcx
      rw [hS k q]
      have : ¬ (x = q ∧ P q) := by
        rintro ⟨rfl, hp⟩
        exact hcx ((hc x rfl).2 hp)
      simp only [this, not_false_eq_true, and_true]

/-- RegisterPath of the path in `o`, under a condition `c` that says `P` of it -/
private theorem Rep.register {S : Idx} {W : VPath → Prop} (hS : Rep S W) (o : Option VPath)
    (c : VPath → Bool) (P : VPath → Prop) (hc : ∀ x, o = some x → (c x = true ↔ P x))
    (hs : ∀ x, o = some x → P x → Sep W x) :
    Rep (match (generalizing := false) o with
      | some x => if c x then S.register x else S
      | none => S) (fun q => (o = some q ∧ P q) ∨ W q) := by
  intro k q
  cases o with
  | none => simp [hS k q]
  | some x =>
    simp only [Option.some.injEq]
    split
    · rename_i hcx
      have hP := (hc x rfl).1 hcx
      rw [idx_mem_register, hS k q]
      constructor
      · rintro (⟨hk, rfl⟩ | ⟨⟨hk, hw⟩, _⟩)
        · exact ⟨hk, Or.inl ⟨rfl, hP⟩⟩
        · exact ⟨hk, Or.inr hw⟩
      · rintro ⟨hk, ⟨rfl, _⟩ | hw⟩
        · exact Or.inl ⟨hk, rfl⟩
        · by_cases e : q = x
          · exact Or.inl ⟨e ▸ hk, e⟩
          · exact Or.inr ⟨⟨hk, hw⟩, fun ⟨_, e'⟩ => e (hs x rfl hP q hw e')⟩
    · rename_i hcx
      rw [hS k q]
      have : ¬ (x = q ∧ P q) := by
        rintro ⟨rfl, hp⟩
        exact hcx ((hc x rfl).2 hp)
      simp only [this, false_or]

private def UInj (U : VPath → Prop) : Prop := ∀ a b, U a → U b → a.uid = b.uid → a = b

/-- the pointer comparisons of updateVPNIdx are comparisons of paths -/
private theorem uidOf_eq (U : VPath → Prop) (hU : UInj U) (o : Option VPath) (x : VPath)
    (ho : ∀ y, o = some y → U y) (hx : U x) : uidOf o = some x.uid ↔ o = some x := by
  cases o with
  | none => simp [uidOf]
  | some y =>
    simp only [uidOf, Option.map_some, Option.some.injEq]
    exact ⟨hU y x (ho y rfl) hx, fun e => e ▸ rfl⟩

/-! the four stages of updateIdx -/

private def u1 (i : Idx) (oldPath : Option VPath) : Idx :=
  match oldPath with
  | some o => i.unregister o
  | none => i

private def u2 (i1 : Idx) (oldBest newBest oldPath : Option VPath) : Idx :=
  match oldBest with
  | some ob =>
    if uidOf newBest != some ob.uid && uidOf oldPath != some ob.uid && ob.pathId == 0 then i1.unregister ob
    else i1
  | none => i1

private def u3 (i2 : Idx) (p : VPath) (wd : Bool) : Idx := if !wd && p.pathId != 0 then i2.register p else i2

private def u4 (i3 : Idx) (oldBest newBest oldPath : Option VPath) : Idx :=
  match newBest with
  | some nb => if uidOf oldBest != some nb.uid || uidOf oldPath == some nb.uid then i3.register nb else i3
  | none => i3

private theorem updateIdx_eq (i : Idx) (oldL newL : List VPath) (p : VPath) (wd : Bool) (op : Option VPath) :
    updateIdx i oldL newL p wd op =
      u4 (u3 (u2 (u1 i op) oldL.head? newL.head? op) p wd) oldL.head? newL.head? op := rfl

private theorem u4_good (U : VPath → Prop) (S : Idx) (oh nh op : Option VPath) (hS : Good U S)
    (hnh : ∀ x, nh = some x → U x) : Good U (u4 S oh nh op) := by
  cases nh with
  | none => exact hS
  | some nb =>
    simp only [u4]
    split
    · intro k q hq
      rcases (idx_mem_register S nb k q).1 hq with ⟨hk, rfl⟩ | ⟨hq, _⟩
      · exact ⟨hnh q rfl, hk⟩
      · exact hS k q hq
    · exact hS

/-- updateVPNIdx on an index that holds `W`, for any old best `oh`, new best `nh` and path taken out `op` that
    are told apart by uid, when no path held at a stage shares the index key of the path that stage handles -/
private theorem stages_rep (U : VPath → Prop) (hU : UInj U) {S : Idx} {W : VPath → Prop} (hS : Rep S W)
    (oh nh op : Option VPath) (p : VPath) (wd : Bool)
    (uo : ∀ x, oh = some x → U x) (un : ∀ x, nh = some x → U x) (up : ∀ x, op = some x → U x)
    (s1 : ∀ x, op = some x → Sep W x) (s2 : ∀ x, oh = some x → Sep W x)
    (s3 : wd = false → Sep (fun q => W q ∧ op ≠ some q) p)
    (s4 : ∀ x, nh = some x → Sep (fun q => (p = q ∧ wd = false) ∨ (W q ∧ op ≠ some q)) x) :
    Rep (u4 (u3 (u2 (u1 S op) oh nh op) p wd) oh nh op) (fun q =>
      (nh = some q ∧ (oh ≠ some q ∨ op = some q)) ∨ (p = q ∧ wd = false ∧ q.pathId ≠ 0) ∨
      ((W q ∧ op ≠ some q) ∧ ¬ (oh = some q ∧ nh ≠ some q ∧ op ≠ some q ∧ q.pathId = 0))) := by
  have r1 : Rep (u1 S op) _ := hS.unregister op (fun _ => true) (fun _ => True) (fun _ _ => by simp)
    (fun x hx _ => s1 x hx)
  have r2 : Rep (u2 _ oh nh op) _ := r1.unregister oh
    (fun ob => uidOf nh != some ob.uid && uidOf op != some ob.uid && ob.pathId == 0)
    (fun q => nh ≠ some q ∧ op ≠ some q ∧ q.pathId = 0)
    (fun x hx => by
      simp only [Bool.and_eq_true, bne_iff_ne, ne_eq, beq_iff_eq, and_assoc, uidOf_eq U hU nh x un (uo x hx),
        uidOf_eq U hU op x up (uo x hx)])
    (fun x hx _ q hq => s2 x hx q hq.1)
  have r3 : Rep (u3 _ p wd) _ := r2.register (some p) (fun x => !wd && x.pathId != 0)
    (fun q => wd = false ∧ q.pathId ≠ 0) (fun x _ => by simp)
    (fun x hx hP q hq => Option.some.inj hx ▸ s3 hP.1 q ⟨hq.1.1, fun e => hq.1.2 ⟨e, trivial⟩⟩)
  have r4 : Rep (u4 _ oh nh op) _ := r3.register nh
    (fun nb => uidOf oh != some nb.uid || uidOf op == some nb.uid) (fun q => oh ≠ some q ∨ op = some q)
    (fun x hx => by
      simp only [Bool.or_eq_true, bne_iff_ne, ne_eq, beq_iff_eq, uidOf_eq U hU oh x uo (un x hx),
        uidOf_eq U hU op x up (un x hx)])
    (fun x hx _ q hq => s4 x hx q (hq.imp (fun e => ⟨Option.some.inj e.1, e.2.1⟩)
      (fun hq => ⟨hq.1.1, fun e => hq.1.2 ⟨e, trivial⟩⟩)))
  intro k q
  exact (r4 k q).trans (by simp only [and_true, Option.some.injEq, ne_eq])

theorem update_idxInv (t : Tbl) (p : VPath) (wd : Bool) (h : TblWF t) (hi : IdxInv t)
    (hf : wd = false → Fresh t p) : IdxInv (t.update p wd) := by
  have hwf' := update_wf t p wd h hf
  have hm := mem_update t p wd h
  have hoh : ∀ x, (t.dest p.nlri).head? = some x → x ∈ t.dest p.nlri := fun x => List.mem_of_head?
  have hnh : ∀ x, (calcDest (t.dest p.nlri) p wd).1.head? = some x → x ∈ (t.update p wd).dest p.nlri :=
    fun x hx => update_dest_self t p wd ▸ List.mem_of_head? hx
  have hop : ∀ x, (calcDest (t.dest p.nlri) p wd).2 = some x → x ∈ t.dest p.nlri :=
    fun x hx => (mem_removeSlot _ p x).2 (Or.inr (calcDest_snd .. ▸ hx))
  -- the index key is the announcement: `root_uniq` of the old table serves the two removals, that of the new table
  -- the two additions, since what the removals leave is stored in the new table
  have sep : ∀ (T : Tbl) (W : VPath → Prop) n x, TblWF T → (∀ q, W q → q ∈ T.dest q.nlri) → x ∈ T.dest n → Sep W x :=
    fun T W n x hT hW hx q hq e => hT.root_uniq _ _ q x (hW q hq) hx (congrArg Prod.fst e)
  have surv : ∀ q, q ∈ t.dest q.nlri → (calcDest (t.dest p.nlri) p wd).2 ≠ some q → q ∈ (t.update p wd).dest q.nlri :=
    fun q hq hn => (hm _ q).2 (Or.inr ⟨hq, fun e => hn (calcDest_snd .. ▸ e)⟩)
  have hp : wd = false → p ∈ (t.update p wd).dest p.nlri := fun hw => (hm _ p).2 (Or.inl ⟨hw, rfl, rfl⟩)
  have r := stages_rep (InU t p wd) (inU_inj t p wd h hf) (fun k q => (hi k q).trans and_left_comm)
    (t.dest p.nlri).head? (calcDest (t.dest p.nlri) p wd).1.head? (calcDest (t.dest p.nlri) p wd).2 p wd
    (fun x hx => Or.inl ⟨_, hoh x hx⟩) (fun x hx => update_inU t p wd h _ x (hnh x hx)) (fun x hx => Or.inl ⟨_, hop x hx⟩)
    (fun x hx => sep t _ _ x h (fun q hq => hq.1) (hop x hx))
    (fun x hx => sep t _ _ x h (fun q hq => hq.1) (hoh x hx))
    (fun hw => sep _ _ _ p hwf' (fun q hq => surv q hq.1.1 hq.2) (hp hw))
    (fun x hx => sep _ _ _ x hwf' (fun q hq => hq.elim (fun e => e.1 ▸ hp e.2) (fun hq => surv q hq.1.1 hq.2)) (hnh x hx))
  intro k q
  rw [show (t.update p wd).idx = _ from updateIdx_eq ..]
  refine ((r k q).trans (and_congr_right' ?_)).trans and_left_comm
  have fS := calcDest_snd (t.dest p.nlri) p wd
  by_cases hq : q.nlri = p.nlri
  · -- `q` is of the destination that changes. Five facts about its old list `L`, what the removal leaves of it, `R`, and
    -- its new list decide: `q ∈ L` iff `q ∈ R` or `q` is taken out (fL); `q` is in the new list iff `q ∈ R` or `q` is the
    -- announced path (fN); a path in `R` is not taken out (fD); a head is a member (fo, fn). If `q ∈ R` it is stored
    -- before and after, and with no path-id it is indexed afterwards iff it is the new head: the fourth stage adds it
    -- if it was not the old head, the second removes the old head if it is not the new one. If `q ∉ R` it is stored
    -- afterwards only as the announced path, and a new head that was the old one too has been taken out.
    have fL := mem_removeSlot (t.dest p.nlri) p q
    have fN := mem_calcDest (t.dest p.nlri) p wd q
    have fD := removeSlot_excl (t.dest p.nlri) p q (h.slot_uniq p.nlri)
    have fo := hoh q
    have fn : _ → q ∈ (calcDest (t.dest p.nlri) p wd).1 := List.mem_of_head? (a := q)
    rw [hq, update_dest_self]
    -- nothing else is needed, and is put out of grind's sight
    clear r hp surv sep hoh hnh hop hm hwf' hi hf h
    grind
  · have n1 : q ∉ t.dest p.nlri := fun hx => hq (h.nlri_ok _ q hx)
    have n2 : q ∉ (t.update p wd).dest p.nlri := fun hx => hq (hwf'.nlri_ok _ q hx)
    have e1 : (t.dest p.nlri).head? ≠ some q := fun e => n1 (hoh q e)
    have e2 : (calcDest (t.dest p.nlri) p wd).1.head? ≠ some q := fun e => n2 (hnh q e)
    have e3 : (calcDest (t.dest p.nlri) p wd).2 ≠ some q := fun e => n1 (hop q e)
    have e4 : p ≠ q := fun e => hq (e ▸ rfl)
    rw [update_dest_other t p wd _ hq]
    simp only [ne_eq, e1, e2, e3, e4, false_and, not_false_eq_true, and_true, false_or]

theorem reach_inv (t : Tbl) (h : Reach t) : TblWF t ∧ IdxInv t := by
  induction h with
  | empty => exact ⟨empty_wf, empty_idxInv⟩
  | step t p wd _ hf ih => exact ⟨update_wf t p wd ih.1 hf, update_idxInv t p wd ih.1 ih.2 hf⟩

end VrfRtc
