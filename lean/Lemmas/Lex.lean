/-
  Lexicographic comparison of integer keys and the `Agree` technique that reduces a chain of
  three-way comparators ("first wins / second wins / cannot decide") to it.
-/
import Model.BestPath
namespace Lex
open BestPath (R decideChain)

/-- `a ≤ b` lexicographically (lower is better); lists of equal length intended -/
def lexLe : List Int → List Int → Bool
  | x :: xs, y :: ys => if x < y then true else if y < x then false else lexLe xs ys
  | _, _ => true

theorem lexLe_cons (x y : Int) (xs ys : List Int) :
    lexLe (x :: xs) (y :: ys) = true ↔ x < y ∨ x = y ∧ lexLe xs ys = true := by
  rw [lexLe]
  rcases Int.lt_trichotomy x y with h | rfl | h
  · simp only [h, if_true, true_or]
  · simp only [Int.lt_irrefl, if_false, false_or, true_and]
  · simp only [h, Int.lt_asymm h, Int.ne_of_gt h, if_false, if_true, false_and, or_false,
      Bool.false_eq_true]

theorem lexLe_refl (a : List Int) : lexLe a a = true := by
  induction a with
  | nil => rfl
  | cons x xs ih => exact (lexLe_cons x x xs xs).mpr (Or.inr ⟨rfl, ih⟩)

theorem lexLe_total : ∀ (a b : List Int), lexLe a b = true ∨ lexLe b a = true
  | [], _ => Or.inl rfl
  | _ :: _, [] => Or.inl rfl
  | x :: xs, y :: ys => by
    rw [lexLe_cons, lexLe_cons]
    rcases Int.lt_trichotomy x y with h | h | h
    · exact Or.inl (Or.inl h)
    · exact (lexLe_total xs ys).imp (fun t => Or.inr ⟨h, t⟩) (fun t => Or.inr ⟨h.symm, t⟩)
    · exact Or.inr (Or.inl h)

theorem lexLe_trans (a : List Int) : ∀ (b c : List Int), a.length = b.length → b.length = c.length →
    lexLe a b = true → lexLe b c = true → lexLe a c = true := by
  induction a with
  | nil => intros; rfl
  | cons x xs ih =>
    intro b c h1 h2 hab hbc
    match b, c, h1, h2 with
    | y :: ys, z :: zs, h1, h2 =>
      rw [lexLe_cons] at hab hbc ⊢
      rcases hab with xy | ⟨rfl, hab⟩
      · rcases hbc with yz | ⟨rfl, _⟩
        · exact Or.inl (Int.lt_trans xy yz)
        · exact Or.inl xy
      · rcases hbc with yz | ⟨rfl, hbc⟩
        · exact Or.inl yz
        · exact Or.inr ⟨rfl, ih ys zs (Nat.succ.inj h1) (Nat.succ.inj h2) hab hbc⟩

theorem lexLe_antisymm (a : List Int) : ∀ (b : List Int), a.length = b.length →
    lexLe a b = true → lexLe b a = true → a = b := by
  induction a with
  | nil => intro b h _ _; exact (List.eq_nil_of_length_eq_zero h.symm).symm
  | cons x xs ih =>
    intro b h hab hba
    match b, h with
    | y :: ys, h =>
      rw [lexLe_cons] at hab hba
      rcases hab with xy | ⟨rfl, hab⟩
      · rcases hba with yx | ⟨rfl, _⟩
        · exact absurd yx (Int.lt_asymm xy)
        · exact absurd xy (Int.lt_irrefl _)
      · rcases hba with yx | ⟨_, hba⟩
        · exact absurd yx (Int.lt_irrefl _)
        · rw [ih ys (Nat.succ.inj h) hab hba]

theorem lexLe_head {x w : Int} {xs ws : List Int} (h : lexLe (x :: xs) (w :: ws) = true) :
    x ≤ w := by
  rw [lexLe_cons] at h
  omega

theorem lexLe_tail {x : Int} {xs ws : List Int} (h : lexLe (x :: xs) (x :: ws) = true) :
    lexLe xs ws = true := by
  rw [lexLe_cons] at h
  exact h.resolve_left (Int.lt_irrefl x) |>.2

theorem lex_sandwich (n : Nat) : ∀ (a z b : List Int), a.length = z.length → z.length = b.length →
    lexLe a z = true → lexLe z b = true → a.take n = b.take n → z.take n = a.take n := by
  induction n with
  | zero => intros; rfl
  | succ n ih =>
    intro a z b h1 h2 l1 l2 ht
    match a, z, b, h1, h2 with
    | [], [], _, _, _ => rfl
    | x :: xs, w :: ws, y :: ys, h1, h2 =>
      simp only [List.take_succ_cons, List.cons.injEq] at ht ⊢
      obtain ⟨rfl, hts⟩ := ht
      obtain rfl : w = x := Int.le_antisymm (lexLe_head l2) (lexLe_head l1)
      exact ⟨rfl, ih xs ws ys (Nat.succ.inj h1) (Nat.succ.inj h2) (lexLe_tail l1)
        (lexLe_tail l2) hts⟩

/-- three-way comparison, lower wins -/
def cmp3 (x y : Int) : R := if x < y then .first else if y < x then .second else .none

/-- `rs` is, step by step, the three-way comparison of the key components — each step only
    *given* that all earlier components are equal.  The last step may answer `first` on a tie
    (Go's compareByNeighborAddress does when both addresses are invalid). -/
def Agree : List R → List Int → List Int → Prop
  | [], [], [] => True
  | r :: rs, x :: xs, y :: ys =>
      (x < y → r = .first) ∧ (y < x → r = .second) ∧
      (x = y → (r = .none ∧ Agree rs xs ys) ∨ (r = .first ∧ xs = [] ∧ ys = []))
  | _, _, _ => False

theorem cmp3_lt {x y : Int} (h : x < y) : cmp3 x y = .first := if_pos h
theorem cmp3_gt {x y : Int} (h : y < x) : cmp3 x y = .second := by
  rw [cmp3, if_neg (Int.lt_asymm h), if_pos h]
theorem cmp3_self (x : Int) : cmp3 x x = .none := by
  rw [cmp3, if_neg (Int.lt_irrefl x), if_neg (Int.lt_irrefl x)]

theorem cmp3_natCast (m n : Nat) :
    cmp3 (m : Int) n = if m = n then .none else if m < n then .first else .second := by
  simp only [cmp3, Int.ofNat_lt]
  rcases Nat.lt_trichotomy m n with h | rfl | h
  · rw [if_pos h, if_neg (Nat.ne_of_lt h), if_pos h]
  · rw [if_neg (Nat.lt_irrefl m), if_neg (Nat.lt_irrefl m), if_pos rfl]
  · rw [if_neg (Nat.lt_asymm h), if_pos h, if_neg (Nat.ne_of_gt h), if_neg (Nat.lt_asymm h)]

theorem Agree.cons {r : R} {rs : List R} {x y : Int} {xs ys : List Int} (hr : r = cmp3 x y)
    (h : x = y → Agree rs xs ys) : Agree (r :: rs) (x :: xs) (y :: ys) :=
  ⟨fun xy => hr.trans (cmp3_lt xy), fun yx => hr.trans (cmp3_gt yx),
    fun e => Or.inl ⟨hr.trans (e ▸ cmp3_self x), h e⟩⟩

theorem Agree.last {r : R} {x y : Int} (hr : r = cmp3 x y ∨ r = .first ∧ x ≤ y) :
    Agree [r] [x] [y] := by
  rcases hr with hr | ⟨rfl, hxy⟩
  · exact Agree.cons hr fun _ => trivial
  · exact ⟨fun _ => rfl, fun yx => absurd yx (Int.not_lt.mpr hxy), fun _ => Or.inr ⟨rfl, rfl, rfl⟩⟩

theorem agree_sound : ∀ (rs : List R) (ka kb : List Int), Agree rs ka kb →
    decideChain rs = lexLe ka kb := by
  intro rs
  induction rs with
  | nil =>
    intro ka kb h
    match ka, kb, h with
    | [], [], _ => rfl
  | cons r rs ih =>
    intro ka kb h
    match ka, kb, h with
    | x :: xs, y :: ys, ⟨h1, h2, h3⟩ =>
      rcases Int.lt_trichotomy x y with xy | rfl | yx
      · simp only [h1 xy, decideChain, lexLe, if_pos xy]
      · rcases h3 rfl with ⟨rfl, hrest⟩ | ⟨rfl, rfl, rfl⟩
        · simp only [decideChain, lexLe, Int.lt_irrefl, if_false]
          exact ih xs ys hrest
        · exact (lexLe_refl [x]).symm
      · simp only [h2 yx, decideChain, lexLe, if_neg (Int.lt_asymm yx), if_pos yx]

end Lex
