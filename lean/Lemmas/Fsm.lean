import Model.Fsm
/-
  Lemmas about Model/Fsm.lean (core only).  The centre is `step_cases`: a step is either silence,
  which runs the timers (`advance`), or one of four kinds of `Answer` of a state handler, and a
  timer that runs out is answered in the same four ways (`fireTimer_answer`).  What the theorems
  of Props/C07.lean say about all runs is read off these four kinds.
-/
namespace Fsm

/-- follow the reported transitions: each must start in the current state and be an allowed
    edge; the result is the state the reports end in. -/
def chain : S → List Out → Option S
  | a, [] => some a
  | a, .trans x y _ _ :: r => if x = a ∧ allowedEdge x y = true then chain y r else none
  | _, .deleted _ :: r => chain .idle r
  | a, .open _ _ :: r => chain a r
  | a, .ka _ _ :: r => chain a r
  | a, .notif _ _ _ _ :: r => chain a r
  | a, .close _ _ :: r => chain a r

theorem chain_append (a : S) (l1 l2 : List Out) :
    chain a (l1 ++ l2) = (chain a l1).bind (fun b => chain b l2) := by
  induction l1 generalizing a with
  | nil => rfl
  | cons o r ih =>
    cases o <;> simp only [List.cons_append, chain, ih]
    split <;> rfl

/-- outputs among which no transition (and no deletion) is reported -/
def NoReport (l : List Out) : Prop := ∀ a, chain a l = some a

theorem NoReport.chain_append {pre : List Out} (h : NoReport pre) (a : S) (l : List Out) :
    chain a (pre ++ l) = chain a l := by
  rw [Fsm.chain_append, h a]; rfl

@[simp] theorem chain_drainOuts (a : S) (s : St) (l : List Out) : chain a (drainOuts s ++ l) = chain a l := by
  unfold drainOuts; split <;> rfl

theorem allowed_to_idle (a : S) : allowedEdge a .idle = true := by cases a <;> rfl

theorem toIdle_chain (s : St) (n : Nat) :
    chain s.st (toIdle s n).2 = some (toIdle s n).1.st := by
  simp only [toIdle, chain_drainOuts, chain, allowed_to_idle, and_self, if_true]

theorem notifyIdle_chain (s : St) (a b : Nat) :
    chain s.st (notifyIdle s a b).2 = some (notifyIdle s a b).1.st :=
  toIdle_chain s s.idleHold

theorem closeIdle_chain (s : St) :
    chain s.st (closeIdle s).2 = some (closeIdle s).1.st :=
  toIdle_chain s s.idleHold

theorem chain_allowed {a b : S} {l : List Out} (h : chain a l = some b) :
    ∀ x y adm t, Out.trans x y adm t ∈ l → allowedEdge x y = true := by
  induction l generalizing a with
  | nil => intro x y adm t hm; cases hm
  | cons o r ih =>
    intro x y adm t hm
    rcases List.mem_cons.mp hm with he | hr
    · subst he
      simp only [chain] at h
      split at h
      · next hc => exact hc.2
      · cases h
    · cases o
      case trans =>
        simp only [chain] at h
        split at h
        · exact ih h x y adm t hr
        · cases h
      all_goals exact ih h x y adm t hr

/- The `@[simp]` ones are what the default proofs `by simp [*]` of `Answer`'s side conditions use. -/
section projections
variable (c : Cfg) (s : St) (n : Nat)

@[simp] theorem armSession_st : (armSession c s n).st = s.st := by unfold armSession; split <;> rfl
@[simp] theorem armSession_admin : (armSession c s n).admin = s.admin := by unfold armSession; split <;> rfl
@[simp] theorem armSession_rib : (armSession c s n).rib = s.rib := by unfold armSession; split <;> rfl
@[simp] theorem armSession_deleted : (armSession c s n).deleted = s.deleted := by
  unfold armSession; split <;> rfl
@[simp] theorem armSession_idleHold : (armSession c s n).idleHold = s.idleHold := by
  unfold armSession; split <;> rfl
@[simp] theorem armSession_idleT : (armSession c s n).idleT = s.idleT := by unfold armSession; split <;> rfl
@[simp] theorem armSession_queued : (armSession c s n).queued = s.queued := by
  unfold armSession; split <;> rfl
theorem armSession_holdT {n : Nat} (hn : n ≠ 0) : (armSession c s n).holdT = some (s.now + n) := by
  unfold armSession; rw [if_neg hn]
@[simp] theorem touch_deleted : (touch s).deleted = s.deleted := by unfold touch; split <;> rfl
@[simp] theorem touch_queued : (touch s).queued = s.queued := by unfold touch; split <;> rfl
@[simp] theorem touch_st : (touch s).st = s.st := by unfold touch; split <;> rfl
@[simp] theorem touch_admin : (touch s).admin = s.admin := by unfold touch; split <;> rfl
@[simp] theorem touch_rib : (touch s).rib = s.rib := by unfold touch; split <;> rfl
@[simp] theorem touch_now : (touch s).now = s.now := by unfold touch; split <;> rfl
@[simp] theorem touch_cur : (touch s).cur = s.cur := by unfold touch; split <;> rfl
@[simp] theorem touch_idleHold : (touch s).idleHold = s.idleHold := by unfold touch; split <;> rfl
end projections

/-- the NOTIFICATIONs among the outputs: (code, subcode, instant) -/
def notifs : List Out → List (Nat × Nat × Nat)
  | [] => []
  | .notif _ a b t :: r => (a, b, t) :: notifs r
  | .open _ _ :: r => notifs r
  | .ka _ _ :: r => notifs r
  | .close _ _ :: r => notifs r
  | .trans _ _ _ _ :: r => notifs r
  | .deleted _ :: r => notifs r

theorem notifs_append (l1 l2 : List Out) : notifs (l1 ++ l2) = notifs l1 ++ notifs l2 := by
  induction l1 with
  | nil => rfl
  | cons o r ih => cases o <;> simp only [List.cons_append, notifs, ih]

@[simp] theorem notifs_drainOuts (s : St) : notifs (drainOuts s) = [] := by
  unfold drainOuts; split <;> rfl

@[simp] theorem notifs_toIdle (s : St) (h : Nat) : notifs (toIdle s h).2 = [] := by
  simp only [toIdle, notifs_append, notifs_drainOuts]; rfl

@[simp] theorem notifs_notifyIdle (s : St) (a b : Nat) : notifs (notifyIdle s a b).2 = [(a, b, s.now)] :=
  congrArg ((a, b, s.now) :: ·) (notifs_toIdle s s.idleHold)

/-- the rungs by which a session comes up, each with the event that climbs it: the idle hold
    timer running out during silence, an accepted connection, the hand-over of a connection by
    the outgoing-connection manager, an acceptable OPEN, the KEEPALIVE that confirms it -/
inductive Rung (c : Cfg) : S → Ev → S → Prop
  | wake (t : Nat) : Rung c .idle (.tick t) .active
  | accept : Rung c .active .connect .opensent
  | handover (o : OpenMsg) : Rung c .active (.outgoing o) .openconfirm
  | opened (o : OpenMsg) : validateOpen c o = none → Rung c .opensent (.open o) .openconfirm
  | confirmed : Rung c .openconfirm .keepalive .established

/-- how a state handler, or a timer that runs out, answers: of the state only what the theorems
    about runs need is recorded.  The side conditions are all of the kind "this field is not
    touched" or "this is not that event", hence the default proofs. -/
inductive Answer (c : Cfg) (s : St) (e : Ev) : St × List Out → Prop
  /-- the handler loops (for a deleted peer: only a new connection is answered) -/
  | stays {s' : St} {outs : List Out} (st : s'.st = s.st := by simp [*])
      (deleted : s'.deleted = s.deleted := by simp [*])
      (idleHold : s'.idleHold = s.idleHold := by simp [*])
      (queued : s'.queued = s.queued ∨
        (s.deleted = false ∧ (s.st = .openconfirm ∨ s.st = .established)) := by simp [*])
      (rib : s'.rib = s.rib ∨ (s.st = .established ∧ ∃ n, e = .update n) := by simp [*])
      (quiet : NoReport outs := by exact fun _ => rfl) (silent : notifs outs = [] := by rfl) :
      Answer c s e (s', outs)
  /-- one rung up, reported last; leaving IDLE puts the idle hold time back to its default -/
  | climbs {s' : St} {a b : S} (pre : List Out) (rung : Rung c a e b)
      (src : s.st = a := by simp [*]) (dst : s'.st = b := by simp [*])
      (deleted : s'.deleted = s.deleted := by simp [*])
      (idleHold : s'.idleHold = if a = .idle then holdtimeIdle else s.idleHold := by simp [*])
      (queued : s'.queued = s.queued := by simp [*]) (rib : s'.rib = s.rib := by simp [*])
      (quiet : NoReport pre := by exact fun _ => rfl) (silent : notifs pre = [] := by rfl) :
      Answer c s e (s', pre ++ [.trans a b s.admin s.now])
  /-- back to IDLE by `toIdle`, after whatever is written on the connection first; `s1` is `s`
      with the administrative state, the Adj-RIB-In or the hold timer already changed -/
  | falls (s1 : St) (pre : List Out) (h : Nat) (st : s1.st = s.st := by simp [*])
      (now : s1.now = s.now := by simp [*]) (queued : s1.queued = s.queued := by simp [*])
      (hold : h = if s.st = .established ∧ e = .reset then c.idleAfterReset else s.idleHold := by
        simp [*])
      (quiet : NoReport pre := by exact fun _ => rfl) :
      Answer c s e ((toIdle s1 h).1, pre ++ (toIdle s1 h).2)
  | dies (pre : List Out) (quiet : NoReport pre := by exact fun _ => rfl) : Answer c s e (die s pre)

/-! one line per arm of the handler, in the order of its `match` -/

theorem onDeleted_answer (c : Cfg) (s : St) (e : Ev) : Answer c s e (onDeleted s e) := by
  unfold onDeleted
  split <;> exact .stays

theorem onIdle_answer (c : Cfg) (s : St) (e : Ev) : Answer c s e (onIdle c s e) := by
  unfold onIdle
  split
  · exact .stays
  · exact .stays
  · exact .stays
  · exact .dies _
  · exact .stays

theorem onActive_answer (c : Cfg) {s : St} (e : Ev) (hs : s.st = .active) :
    Answer c s e (onActive c s e) := by
  unfold onActive
  split
  · exact .climbs [.open .p s.now] .accept
  · next o => exact .climbs [.ka .o s.now] (.handover o)
  · exact .stays
  · exact .falls { s with admin := .down } [] _
  · exact .dies _
  · exact .stays

theorem onOpensent_answer (c : Cfg) {s : St} (e : Ev) (hs : s.st = .opensent) :
    Answer c s e (onOpensent c s e) := by
  unfold onOpensent
  split
  · exact .stays
  · next o =>
    split
    · exact .falls s _ _
    · next hv => exact .climbs [.ka s.cur s.now] (.opened o hv)
  · exact .falls s _ _
  · exact .falls s _ _
  · exact .falls s _ _
  · exact .falls s _ _
  · exact .falls s _ _
  · exact .falls s [] _
  · exact .falls s [] _
  · exact .stays
  · exact .falls { s with admin := .down } _ _
  · exact .dies _
  · exact .stays

theorem onOpenconfirm_answer (c : Cfg) {s : St} (e : Ev) (hs : s.st = .openconfirm)
    (hd : s.deleted = false) : Answer c s e (onOpenconfirm c s e) := by
  unfold onOpenconfirm
  split
  · exact .stays
  · exact .stays
  · exact .climbs [] .confirmed
  · exact .falls s _ _
  · exact .falls s _ _
  · exact .falls s _ _
  · exact .falls s _ _
  · exact .falls s _ _
  · exact .falls s [] _
  · exact .falls s [] _
  · exact .stays
  · exact .falls { s with admin := .down } _ _
  · exact .dies _
  · exact .stays

theorem onEstablished_answer (c : Cfg) {s : St} (e : Ev) (hs : s.st = .established)
    (hd : s.deleted = false) : Answer c s e (onEstablished c s e) := by
  unfold onEstablished
  split
  · exact .stays
  · exact .stays
  · exact .stays
  · next n =>
    dsimp only
    split
    · exact .falls { touch { s with rib := s.rib + n } with admin := .pfxct } _ _
    · exact .stays
  · exact .stays
  · exact .falls s _ _
  · exact .falls s _ _
  · exact .falls s _ _
  · exact .falls s [] _
  · exact .falls s [] _
  · exact .stays
  · exact .falls { s with admin := .down } _ _
  · exact .falls s _ _
  · exact .falls s _ c.idleAfterReset
  · exact .dies _
  · exact .stays

theorem step_cases (c : Cfg) (s : St) (e : Ev) :
    (∃ t, e = .tick t ∧ step c s e = advance (t + 3) s (s.now + t)) ∨
      Answer c s e (step c s e) := by
  unfold step
  split
  · exact .inr (onDeleted_answer c s e)
  · next hd =>
    have hd : s.deleted = false := Bool.eq_false_iff.mpr hd
    split
    · next t => exact .inl ⟨t, rfl, rfl⟩
    · refine .inr ?_
      split
      · exact onIdle_answer c s e
      · next hs => exact onActive_answer c e hs
      · next hs => exact onOpensent_answer c e hs
      · next hs => exact onOpenconfirm_answer c e hs hd
      · next hs => exact onEstablished_answer c e hs hd

theorem step_answer {c : Cfg} {s : St} {e : Ev} (ht : ∀ t, e ≠ .tick t) : Answer c s e (step c s e) :=
  (step_cases c s e).resolve_left fun ⟨t, h, _⟩ => ht t h

theorem step_live {c : Cfg} {s : St} {e : Ev} (hd : s.deleted = false) :
    step c s e = match e with
      | .tick t => advance (t + 3) s (s.now + t)
      | _ =>
        match s.st with
        | .idle => onIdle c s e
        | .active => onActive c s e
        | .opensent => onOpensent c s e
        | .openconfirm => onOpenconfirm c s e
        | .established => onEstablished c s e := by
  unfold step
  rw [if_neg (by rw [hd]; nofun)]
  cases e <;> rfl

def isSession (s : St) : Prop := s.st = .opensent ∨ s.st = .openconfirm ∨ s.st = .established

theorem isSession.ne_idle {s : St} (h : isSession s) : s.st ≠ .idle := by
  intro hi; rw [isSession, hi] at h; simp at h

theorem isSession.ne_active {s : St} (h : isSession s) : s.st ≠ .active := by
  intro hi; rw [isSession, hi] at h; simp at h

theorem dueSess_some {hT kT : Option Nat} {t d : Nat} {tm : Tm}
    (h : dueSess hT kT t = some (tm, d)) :
    d ≤ t ∧ ((tm = .hold ∧ hT = some d) ∨ (tm = .ka ∧ kT = some d ∧ ∀ h', hT = some h' → d < h')) := by
  unfold dueSess at h
  split at h
  · split at h
    · split at h
      · cases h; exact ⟨‹_›, .inl ⟨rfl, rfl⟩⟩
      · cases h
    · split at h
      · cases h; exact ⟨‹_›, .inr ⟨rfl, rfl, fun h' hh => by cases hh; omega⟩⟩
      · cases h
  · split at h
    · cases h; exact ⟨‹_›, .inl ⟨rfl, rfl⟩⟩
    · cases h
  · split at h
    · cases h; exact ⟨‹_›, .inr ⟨rfl, rfl, nofun⟩⟩
    · cases h
  · cases h

theorem dueSess_none {kT : Option Nat} {t d : Nat} (h : dueSess (some d) kT t = none) : t < d := by
  cases kT with
  | none =>
    simp only [dueSess] at h
    split at h
    · cases h
    · omega
  | some k =>
    simp only [dueSess] at h
    split at h
    · split at h
      · cases h
      · omega
    · split at h
      · cases h
      · omega

theorem due_cases {s : St} {t d : Nat} {tm : Tm} (h : due s t = some (tm, d)) :
    (tm = .idle ∧ s.st = .idle) ∨ (isSession s ∧ dueSess s.holdT s.kaT t = some (tm, d)) := by
  unfold due at h
  split at h
  · next hs =>
    split at h
    · split at h
      · cases h; exact .inl ⟨rfl, hs⟩
      · cases h
    · cases h
  · cases h
  · next hs => exact .inr ⟨.inl hs, h⟩
  · next hs => exact .inr ⟨.inr (.inl hs), h⟩
  · next hs => exact .inr ⟨.inr (.inr hs), h⟩

/-- timers read no configuration, so any `c` serves -/
theorem fireTimer_answer (c : Cfg) {s : St} {t d : Nat} {tm : Tm} (h : due s t = some (tm, d)) :
    Answer c { s with now := d } (.tick t) (fireTimer s tm d) := by
  rcases due_cases h with ⟨rfl, hs⟩ | ⟨-, h⟩
  · unfold fireTimer
    dsimp only
    split
    · exact .climbs [] (.wake t)
    · exact .stays
  · rcases (dueSess_some h).2 with ⟨rfl, -⟩ | ⟨rfl, -⟩
    · exact .falls { s with now := d } _ _
    · exact .stays

theorem fireTimer_admin (s : St) (tm : Tm) (d : Nat) : (fireTimer s tm d).1.admin = s.admin := by
  cases tm
  · unfold fireTimer; dsimp only; split <;> rfl
  · rfl
  · rfl

theorem fireTimer_deleted (s : St) (tm : Tm) (d : Nat) : (fireTimer s tm d).1.deleted = s.deleted := by
  cases tm
  · unfold fireTimer; dsimp only; split <;> rfl
  · rfl
  · rfl

/-! ### what holds of every answer holds of every run -/

section inv
variable {c : Cfg} {P : St → Prop}

theorem advance_inv (hnow : ∀ s d, P s → P { s with now := d })
    (hans : ∀ s t r, Answer c s (.tick t) r → P s → P r.1) (f : Nat) (s : St) (t : Nat) (h : P s) :
    P (advance f s t).1 := by
  induction f generalizing s with
  | zero => exact h
  | succ f ih =>
    unfold advance
    split
    · exact hnow s t h
    · next tm d hd => exact ih _ (hans _ t _ (fireTimer_answer c hd) (hnow s d h))

theorem step_inv (hnow : ∀ s d, P s → P { s with now := d })
    (hans : ∀ s e r, Answer c s e r → P s → P r.1) (s : St) (e : Ev) (h : P s) : P (step c s e).1 := by
  rcases step_cases c s e with ⟨t, rfl, heq⟩ | ha
  · rw [heq]; exact advance_inv hnow (fun s t => hans s _) _ _ _ h
  · exact hans _ _ _ ha h

theorem run_inv (hnow : ∀ s d, P s → P { s with now := d })
    (hans : ∀ s e r, Answer c s e r → P s → P r.1) (s : St) (es : List Ev) (h : P s) :
    P (run c s es).1 := by
  induction es generalizing s with
  | nil => exact h
  | cons e es ih => exact ih _ (step_inv hnow hans s e h)
end inv

section answers
variable {c : Cfg} {s : St} {e : Ev} {r : St × List Out}

theorem Rung.allowed {a b : S} (h : Rung c a e b) : allowedEdge a b = true := by cases h <;> rfl

theorem Rung.ne_idle {a b : S} (h : Rung c a e b) : b ≠ .idle := by cases h <;> nofun

theorem Rung.to_active {a : S} (h : Rung c a e .active) : a = .idle := by cases h; rfl

theorem Rung.of_tick {a b : S} {t : Nat} (h : Rung c a (.tick t) b) : b = .active := by cases h; rfl

theorem Rung.to_established {a : S} (h : Rung c a e .established) : a = .openconfirm ∧ e = .keepalive := by
  cases h; exact ⟨rfl, rfl⟩

theorem Answer.chain (h : Answer c s e r) : chain s.st r.2 = some r.1.st := by
  cases h with
  | stays hst _ _ _ _ hq => exact (hq s.st).trans (congrArg some hst.symm)
  | climbs _ hr hsrc hdst _ _ _ _ hq =>
    subst hsrc hdst
    rw [hq.chain_append]
    simp only [Fsm.chain, hr.allowed, and_self, if_true]
  | falls s1 _ n hst _ _ _ hq =>
    rw [hq.chain_append, ← hst]
    exact toIdle_chain s1 n
  | dies _ hq =>
    simp only [die, List.append_assoc, hq.chain_append, chain_drainOuts]
    rfl

theorem Answer.st_cases (h : Answer c s e r) : r.1.st = s.st ∨ r.1.st = .idle ∨ Rung c s.st e r.1.st := by
  cases h with
  | stays hst => exact .inl hst
  | climbs _ hr hsrc hdst =>
    subst hsrc hdst
    exact .inr (.inr hr)
  | falls => exact .inr (.inl rfl)
  | dies => exact .inr (.inl rfl)

theorem Answer.idle_of_notif (h : Answer c s e r) (hn : notifs r.2 ≠ []) : r.1.st = .idle := by
  cases h with
  | stays _ _ _ _ _ _ hs => exact absurd hs hn
  | climbs _ _ _ _ _ _ _ _ _ hs => exact absurd (by rw [notifs_append, hs]; rfl) hn
  | falls => rfl
  | dies => rfl

theorem Answer.rib_cases (h : Answer c s e r) :
    r.1.rib = s.rib ∨ r.1.rib = 0 ∨ (s.st = .established ∧ ∃ n, e = .update n) := by
  cases h with
  | stays _ _ _ _ hr => exact hr.imp_right .inr
  | climbs _ _ _ _ _ _ _ hr => exact .inl hr
  | falls => exact .inr (.inl rfl)
  | dies => exact .inr (.inl rfl)

theorem Answer.drains (ha : Answer c s e r) (hq : s.queued = true) (hne : s.st ≠ .idle) (hi : r.1.st = .idle) :
    Out.close .o s.now ∈ r.2 := by
  cases ha with
  | stays hst => exact absurd (hst ▸ hi) hne
  | climbs _ hrung _ hdst => exact absurd (hdst ▸ hi) hrung.ne_idle
  | falls _ _ _ _ hnow hq1 => simp [toIdle, drainOuts, hq1, hnow, hq]
  | dies => simp [die, drainOuts, hq]

theorem Answer.idleT (ha : Answer c s e r) (hne : s.st ≠ .idle) (hi : r.1.st = .idle) (hd : r.1.deleted = false) :
    r.1.idleT = some (s.now +
      if s.st = .established ∧ e = .reset then c.idleAfterReset else s.idleHold) := by
  cases ha with
  | stays hst => exact absurd (hst ▸ hi) hne
  | climbs _ hrung _ hdst => exact absurd (hdst ▸ hi) hrung.ne_idle
  | falls _ _ _ _ hnow _ hh => rw [← hh, ← hnow]; rfl
  | dies => cases hd
end answers

theorem advance_chain (f : Nat) (s : St) (t : Nat) :
    chain s.st (advance f s t).2 = some (advance f s t).1.st := by
  induction f generalizing s with
  | zero => rfl
  | succ f ih =>
    unfold advance
    split
    · rfl
    · next tm d hd =>
      dsimp only
      rw [chain_append, (fireTimer_answer default hd).chain, Option.bind_some, ih]

theorem step_chain (c : Cfg) (s : St) (e : Ev) :
    chain s.st (step c s e).2 = some (step c s e).1.st := by
  rcases step_cases c s e with ⟨t, -, heq⟩ | h
  · rw [heq]; exact advance_chain ..
  · exact h.chain

theorem run_chain (c : Cfg) (s : St) (es : List Ev) :
    chain s.st (run c s es).2 = some (run c s es).1.st := by
  induction es generalizing s with
  | nil => rfl
  | cons e es ih =>
    simp only [run]
    rw [chain_append, step_chain, Option.bind_some, ih]

theorem advance_st (f : Nat) (s : St) (t : Nat) :
    (advance f s t).1.st = s.st ∨ (advance f s t).1.st = .idle ∨ (advance f s t).1.st = .active := by
  refine advance_inv (c := default) (P := fun x => x.st = s.st ∨ x.st = .idle ∨ x.st = .active)
    (fun _ _ h => h) (fun x t r ha h => ?_) f s t (.inl rfl)
  rcases ha.st_cases with h1 | h1 | h1
  · rw [h1]; exact h
  · exact .inr (.inl h1)
  · exact .inr (.inr h1.of_tick)

theorem step_st (c : Cfg) (s : St) (e : Ev) :
    (step c s e).1.st = s.st ∨ (step c s e).1.st = .idle ∨ (step c s e).1.st = .active ∨
      Rung c s.st e (step c s e).1.st := by
  rcases step_cases c s e with ⟨t, -, heq⟩ | ha
  · rw [heq]
    exact (advance_st ..).imp_right fun h => h.imp_right .inl
  · exact ha.st_cases.imp_right fun h => h.imp_right .inr

theorem step_enters {c : Cfg} {s : St} {e : Ev} {b : S} (h : (step c s e).1.st = b)
    (hi : b ≠ .idle) (ha : b ≠ .active) : s.st = b ∨ Rung c s.st e b := by
  rcases step_st c s e with h1 | h1 | h1 | h1
  · exact .inl (h1 ▸ h)
  · exact absurd (h ▸ h1) hi
  · exact absurd (h ▸ h1) ha
  · exact .inr (h ▸ h1)

theorem established_entry (c : Cfg) (s : St) (e : Ev)
    (h : (step c s e).1.st = .established) :
    s.st = .established ∨ (s.st = .openconfirm ∧ e = .keepalive) :=
  (step_enters h nofun nofun).imp_right Rung.to_established

/-- an OPEN-like event: an OPEN the daemon accepts, or the hand-over of a connection on which
    the outgoing-connection manager has received one -/
def openLike (c : Cfg) (e : Ev) : Prop :=
  (∃ o, e = .open o ∧ validateOpen c o = none) ∨ (∃ o, e = .outgoing o)

theorem Rung.openLike {c : Cfg} {a : S} {e : Ev} (h : Rung c a e .openconfirm) : openLike c e := by
  cases h with
  | handover o => exact .inr ⟨o, rfl⟩
  | opened o hv => exact .inl ⟨o, rfl, hv⟩

theorem openconfirm_entry (c : Cfg) (s : St) (e : Ev) (h : (step c s e).1.st = .openconfirm) :
    s.st = .openconfirm ∨ openLike c e :=
  (step_enters h nofun nofun).imp_right Rung.openLike

theorem advance_rib (f : Nat) (s : St) (t : Nat) :
    (advance f s t).1.rib = s.rib ∨ (advance f s t).1.rib = 0 := by
  refine advance_inv (c := default) (P := fun x => x.rib = s.rib ∨ x.rib = 0)
    (fun _ _ h => h) (fun x t r ha h => ?_) f s t (.inl rfl)
  rcases ha.rib_cases with h1 | h1 | ⟨-, n, hn⟩
  · rw [h1]; exact h
  · exact .inr h1
  · cases hn

theorem step_rib (c : Cfg) (s : St) (e : Ev) (hne : s.st ≠ .established) :
    (step c s e).1.rib = s.rib ∨ (step c s e).1.rib = 0 := by
  rcases step_cases c s e with ⟨t, -, heq⟩ | ha
  · rw [heq]; exact advance_rib ..
  · rcases ha.rib_cases with h1 | h1 | ⟨h1, -⟩
    · exact .inl h1
    · exact .inr h1
    · exact absurd h1 hne

theorem advance_admin (f : Nat) (s : St) (t : Nat) : (advance f s t).1.admin = s.admin := by
  induction f generalizing s with
  | zero => rfl
  | succ f ih =>
    unfold advance
    split
    · rfl
    · exact (ih _).trans (fireTimer_admin ..)

/-- sanity of the deadlines: the ticker is strictly in the future with a positive period, the
    hold timer not in the past -/
structure TimersWF (s : St) : Prop where
  ka_future : ∀ k, s.kaT = some k → s.now < k
  kaI_pos : s.kaT ≠ none → 0 < s.kaI
  hold_future : ∀ h, s.holdT = some h → s.now ≤ h

theorem advance_quiet (f : Nat) (s : St) (t : Nat) (h : s.st = .idle ∨ s.st = .active) :
    notifs (advance f s t).2 = [] := by
  induction f generalizing s with
  | zero => rfl
  | succ f ih =>
    unfold advance
    split
    · rfl
    · next tm d hd =>
      rcases due_cases hd with ⟨rfl, hs⟩ | ⟨hs, -⟩
      · -- only the idle hold timer can be due, and it writes nothing
        dsimp only
        rw [notifs_append, ih]
        · unfold fireTimer; dsimp only; split <;> rfl
        · unfold fireTimer; dsimp only; split
          · exact .inr rfl
          · exact .inl hs
      · exact (h.elim hs.ne_idle hs.ne_active).elim

theorem due_session {s : St} (hs : isSession s) (t : Nat) : due s t = dueSess s.holdT s.kaT t := by
  rcases hs with h | h | h <;> simp only [due, h]

theorem advance_hold (f : Nat) (s : St) (t d : Nat) (hs : isSession s) (hh : s.holdT = some d)
    (wf : TimersWF s) (hf : t - s.now + 3 ≤ f) :
    notifs (advance f s t).2 = if d ≤ t then [(4, 0, d)] else [] := by
  induction f generalizing s with
  | zero => omega
  | succ f ih =>
    unfold advance
    rw [due_session hs, hh]
    split
    · next hd => rw [if_neg (Nat.not_le.mpr (dueSess_none hd))]; rfl
    · next tm d' hd =>
      obtain ⟨hle, ⟨rfl, hd'⟩ | ⟨rfl, hk, hlt⟩⟩ := dueSess_some hd
      · -- the hold timer itself: Hold Timer Expired at `d`, and IDLE writes nothing more
        cases hd'
        dsimp only
        rw [notifs_append, advance_quiet _ _ _ (.inl rfl), if_pos hle, List.append_nil]
        exact notifs_notifyIdle { s with now := d } 4 0
      · -- the ticker, strictly before `d`: a KEEPALIVE goes out, the hold timer stays armed
        have hlt := hlt d rfl
        have hnow := wf.ka_future d' hk
        have hpos := wf.kaI_pos (hk ▸ nofun)
        dsimp only
        rw [notifs_append, ih (fireTimer s .ka d').1 hs hh ⟨?_, fun _ => hpos, ?_⟩ ?_]
        · rfl
        · intro k hk'; cases hk'; exact Nat.lt_add_of_pos_right hpos
        · intro h hh'; cases hh.symm.trans hh'; exact Nat.le_of_lt hlt
        · show t - d' + 3 ≤ f; omega

/-- the event list contains an OPEN-like event and, later, a KEEPALIVE -/
def seenOpenKa (c : Cfg) (es : List Ev) : Prop :=
  ∃ l1 e l2 l3, es = l1 ++ [e] ++ l2 ++ [Ev.keepalive] ++ l3 ∧ openLike c e

theorem run_established (c : Cfg) (s : St) (es : List Ev)
    (h : (run c s es).1.st = .established) :
    s.st = .established ∨ (s.st = .openconfirm ∧ Ev.keepalive ∈ es) ∨ seenOpenKa c es := by
  induction es generalizing s with
  | nil => exact .inl h
  | cons e es ih =>
    rcases ih (step c s e).1 h with h1 | ⟨h1, hk⟩ | ⟨l1, e', l2, l3, he, ho⟩
    · rcases established_entry c s e h1 with h2 | ⟨h2, h3⟩
      · exact .inl h2
      · exact .inr (.inl ⟨h2, h3 ▸ List.mem_cons_self⟩)
    · rcases openconfirm_entry c s e h1 with h2 | ho
      · exact .inr (.inl ⟨h2, List.mem_cons_of_mem e hk⟩)
      · obtain ⟨l2, l3, rfl⟩ := List.append_of_mem hk
        exact .inr (.inr ⟨[], e, l2, l3, by simp, ho⟩)
    · exact .inr (.inr ⟨e :: l1, e', l2, l3, by simp [he], ho⟩)

/-- the nested loops of getASN visit the capabilities in order of appearance, whatever
    optional parameters carry them -/
theorem scanParams_flat (a : Nat) (ps : List OptParam) :
    scanParams a ps = scanCaps a (flatCaps ps) := by
  induction ps generalizing a with
  | nil => rfl
  | cons p r ih =>
    cases p with
    | unknown => simpa [scanParams, flatCaps] using ih a
    | caps l =>
      have happ : ∀ (b : Nat) (l1 l2 : List Cap), scanCaps b (l1 ++ l2) = scanCaps (scanCaps b l1) l2 := by
        intro b l1 l2
        induction l1 generalizing b with
        | nil => rfl
        | cons c r1 ih1 => cases c <;> simp [scanCaps, ih1]
      simp [scanParams, flatCaps, ih, happ]

theorem scanCaps_last (a : Nat) (l : List Cap) : scanCaps a l = (lastAs4 l).getD a := by
  induction l generalizing a with
  | nil => rfl
  | cons c r ih =>
    cases c with
    | other => simpa [scanCaps, lastAs4] using ih a
    | as4 v =>
      simp only [scanCaps, lastAs4, ih]
      cases lastAs4 r <;> simp [Option.orElse]

end Fsm
