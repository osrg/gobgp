import Model.Pack
/-! The receiver and the last-action map: changes without a repeated receiver key have the same effect
    in any order, and `dedup` produces such a list with the effect of its input. -/
namespace Pack

theorem apply1_apply (o : Opts) (v : View) (c : Change) (k : Nat × Nat × Nat × Nat) :
    apply1 o v c k = if k = wkey o c then c.act else v k := rfl

theorem apply1_same (o : Opts) (v : View) (c d : Change) (h : wkey o d = wkey o c) :
    apply1 o (apply1 o v c) d = apply1 o v d := by
  funext k
  rw [apply1_apply, apply1_apply, apply1_apply, h]
  by_cases hk : k = wkey o c
  · rw [if_pos hk, if_pos hk]
  · rw [if_neg hk, if_neg hk, if_neg hk]

theorem apply1_comm (o : Opts) (v : View) (c d : Change) (h : wkey o d ≠ wkey o c) :
    apply1 o (apply1 o v c) d = apply1 o (apply1 o v d) c := by
  funext k
  rw [apply1_apply, apply1_apply, apply1_apply, apply1_apply]
  by_cases hd : k = wkey o d
  · rw [if_pos hd, if_neg (hd ▸ h), if_pos hd]
  · rw [if_neg hd, if_neg hd]

theorem applyCs_cons (o : Opts) (c : Change) (cs : List Change) (v : View) :
    applyCs o (c :: cs) v = applyCs o cs (apply1 o v c) := rfl

theorem applyCs_append (o : Opts) (a b : List Change) (v : View) :
    applyCs o (a ++ b) v = applyCs o b (applyCs o a v) :=
  List.foldl_append

theorem applyCs_absorb (o : Opts) (c : Change) :
    ∀ (cs : List Change) (v : View), (∃ d ∈ cs, wkey o d = wkey o c) →
      applyCs o cs (apply1 o v c) = applyCs o cs v := by
  intro cs
  induction cs with
  | nil => intro v ⟨d, hd, _⟩; cases hd
  | cons d rest ih =>
    intro v ⟨e, he, hke⟩
    rw [applyCs_cons, applyCs_cons]
    by_cases hk : wkey o d = wkey o c
    · rw [apply1_same o v c d hk]
    · rw [apply1_comm o v c d hk]
      apply ih
      cases he with
      | head => exact absurd hke hk
      | tail _ hm => exact ⟨e, hm, hke⟩

theorem applyCs_perm (o : Opts) {cs₁ cs₂ : List Change} (hp : cs₁.Perm cs₂)
    (hn : (cs₂.map (wkey o)).Nodup) (v : View) : applyCs o cs₁ v = applyCs o cs₂ v := by
  induction hp generalizing v with
  | nil => rfl
  | cons c _ ih => exact ih (List.nodup_cons.mp hn).2 _
  | swap c d l =>
    have hne : wkey o c ≠ wkey o d := fun e => (List.nodup_cons.mp hn).1 (e ▸ List.mem_cons_self)
    rw [applyCs_cons, applyCs_cons, applyCs_cons, applyCs_cons, apply1_comm o v d c hne]
  | trans _ h₂ ih₁ ih₂ => exact (ih₁ ((h₂.map _).nodup_iff.mpr hn) v).trans (ih₂ hn v)

theorem applyMsgs_eq (o : Opts) : ∀ (ms : List Msg) (v : View),
    applyMsgs o ms v = applyCs o (ms.flatMap flat) v := by
  intro ms
  induction ms with
  | nil => intro v; rfl
  | cons m rest ih =>
    intro v
    rw [List.flatMap_cons, applyCs_append]
    exact ih _

theorem applyMsgs_of_perm (o : Opts) (ms : List Msg) (cs : List Change) (v : View)
    (hp : (ms.flatMap flat).Perm cs) (hn : (cs.map (wkey o)).Nodup) :
    applyMsgs o ms v = applyCs o cs v :=
  (applyMsgs_eq o ms v).trans (applyCs_perm o hp hn v)

theorem changes_cons_path (p : Path) (r : List Item) :
    changes (Item.path p :: r) = p.c :: changes r := rfl

theorem changes_cons_eor (f : Nat) (r : List Item) :
    changes (Item.eor f :: r) = changes r := rfl

theorem mem_filterMap_pathOf {p : Path} {is : List Item} :
    p ∈ is.filterMap pathOf ↔ Item.path p ∈ is := by
  rw [List.mem_filterMap]
  constructor
  · rintro ⟨i, hi, e⟩
    cases i with
    | eor f => cases e
    | path q => exact Option.some.inj e ▸ hi
  · exact fun h => ⟨_, h, rfl⟩

theorem changes_eq_map (is : List Item) : changes is = (is.filterMap pathOf).map (·.c) :=
  List.map_filterMap.symm

theorem mem_changes {c : Change} {is : List Item} :
    c ∈ changes is ↔ ∃ p, Item.path p ∈ is ∧ p.c = c := by
  simp only [changes_eq_map, List.mem_map, mem_filterMap_pathOf]

theorem dedup_eor (o : Opts) (f : Nat) (r : List Item) :
    dedup o (.eor f :: r) = .eor f :: dedup o r := rfl

theorem dedup_path (o : Opts) (p : Path) (r : List Item) :
    dedup o (.path p :: r) = if r.any (sameKey o p) then dedup o r else .path p :: dedup o r := rfl

theorem dedup_sublist (o : Opts) : ∀ is : List Item, (dedup o is).Sublist is
  | [] => .slnil
  | .eor f :: r => (dedup_sublist o r).cons_cons _
  | .path p :: r => by
    rw [dedup_path]
    split
    · exact (dedup_sublist o r).cons _
    · exact (dedup_sublist o r).cons_cons _

theorem changes_dedup_sub (o : Opts) {is : List Item} {c : Change} (h : c ∈ changes (dedup o is)) :
    c ∈ changes is :=
  ((dedup_sublist o is).filterMap _).subset h

theorem eor_mem_dedup (o : Opts) (f : Nat) :
    ∀ (is : List Item), Item.eor f ∈ dedup o is ↔ Item.eor f ∈ is := by
  intro is
  induction is with
  | nil => exact Iff.rfl
  | cons x r ih =>
    cases x with
    | eor g => rw [dedup_eor, List.mem_cons, List.mem_cons, ih]
    | path p =>
      rw [dedup_path, List.mem_cons, ← ih]
      split
      · exact (or_iff_right Item.noConfusion).symm
      · exact List.mem_cons

theorem sameKey_any {o : Opts} {p : Path} {r : List Item} :
    r.any (sameKey o p) = true ↔ ∃ d ∈ changes r, wkey o d = wkey o p.c := by
  rw [List.any_eq_true]
  constructor
  · rintro ⟨i, hi, hs⟩
    cases i with
    | eor f => cases hs
    | path q => exact ⟨q.c, mem_changes.mpr ⟨q, hi, rfl⟩, of_decide_eq_true hs⟩
  · rintro ⟨d, hd, hk⟩
    obtain ⟨q, hq, rfl⟩ := mem_changes.mp hd
    exact ⟨Item.path q, hq, decide_eq_true hk⟩

theorem applyCs_dedup (o : Opts) : ∀ (is : List Item) (v : View),
    applyCs o (changes (dedup o is)) v = applyCs o (changes is) v := by
  intro is
  induction is with
  | nil => intro v; rfl
  | cons x r ih =>
    intro v
    cases x with
    | eor f => exact ih v
    | path p =>
      rw [dedup_path, changes_cons_path, applyCs_cons]
      split
      · rename_i h
        rw [applyCs_absorb o p.c (changes r) v (sameKey_any.mp h)]
        exact ih v
      · exact ih _

theorem dedup_nodup_wkey (o : Opts) :
    ∀ (is : List Item), ((changes (dedup o is)).map (wkey o)).Nodup := by
  intro is
  induction is with
  | nil => exact List.nodup_nil
  | cons x r ih =>
    cases x with
    | eor f => exact ih
    | path p =>
      rw [dedup_path]
      split
      · exact ih
      · rename_i h
        rw [changes_cons_path, List.map_cons, List.nodup_cons]
        refine ⟨fun hm => h ?_, ih⟩
        obtain ⟨d, hd, hk⟩ := List.mem_map.mp hm
        exact sameKey_any.mpr ⟨d, changes_dedup_sub o hd, hk⟩

end Pack
