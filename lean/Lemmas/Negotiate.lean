/-
  Lemmas about Model/Negotiate.lean (core only): what the folds, maps and steps of the model compute,
  in the form the property theorems of Props/C08.lean use.
-/
import Model.Negotiate
namespace Negotiate

/-- Both `localMode` and `lastMode` are folds that overwrite the accumulator at every matching element
    ("last one wins"). -/
theorem foldl_last_spec {α β} (p : α → Prop) [DecidablePred p] (v : α → β) (l : List α) (acc : β) :
    ((∀ x ∈ l, ¬ p x) ∧ l.foldl (fun acc x => if p x then v x else acc) acc = acc) ∨
      ∃ x ∈ l, p x ∧ l.foldl (fun acc x => if p x then v x else acc) acc = v x := by
  induction l generalizing acc with
  | nil => exact Or.inl ⟨nofun, rfl⟩
  | cons y l ih =>
    rw [List.foldl_cons]
    rcases ih (if p y then v y else acc) with ⟨hn, he⟩ | ⟨x, hx, hp, he⟩
    · by_cases hy : p y
      · exact Or.inr ⟨y, List.mem_cons_self, hy, by rw [he, if_pos hy]⟩
      · exact Or.inl ⟨List.forall_mem_cons.mpr ⟨hy, hn⟩, by rw [he, if_neg hy]⟩
    · exact Or.inr ⟨x, List.mem_cons_of_mem _ hx, hp, he⟩

theorem localMode_spec (afs : List AfCfg) (f : Family) :
    ((∀ a ∈ afs, a.family ≠ f) ∧ localMode afs f = none) ∨
      ∃ a ∈ afs, a.family = f ∧ localMode afs f = some a.mode :=
  foldl_last_spec (fun a => a.family = f) (fun a => some a.mode) afs none

theorem localMode_some {afs : List AfCfg} {f : Family} {m : Nat} (h : localMode afs f = some m) :
    ∃ a ∈ afs, a.family = f ∧ a.mode = m := by
  rcases localMode_spec afs f with ⟨_, he⟩ | ⟨a, ha, hf, he⟩
  · rw [he] at h; cases h
  · exact ⟨a, ha, hf, Option.some.inj (he.symm.trans h)⟩

theorem localMode_isSome (afs : List AfCfg) (f : Family) :
    (localMode afs f).isSome = true ↔ ∃ a ∈ afs, a.family = f := by
  rcases localMode_spec afs f with ⟨hn, he⟩ | ⟨a, ha, hf, he⟩
  · rw [he]; exact ⟨nofun, fun ⟨a, ha, hf⟩ => absurd hf (hn a ha)⟩
  · rw [he]; exact ⟨fun _ => ⟨a, ha, hf⟩, fun _ => rfl⟩

theorem localMode_agree {afs : List AfCfg} {f : Family} (p : Nat → Bool) {a : AfCfg} (ha : a ∈ afs)
    (hf : a.family = f) (hall : ∀ b ∈ afs, b.family = f → p b.mode = p a.mode) :
    ∃ l, localMode afs f = some l ∧ p l = p a.mode := by
  rcases localMode_spec afs f with ⟨hn, _⟩ | ⟨b, hb, hbf, he⟩
  · exact absurd hf (hn a ha)
  · exact ⟨b.mode, he, hall b hb hbf⟩

theorem lastMode_spec (f : Family) (ts : List (Family × Nat)) :
    ((∀ m, (f, m) ∉ ts) ∧ lastMode f ts = 0) ∨ (f, lastMode f ts) ∈ ts := by
  rcases foldl_last_spec (fun t : Family × Nat => t.1 = f) (·.2) ts 0 with ⟨hn, he⟩ | ⟨t, ht, rfl, he⟩
  · exact Or.inl ⟨fun m hm => hn _ hm rfl, he⟩
  · exact Or.inr (by rw [show lastMode t.1 ts = t.2 from he]; exact ht)

theorem lastMode_agree (f : Family) (ts : List (Family × Nat)) (p : Nat → Bool) (m : Nat)
    (hm : (f, m) ∈ ts) (hall : ∀ m', (f, m') ∈ ts → p m' = p m) : p (lastMode f ts) = p m := by
  rcases lastMode_spec f ts with ⟨hn, _⟩ | h
  · exact absurd hm (hn m)
  · exact hall _ h

theorem hasCap_iff (code : Nat) (m : List Cap) : hasCap code m = true ↔ ∃ c ∈ m, c.code = code := by
  simp only [hasCap, List.any_eq_true, beq_iff_eq]

theorem mem_capsOf (code : Nat) (m : List Cap) (c : Cap) : c ∈ capsOf code m ↔ c ∈ m ∧ c.code = code := by
  simp only [capsOf, List.mem_filter, beq_iff_eq]

theorem mem_open2CapMap (caps : List Cap) (c : Cap) :
    c ∈ open2CapMap caps ↔ (c ∈ caps ∧ c.code ≠ 69) ∨ (hasCap 69 caps = true ∧ c = Cap.addPath (allApTuples caps)) ∨
      (hasCap 1 caps = false ∧ c = Cap.mp ipv4uc) := by
  simp only [open2CapMap, List.mem_append, List.mem_filter, List.mem_ite_nil_left, List.mem_ite_nil_right,
    List.mem_singleton, bne_iff_ne, Bool.not_eq_true, or_assoc]

theorem mp_mem_open2CapMap (caps : List Cap) (f : Family) :
    Cap.mp f ∈ open2CapMap caps ↔ Cap.mp f ∈ caps ∨ (hasCap 1 caps = false ∧ f = ipv4uc) := by
  simp only [mem_open2CapMap, Cap.code, ne_eq, Nat.reduceEqDiff, not_false_eq_true, and_true, reduceCtorEq,
    and_false, false_or, Cap.mp.injEq]

theorem hasCap_open2CapMap (caps : List Cap) (k : Nat) (hk : k ≠ 69) (hk1 : k ≠ 1) :
    hasCap k (open2CapMap caps) = hasCap k caps := by
  apply Bool.eq_iff_iff.mpr
  rw [hasCap_iff, hasCap_iff]
  constructor
  · rintro ⟨c, hc, hcode⟩
    rcases (mem_open2CapMap caps c).mp hc with ⟨h, _⟩ | ⟨_, rfl⟩ | ⟨_, rfl⟩
    · exact ⟨c, h, hcode⟩
    · exact absurd hcode.symm hk
    · exact absurd hcode.symm hk1
  · rintro ⟨c, hc, hcode⟩
    exact ⟨c, (mem_open2CapMap caps c).mpr (Or.inl ⟨hc, hcode ▸ hk⟩), hcode⟩

theorem apTuples_nil_of_code {c : Cap} (h : c.code ≠ 69) : c.apTuples = [] := by
  cases c <;> first | rfl | exact absurd rfl h

theorem allApTuples_nil (l : List Cap) (h : ∀ c ∈ l, c.code ≠ 69) : allApTuples l = [] :=
  List.flatMap_eq_nil_iff.mpr fun c hc => apTuples_nil_of_code (h c hc)

theorem allApTuples_append (a b : List Cap) : allApTuples (a ++ b) = allApTuples a ++ allApTuples b :=
  List.flatMap_append

/-- only ADD-PATH capabilities carry tuples, so `capMap[ADD_PATH]` holds them all -/
theorem allApTuples_capsOf (l : List Cap) : allApTuples (capsOf 69 l) = allApTuples l := by
  induction l with
  | nil => rfl
  | cons c l ih =>
    unfold capsOf allApTuples at ih ⊢
    by_cases h : c.code = 69
    · rw [List.filter_cons_of_pos (p := fun c : Cap => c.code == 69) (beq_iff_eq.mpr h),
        List.flatMap_cons, List.flatMap_cons, ih]
    · rw [List.filter_cons_of_neg (p := fun c : Cap => c.code == 69) (mt beq_iff_eq.mp h),
        List.flatMap_cons, apTuples_nil_of_code h, ih]
      rfl

theorem allApTuples_open2CapMap (caps : List Cap) : allApTuples (open2CapMap caps) = allApTuples caps := by
  unfold open2CapMap
  rw [allApTuples_append, allApTuples_append,
    allApTuples_nil (caps.filter _) (fun c hc => bne_iff_ne.mp (List.mem_filter.mp hc).2),
    allApTuples_nil (if hasCap 1 caps then [] else _)
      (fun c hc => List.mem_singleton.mp (List.mem_ite_nil_left.mp hc).2 ▸ by decide)]
  by_cases h69 : hasCap 69 caps = true
  · rw [if_pos h69]; exact (List.append_nil _).trans (List.append_nil _)
  · rw [if_neg h69, allApTuples_nil caps (fun c hc e => h69 ((hasCap_iff 69 caps).mpr ⟨c, hc, e⟩))]; rfl

theorem remoteMode_eq (cm : List Cap) (f : Family) :
    remoteMode cm f = if Cap.mp f ∈ cm then some (lastMode f (allApTuples cm)) else none := by
  have : (capsOf 1 cm).contains (Cap.mp f) = true ↔ Cap.mp f ∈ cm := by
    rw [List.contains_iff_mem, mem_capsOf]; exact and_iff_left rfl
  simp only [remoteMode, this, allApTuples_capsOf]

theorem remoteMode_isSome (cm : List Cap) (f : Family) :
    (remoteMode cm f).isSome = true ↔ Cap.mp f ∈ cm := by
  rw [remoteMode_eq]; split <;> simp [*]

theorem fmLookup_cons_self (f : Family) (m : Nat) (fm : List (Family × Nat)) :
    fmLookup ((f, m) :: fm) f = some m := by
  simp only [fmLookup, List.find?_cons, beq_self_eq_true, Option.map_some]

theorem fmLookup_cons_ne {e : Family × Nat} {f : Family} (h : e.1 ≠ f) (fm : List (Family × Nat)) :
    fmLookup (e :: fm) f = fmLookup fm f := by
  simp only [fmLookup, List.find?_cons, beq_false_of_ne h]

theorem fmLookup_filterMap (g : Family → Option Nat) (l : List AfCfg) (f : Family)
    (h : (g f).isSome = true → ∃ a ∈ l, a.family = f) :
    fmLookup (l.filterMap (fun a => (g a.family).map (fun m => (a.family, m)))) f = g f := by
  induction l with
  | nil =>
    cases hg : g f with
    | none => rfl
    | some m => obtain ⟨a, ha, _⟩ := h (by rw [hg]; rfl); cases ha
  | cons a l ih =>
    rw [List.filterMap_cons]
    by_cases e : a.family = f
    · subst e
      cases hg : g a.family with
      | none => exact (ih (by rw [hg]; nofun)).trans hg
      | some m => exact fmLookup_cons_self _ m _
    · have ih := ih fun hs => by
        obtain ⟨b, hb, hf⟩ := h hs
        rcases List.mem_cons.mp hb with rfl | hb
        · exact absurd hf e
        · exact ⟨b, hb, hf⟩
      cases g a.family with
      | none => exact ih
      | some m => exact (fmLookup_cons_ne e _).trans ih

theorem negMode_isSome (afs : List AfCfg) (cm : List Cap) (f : Family) :
    (negMode afs cm f).isSome = true ↔ (∃ a ∈ afs, a.family = f) ∧ Cap.mp f ∈ cm := by
  rw [← localMode_isSome, ← remoteMode_isSome, negMode]
  cases localMode afs f <;> cases remoteMode cm f <;> simp

theorem negMode_eq_some_iff {afs : List AfCfg} {cm : List Cap} {f : Family} {m : Nat} :
    negMode afs cm f = some m ↔
      ∃ l, localMode afs f = some l ∧ Cap.mp f ∈ cm ∧ negBits l (lastMode f (allApTuples cm)) = m := by
  rw [negMode, remoteMode_eq]
  cases localMode afs f <;> by_cases h : Cap.mp f ∈ cm <;> simp [h]

theorem fmLookup_familyMapOf (afs : List AfCfg) (cm : List Cap) (f : Family) :
    fmLookup (familyMapOf afs cm) f = negMode afs cm f :=
  fmLookup_filterMap (negMode afs cm) afs f fun h => ((negMode_isSome afs cm f).mp h).1

theorem hasSend_negBits (l r : Nat) : hasSend (negBits l r) = (hasSend l && hasRecv r) := by
  unfold negBits
  cases (hasSend l && hasRecv r) <;> cases (hasRecv l && hasSend r) <;> rfl

theorem hasRecv_negBits (l r : Nat) : hasRecv (negBits l r) = (hasRecv l && hasSend r) := by
  unfold negBits
  cases (hasSend l && hasRecv r) <;> cases (hasRecv l && hasSend r) <;> rfl

theorem mode_hasSend (a : AfCfg) : hasSend a.mode = true ↔ a.apSendMax > 0 := by
  unfold AfCfg.mode
  by_cases h : a.apSendMax > 0
  · rw [if_pos h]; cases a.apRecv <;> exact iff_of_true rfl h
  · rw [if_neg h]; cases a.apRecv <;> exact iff_of_false (by decide) h

theorem mode_hasRecv (a : AfCfg) : hasRecv a.mode = true ↔ a.apRecv = true := by
  unfold AfCfg.mode
  by_cases h : a.apSendMax > 0
  · rw [if_pos h]; cases a.apRecv <;> decide
  · rw [if_neg h]; cases a.apRecv <;> decide

-- the GR / LLGR blocks of `stateChange` touch only GR state
theorem grStep_fields (c : LocalCfg) (cm : List Cap) (s : PeerState) :
    (grStep c cm s).capMap = s.capMap ∧ (grStep c cm s).familyMap = s.familyMap ∧
    (grStep c cm s).extMsg = s.extMsg ∧ (grStep c cm s).hold = s.hold ∧ (grStep c cm s).ka3 = s.ka3 ∧
    (grStep c cm s).stInternal = s.stInternal ∧ (grStep c cm s).stPeerAs = s.stPeerAs ∧
    (grStep c cm s).remoteId = s.remoteId := by
  unfold grStep; split <;> exact ⟨rfl, rfl, rfl, rfl, rfl, rfl, rfl, rfl⟩

theorem llgrStep_fields (c : LocalCfg) (cm : List Cap) (s : PeerState) :
    (llgrStep c cm s).capMap = s.capMap ∧ (llgrStep c cm s).familyMap = s.familyMap ∧
    (llgrStep c cm s).extMsg = s.extMsg ∧ (llgrStep c cm s).hold = s.hold ∧ (llgrStep c cm s).ka3 = s.ka3 ∧
    (llgrStep c cm s).stInternal = s.stInternal ∧ (llgrStep c cm s).stPeerAs = s.stPeerAs ∧
    (llgrStep c cm s).remoteId = s.remoteId := by
  unfold llgrStep; split <;> exact ⟨rfl, rfl, rfl, rfl, rfl, rfl, rfl, rfl⟩

theorem stateChange_hold (c : LocalCfg) (s : PeerState) (o : Open) :
    (stateChange c s o).hold = if o.hold > c.hold then c.hold else o.hold := by
  simp only [stateChange, llgrStep_fields, grStep_fields]

theorem stateChange_ka3 (c : LocalCfg) (s : PeerState) (o : Open) :
    (stateChange c s o).ka3 =
      if (if o.hold > c.hold then c.hold else o.hold) < c.hold then (if o.hold > c.hold then c.hold else o.hold)
      else c.ka3 := by
  simp only [stateChange, llgrStep_fields, grStep_fields]

theorem stateChange_familyMap (c : LocalCfg) (s : PeerState) (o : Open) :
    (stateChange c s o).familyMap = familyMapOf c.afs (open2CapMap o.caps) := by
  simp only [stateChange, llgrStep_fields, grStep_fields]

theorem stateChange_capMap (c : LocalCfg) (s : PeerState) (o : Open) :
    (stateChange c s o).capMap = open2CapMap o.caps := by
  simp only [stateChange, llgrStep_fields, grStep_fields]

theorem stateChange_extMsg (c : LocalCfg) (s : PeerState) (o : Open) :
    (stateChange c s o).extMsg = hasCap 6 (open2CapMap o.caps) := by
  simp only [stateChange, llgrStep_fields, grStep_fields]

theorem stateChange_stPeerAs (c : LocalCfg) (s : PeerState) (o : Open) :
    (stateChange c s o).stPeerAs = getASN o := by
  simp only [stateChange, llgrStep_fields, grStep_fields]

theorem stateChange_stInternal (c : LocalCfg) (s : PeerState) (o : Open) :
    (stateChange c s o).stInternal = (if c.peerAs = 0 then c.localAs == getASN o else c.cfgInternal) := by
  simp only [stateChange, llgrStep_fields, grStep_fields]

theorem stateChange_twoByteAs (c : LocalCfg) (s : PeerState) (o : Open) :
    (stateChange c s o).twoByteAs = (if !hasCap 65 (open2CapMap o.caps) then true else !localHasAs4 c) := by
  simp only [stateChange]

theorem stateChange_isEBGP (c : LocalCfg) (s : PeerState) (o : Open) :
    (stateChange c s o).isEBGP = (getASN o != c.localAs) := by
  simp only [stateChange]

theorem stateChange_isConfed (c : LocalCfg) (s : PeerState) (o : Open) :
    (stateChange c s o).isConfed = c.confedMembers.contains (getASN o) := by
  simp only [stateChange]

def grScalars (s : PeerState) : Bool × Nat × Bool × Bool :=
  (s.grEnabled, s.peerRestartTime, s.notifEnabled, s.llgrEnabled)

theorem grStep_scalars (c : LocalCfg) (cm : List Cap) (s s' : PeerState) (h : grScalars s = grScalars s') :
    grScalars (grStep c cm s) = grScalars (grStep c cm s') := by
  obtain ⟨_, _, hn, hl⟩ : _ ∧ _ ∧ s.notifEnabled = s'.notifEnabled ∧ s.llgrEnabled = s'.llgrEnabled := by
    simpa only [grScalars, Prod.mk.injEq] using h
  unfold grStep
  split
  · simp only [grScalars, hn, hl]
  · exact h

theorem llgrStep_scalars (c : LocalCfg) (cm : List Cap) (s s' : PeerState) (h : grScalars s = grScalars s') :
    grScalars (llgrStep c cm s) = grScalars (llgrStep c cm s') := by
  obtain ⟨hg, ht, hn, _⟩ : s.grEnabled = s'.grEnabled ∧ s.peerRestartTime = s'.peerRestartTime ∧
      s.notifEnabled = s'.notifEnabled ∧ _ := by
    simpa only [grScalars, Prod.mk.injEq] using h
  unfold llgrStep
  split
  · simp only [grScalars, hg, ht, hn]
  · exact h

theorem stateChange_grScalars (c : LocalCfg) (s s' : PeerState) (o : Open) :
    grScalars (stateChange c s o) = grScalars (stateChange c s' o) := by
  simp only [stateChange, grScalars]
  exact llgrStep_scalars c _ _ _ (grStep_scalars c _ _ _ rfl)

theorem swCaps_code (c : LocalCfg) : ∀ x ∈ swCaps c, x.code = 75 := by
  intro x hx
  rw [List.mem_singleton.mp (List.mem_ite_nil_right.mp hx).2]; rfl

theorem mpCaps_code (c : LocalCfg) : ∀ x ∈ mpCaps c, x.code = 1 := by
  intro x hx; obtain ⟨a, _, rfl⟩ := List.mem_map.mp hx; rfl

theorem grCaps_code (c : LocalCfg) : ∀ x ∈ grCaps c, x.code = 64 ∨ x.code = 71 := by
  intro x hx
  rcases List.mem_cons.mp (List.mem_ite_nil_right.mp hx).2 with rfl | h
  · exact Or.inl rfl
  · rw [List.mem_singleton.mp (List.mem_ite_nil_right.mp h).2]; exact Or.inr rfl

theorem extNhCaps_code (c : LocalCfg) : ∀ x ∈ extNhCaps c, x.code = 5 := by
  intro x hx
  rw [List.mem_singleton.mp (List.mem_ite_nil_left.mp hx).2]; rfl

theorem capAddPath_code (c : LocalCfg) : ∀ x ∈ capAddPathFromConfig c, x.code = 69 := by
  intro x hx
  rw [List.mem_singleton.mp (List.mem_ite_nil_left.mp hx).2]; rfl

theorem mem_capsFromConfig (c : LocalCfg) (x : Cap) :
    x ∈ capsFromConfig c ↔ x = Cap.other 2 ∨ x = Cap.other 73 ∨ x ∈ swCaps c ∨ x = Cap.extMsg ∨ x ∈ mpCaps c ∨
      x = Cap.as4 c.localAs ∨ x ∈ grCaps c ∨ x ∈ extNhCaps c ∨ x ∈ capAddPathFromConfig c := by
  unfold capsFromConfig
  simp only [List.mem_append, List.mem_cons, List.not_mem_nil, or_false, or_assoc]

theorem allApTuples_capsFromConfig (c : LocalCfg) :
    allApTuples (capsFromConfig c) =
      c.afs.filterMap (fun a => if a.mode > 0 then some (a.family, a.mode) else none) := by
  unfold capsFromConfig
  simp only [allApTuples_append]
  rw [allApTuples_nil (swCaps c) (fun x hx => by rw [swCaps_code c x hx]; decide),
    allApTuples_nil (mpCaps c) (fun x hx => by rw [mpCaps_code c x hx]; decide),
    allApTuples_nil (grCaps c) (fun x hx => by rcases grCaps_code c x hx with h | h <;> rw [h] <;> decide),
    allApTuples_nil (extNhCaps c) (fun x hx => by rw [extNhCaps_code c x hx]; decide)]
  unfold capAddPathFromConfig
  simp only
  split
  · exact (List.isEmpty_iff.mp ‹_›).symm
  · exact List.append_nil _

theorem buildOpen_caps (c : LocalCfg) : (buildOpen c).caps = capsFromConfig c :=
  List.append_nil _

theorem localHasAs4_true (c : LocalCfg) : localHasAs4 c = true :=
  (hasCap_iff 65 _).mpr
    ⟨Cap.as4 c.localAs, (mem_capsFromConfig c _).mpr (.inr (.inr (.inr (.inr (.inr (.inl rfl)))))), rfl⟩

def as4Val : Cap → Option Nat
  | .as4 v => some v
  | _ => none

theorem as4Step_eq (acc : Nat) (cp : Cap) : as4Step acc cp = (as4Val cp).getD acc := by cases cp <;> rfl

theorem foldl_as4Step (l : List Cap) (acc : Nat) :
    l.foldl as4Step acc = ((l.filterMap as4Val).getLast?).getD acc := by
  induction l generalizing acc with
  | nil => rfl
  | cons cp l ih =>
    rw [List.foldl_cons, ih, as4Step_eq]
    cases h : as4Val cp with
    | none => rw [List.filterMap_cons_none h]; rfl
    | some v => rw [List.filterMap_cons_some h, List.getLast?_cons]; rfl

theorem foldl_as4Step_of_code (l : List Cap) (h : ∀ x ∈ l, x.code ≠ 65) (acc : Nat) :
    l.foldl as4Step acc = acc := by
  induction l with
  | nil => rfl
  | cons x l ih =>
    have hx : as4Step acc x = acc := by
      cases x <;> first | rfl | exact absurd rfl (h _ List.mem_cons_self)
    rw [List.foldl_cons, hx, ih fun y hy => h y (List.mem_cons_of_mem _ hy)]

/-- the OPEN we send announces our AS: `capabilitiesFromConfig` appends nothing with code 65 after
    the 4-octet-AS capability -/
theorem getASN_buildOpen (c : LocalCfg) : getASN (buildOpen c) = c.localAs := by
  unfold getASN
  rw [buildOpen_caps]
  unfold capsFromConfig
  simp only [List.foldl_append]
  rw [foldl_as4Step_of_code (capAddPathFromConfig c) (fun x hx => by rw [capAddPath_code c x hx]; decide),
    foldl_as4Step_of_code (extNhCaps c) (fun x hx => by rw [extNhCaps_code c x hx]; decide),
    foldl_as4Step_of_code (grCaps c) (fun x hx => by rcases grCaps_code c x hx with h | h <;> rw [h] <;> decide)]
  rfl

/-- what an accepted OPEN satisfies (every test of ValidateOpenMsg) -/
theorem validateOpen_ok {o : Open} {e a i v : Nat} (h : validateOpen o e a i = .ok v) :
    o.version = 4 ∧ o.id ≠ 0 ∧ (e ≠ 0 → getASN o = e) ∧ ¬ (getASN o = a ∧ o.id = i) ∧
      (o.hold = 0 ∨ 3 ≤ o.hold) := by
  simp only [validateOpen] at h
  by_cases hv : o.version ≠ 4
  · rw [if_pos hv] at h; cases h
  rw [if_neg hv] at h
  by_cases hid : o.id = 0
  · rw [if_pos hid] at h; cases h
  rw [if_neg hid] at h
  by_cases hself : getASN o = a ∧ o.id = i
  · rw [if_pos hself] at h; cases h
  rw [if_neg hself] at h
  by_cases hpeer : e ≠ 0 ∧ getASN o ≠ e
  · rw [if_pos hpeer] at h; cases h
  rw [if_neg hpeer] at h
  by_cases hhold : o.hold < 3 ∧ o.hold ≠ 0
  · rw [if_pos hhold] at h; cases h
  exact ⟨Decidable.not_not.mp hv, hid, fun he => Decidable.not_not.mp fun hne => hpeer ⟨he, hne⟩, hself,
    Decidable.or_iff_not_imp_left.mpr fun h0 => Nat.not_lt.mp fun h3 => hhold ⟨h3, h0⟩⟩

theorem recvMaxLen_eq (s : PeerState) (t : MsgType) :
    recvMaxLen s t =
      if s.extMsg = true ∧ (t = .update ∨ t = .notification ∨ t = .routeRefresh) then 65535 else 4096 := by
  unfold recvMaxLen
  cases s.extMsg <;> cases t <;> rfl

theorem recvFits_iff (s : PeerState) (t : MsgType) (total : Nat) :
    recvFits s t total = true ↔ total ≤ recvMaxLen s t := by
  simp only [recvFits, Bool.not_eq_true', decide_eq_false_iff_not, Nat.not_lt]

theorem sendWrites_eq (s : PeerState) (t : MsgType) {total : Nat} (h : headerLen ≤ total) :
    sendWrites s t total = if total ≤ sendMaxLen s t then total else 0 := by
  unfold sendWrites serializeFits
  rw [if_neg (Nat.not_lt.mpr h), Nat.add_sub_cancel' h]
  simp only [Bool.not_eq_true', decide_eq_false_iff_not, Nat.not_lt]

theorem notifWrites_eq {total : Nat} (h : headerLen ≤ total) :
    notifWrites total = if total ≤ 4096 then total else 0 := by
  unfold notifWrites
  rw [if_neg (Nat.not_lt.mpr h), Nat.add_sub_cancel' h]
  simp only [GT.gt, ← Nat.not_le, ite_not]

/-- a writer that emits all `n` octets or none, against a ceiling `m` -/
theorem all_or_nothing {n m : Nat} (hn : 0 < n) :
    ((if n ≤ m then n else 0) = n ↔ n ≤ m) ∧ ((if n ≤ m then n else 0) = 0 ↔ m < n) ∧
      (if n ≤ m then n else 0) ≤ m := by
  split
  · next h => exact ⟨iff_of_true rfl h, iff_of_false (Nat.ne_of_gt hn) (Nat.not_lt.mpr h), h⟩
  · next h => exact ⟨iff_of_false (Nat.ne_of_lt hn) h, iff_of_true rfl (Nat.lt_of_not_le h), Nat.zero_le m⟩

theorem tickerSecs_eq_none (s : PeerState) : tickerSecs s = none ↔ s.hold = 0 := by
  unfold tickerSecs; split
  · exact iff_of_true rfl ‹_›
  · exact iff_of_false nofun ‹_›

theorem holdTimerSecs_eq_none (s : PeerState) : holdTimerSecs s = none ↔ s.hold = 0 := by
  unfold holdTimerSecs; split
  · exact iff_of_true rfl ‹_›
  · exact iff_of_false nofun ‹_›

theorem tickerSecs_of_ne {s : PeerState} (h : s.hold ≠ 0) : tickerSecs s = some (max 1 (s.ka3 / 3)) := by
  unfold tickerSecs
  rw [if_neg h]
  by_cases hk : s.ka3 / 3 = 0
  · rw [if_pos hk, hk]; rfl
  · rw [if_neg hk, Nat.max_eq_right (Nat.pos_of_ne_zero hk)]

theorem expectsPathId_iff (o : Opts) (decode : Bool) (f : Family) :
    expectsPathId o decode f = true ↔
      ∃ m, fmLookup o.addPath f = some m ∧ (if decode then hasRecv m else hasSend m) = true := by
  unfold expectsPathId
  cases fmLookup o.addPath f <;> cases decode <;> simp [hasRecv, hasSend]

end Negotiate
