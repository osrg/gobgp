import Lemmas.ErrHandling
/- C06: the flat (order-free) catalogue of semantic faults and its link to ValidateUpdateMsg -/
namespace ErrH

def familyFault (c : Cfg) (wd nlri : Nat) : List MErr :=
  if (nlri > 0 || wd > 0) && !c.v4 then [MErr.fatal 0 0] else []

def missingFault (attrs : List AttrObs) (nlri : Nat) : List MErr :=
  if (hasT attrs 14 || nlri > 0) &&
      (!hasT attrs 1 || !hasT attrs 2 || (decide (nlri > 0) && !hasT attrs 3)) then [missErr] else []

/-- every semantic fault ValidateUpdateMsg can see, as a flat list -/
def semAll (c : Cfg) (attrs : List AttrObs) (wd nlri : Nat) : List MErr :=
  familyFault c wd nlri ++ (semFaults c attrs [] ++ missingFault attrs nlri)

theorem validate_spec (c : Cfg) (attrs : List AttrObs) (wd nlri : Nat) :
    (∃ e, e.h.rank = 4 ∧ 4 ≤ maxRk (semAll c attrs wd nlri) ∧
      validate c attrs wd nlri = (some e, attrs)) ∨
    validate c attrs wd nlri = ((semAll c attrs wd nlri).foldl keep none, firsts attrs []) := by
  unfold validate semAll familyFault
  split
  · exact .inl ⟨_, rfl, Nat.le_max_left _ _, rfl⟩
  · rw [List.nil_append, maxRk_append, List.foldl_append]
    rcases validateLoop_spec c attrs [] none with ⟨e, he, h4, hv⟩ | ⟨sn, hsn, hv⟩
    · exact .inl ⟨e, he, Nat.le_trans h4 (Nat.le_max_left _ _), by rw [hv]⟩
    · refine .inr ?_
      simp only [hv, hsn, List.contains_nil, Bool.false_or]
      unfold missingFault
      cases hasT attrs 14 || decide (nlri > 0) <;>
        cases !hasT attrs 1 || !hasT attrs 2 || (decide (nlri > 0) && !hasT attrs 3) <;> rfl

theorem validate_rk (c : Cfg) (attrs : List AttrObs) (wd nlri : Nat) :
    rk (validate c attrs wd nlri).1 = maxRk (semAll c attrs wd nlri) := by
  rcases validate_spec c attrs wd nlri with ⟨e, he, h4, hv⟩ | hv
  · rw [hv]; exact he.trans (Nat.le_antisymm h4 (maxRk_le_four _))
  · rw [hv, rk_foldl_keep]; exact Nat.zero_max _

theorem validate_snd (c : Cfg) (attrs : List AttrObs) (wd nlri : Nat)
    (h : rk (validate c attrs wd nlri).1 < 4) : (validate c attrs wd nlri).2 = firsts attrs [] := by
  rcases validate_spec c attrs wd nlri with ⟨e, he, _, hv⟩ | hv
  · rw [hv] at h; exact absurd he (Nat.ne_of_lt h)
  · rw [hv]

theorem validate_clean (c : Cfg) (attrs : List AttrObs) (wd nlri : Nat)
    (h : semAll c attrs wd nlri = []) : validate c attrs wd nlri = (none, attrs) := by
  rcases validate_spec c attrs wd nlri with ⟨e, _, h4, _⟩ | hv
  · rw [h] at h4; nomatch h4
  · rw [hv, h, firsts_eq_self c attrs []]
    · rfl
    · exact (List.append_eq_nil_iff.mp (List.append_eq_nil_iff.mp h).2).1

theorem missingFault_le (attrs : List AttrObs) (nlri : Nat) (h : maxRk (missingFault attrs nlri) ≤ 1)
    (hpos : nlri > 0) : hasT attrs 1 = true ∧ hasT attrs 2 = true ∧ hasT attrs 3 = true := by
  unfold missingFault at h
  split at h
  · exact absurd h (by decide : ¬ 2 ≤ 1)
  · rename_i hc
    simp [hpos] at hc
    exact ⟨hc.1.1, hc.1.2, hc.2⟩

theorem aggErr_eq (l : List AttrObs) (hd : ∀ a ∈ l, a.derr = none) :
    aggErr l = (hasT l 18 && !hasT l 7) := by
  have h7 : l.any (fun a => a.typ == 7 && a.derr.isNone) = hasT l 7 := by
    induction l with
    | nil => rfl
    | cons b rest ih =>
      rw [List.any_cons, hasT_cons, hd b List.mem_cons_self,
        ih fun a ha => hd a (List.mem_cons_of_mem b ha), Option.isNone_none, Bool.and_true]
  unfold aggErr
  rw [h7]
  rfl

theorem aggErr_firsts (attrs : List AttrObs) (hd : ∀ a ∈ attrs, a.derr = none) :
    aggErr (firsts attrs []) = (hasT attrs 18 && !hasT attrs 7) := by
  rw [aggErr_eq _ fun a ha => hd a (firsts_mem attrs [] a ha).1, hasT_firsts, hasT_firsts]
  simp only [List.contains_nil, Bool.not_false, Bool.and_true]

end ErrH
