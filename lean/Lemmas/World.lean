/-
  Lemmas for C01: the incremental export decision (filterpath with the old best) agrees with
  the from-scratch export decision (filterpath with old = nil).

  Each of the three blocks of `filterpathCore` tests one rule on the route alone (`ibgpBlocks`,
  the router-id test, `loopBlocks`); the old best only decides what a block answers when its rule
  fires: nothing, or `wdOld`.  Everything else about `filterpathCore` follows from
  `core_of_exportable`, `core_of_not_exportable` and `core_of_old_exportable`.
-/
import Model.World
namespace World
open BestPath

/-- exported marker a (non route-server) peer should hold for a destination with path list `l`:
    the from-scratch export of the best path — what the initial table transfer would send -/
def wantOf (g : Global) (t : PeerCfg) (l : List Cand) : Option Nat :=
  match l.head? with
  | none => none
  | some b =>
    if b.nhInvalid then none else
    match sFilterpath g t ⟨b, false⟩ none with
    | some p => if p.wd then none else some p.r.marker
    | none => none

/-- what one (possibly absent) outgoing path does to the marker held for its prefix -/
def heldApply (h : Option Nat) : Option P → Option Nat
  | none => h
  | some p => if p.wd then none else some p.r.marker

/-- Well-formedness of a route w.r.t. a target peer: a route whose source address is the
    peer's address was learned from that peer (its PeerInfo is the peer's). -/
def FromPeerWF (g : Global) (t : PeerCfg) (r : Cand) : Prop :=
  r.src.addr = some t.addr → r.src = t.srcInfo g

/-- the route would be sent to the peer by an initial table transfer (loop prevention only) -/
def exportable (g : Global) (t : PeerCfg) (r : Cand) : Bool :=
  (filterpathCore g t ⟨r, false⟩ none).isSome

/-- the loop-prevention rule in closed form: a route is NOT sent to an iBGP peer when it was
    learned from a non-client iBGP peer (unless the target is an RR client, which only refuses a
    CLUSTER_LIST containing the local cluster-id); never to the router it came from; never to a
    (non route-server) peer whose AS is already in the AS_PATH. -/
def exportableF (g : Global) (t : PeerCfg) (r : Cand) : Bool :=
  !(t.isIBGP g && !r.isLocal &&
      (if t.isRRClient then r.clusterList.contains g.rid
       else (r.src.as == t.as && !r.src.rrClient))) &&
    (t.rid != r.src.rid) &&
    !(!t.isRSClient && (asList r.segs).contains t.as)

/-- the rule `ibgpStage`, the first block of `filterpathCore`, tests on the route -/
def ibgpBlocks (g : Global) (t : PeerCfg) (r : Cand) : Bool :=
  t.isIBGP g && !r.isLocal &&
    (if t.isRRClient then r.clusterList.contains g.rid else (r.src.as == t.as && !r.src.rrClient))

/-- the rule `loopStage`, the third block, tests -/
def loopBlocks (t : PeerCfg) (r : Cand) : Bool :=
  !t.isRSClient && (asList r.segs).contains t.as

theorem exportableF_eq (g : Global) (t : PeerCfg) (r : Cand) :
    exportableF g t r = (!ibgpBlocks g t r && (t.rid != r.src.rid) && !loopBlocks t r) := rfl

@[simp] theorem wdOld_none (p : P) : wdOld p none = none := rfl

theorem wdOld_wd (r : Cand) (old : Option Cand) : wdOld ⟨r, true⟩ old = none := by
  cases old <;> rfl

theorem wdOld_some (r o : Cand) : wdOld ⟨r, false⟩ (some o) = some ⟨o, true⟩ := rfl

theorem wdOld_eq_some {path : P} {old : Option Cand} {p : P} (h : wdOld path old = some p) :
    path.wd = false ∧ old = some p.r ∧ p.wd = true := by
  unfold wdOld at h
  cases old with
  | none => cases h
  | some o =>
    cases hw : path.wd
    · rw [hw] at h; cases h; exact ⟨rfl, rfl, rfl⟩
    · rw [hw] at h; cases h

theorem wdOld_route (path : P) (old : Option Cand) (p : P) (h : wdOld path old = some p) :
    old = some p.r :=
  (wdOld_eq_some h).2.1

/-- a blocked route is answered by the withdraw of the old best, except that a non-client target
    gets none for an old best it never received -/
theorem ibgpStage_eq (g : Global) (t : PeerCfg) (path : P) (old : Option Cand) :
    ibgpStage g t path old =
      if ibgpBlocks g t path.r then
        some (if t.isRRClient || old.any (fun o => o.isLocal || (o.src.addr != some t.addr &&
            (o.src.as != t.as || o.src.rrClient))) then wdOld path old else none)
      else none := by
  have e : (!(path.r.src.as != t.as)) = (path.r.src.as == t.as) := by rw [bne, Bool.not_not]
  unfold ibgpStage ibgpBlocks
  rw [e]
  cases t.isIBGP g && !path.r.isLocal
  · rfl
  · cases t.isRRClient
    · cases path.r.src.as == t.as && !path.r.src.rrClient
      · rfl
      · cases old with
        | none => rfl
        | some o =>
          obtain ⟨r, wd⟩ := path
          show (if (!wd && (o.isLocal || _)) = true then _ else _) =
            some (if (false || (o.isLocal || _)) = true then _ else _)
          generalize (o.isLocal || _) = c
          cases wd <;> cases c <;> rfl
    · cases path.r.clusterList.contains g.rid <;> rfl

theorem ibgpStage_pass {g : Global} {t : PeerCfg} (path : P) (old : Option Cand)
    (h : ibgpBlocks g t path.r = false) : ibgpStage g t path old = none := by
  rw [ibgpStage_eq, h]; rfl

theorem ibgpStage_block {g : Global} {t : PeerCfg} (path : P) (old : Option Cand)
    (h : ibgpBlocks g t path.r = true) :
    ∃ res, ibgpStage g t path old = some res ∧ (res = none ∨ res = wdOld path old) := by
  rw [ibgpStage_eq, h]
  refine ⟨_, rfl, ?_⟩
  split
  · exact Or.inr rfl
  · exact Or.inl rfl

theorem ibgpStage_wdOld {g : Global} {t : PeerCfg} {b o : Cand} (hb : ibgpBlocks g t b = true)
    (ho : ibgpBlocks g t o = false) (ha : o.src.addr ≠ some t.addr) :
    ibgpStage g t ⟨b, false⟩ (some o) = some (some ⟨o, true⟩) := by
  have hc : (t.isRRClient || (o.isLocal || (o.src.addr != some t.addr &&
      (o.src.as != t.as || o.src.rrClient)))) = true := by
    unfold ibgpBlocks at hb ho
    cases hr : t.isRRClient
    · simp only [Bool.and_eq_true] at hb
      rw [hb.1.1, hr] at ho
      rw [bne_iff_ne.mpr ha]
      have key : ∀ l e r : Bool, (!l && (e && !r)) = false → (l || (!e || r)) = true := by decide
      exact key _ _ _ ho
    · rfl
  rw [ibgpStage_eq, hb]
  simp only [Option.any_some, hc]
  rfl

theorem srcStage_pass {t : PeerCfg} (path : P) (old : Option Cand)
    (h : (t.rid != path.r.src.rid) = true) : srcStage t path old = some path := by
  unfold srcStage
  rw [if_pos h]

theorem srcStage_block {t : PeerCfg} (path : P) (old : Option Cand)
    (h : (t.rid != path.r.src.rid) = false) :
    srcStage t path old = none ∨ srcStage t path old = wdOld path old := by
  unfold srcStage
  rw [if_neg (by rw [h]; exact Bool.false_ne_true)]
  generalize (!t.isRSClient && !path.wd && _) = c
  cases c
  · exact Or.inl rfl
  · exact Or.inr rfl

theorem srcStage_wdOld {t : PeerCfg} {b o : Cand} (h : (t.rid != b.src.rid) = false)
    (hrs : t.isRSClient = false) (ha : o.src.addr ≠ some t.addr) :
    srcStage t ⟨b, false⟩ (some o) = some ⟨o, true⟩ := by
  unfold srcStage
  rw [if_neg (by rw [h]; exact Bool.false_ne_true)]
  simp only [hrs, bne_iff_ne.mpr ha]
  rfl

theorem loopStage_eq (t : PeerCfg) (p : P) (old : Option Cand) :
    loopStage t p old = if loopBlocks t p.r then wdOld p old else some p := rfl

theorem core_of_ibgp_none {g : Global} {t : PeerCfg} {path : P} {old : Option Cand}
    (h : ibgpStage g t path old = none) :
    filterpathCore g t path old = (srcStage t path old).bind (fun p => loopStage t p old) := by
  rw [filterpathCore, h]
  cases srcStage t path old <;> rfl

theorem core_of_exportableF {g : Global} {t : PeerCfg} (path : P) (old : Option Cand)
    (h : exportableF g t path.r = true) : filterpathCore g t path old = some path := by
  rw [exportableF_eq] at h
  simp only [Bool.and_eq_true, Bool.not_eq_true'] at h
  rw [core_of_ibgp_none (ibgpStage_pass path old h.1.1), srcStage_pass path old h.1.2, Option.bind_some,
    loopStage_eq, h.2]
  rfl

theorem core_of_not_exportableF {g : Global} {t : PeerCfg} (path : P) (old : Option Cand)
    (h : exportableF g t path.r = false) :
    filterpathCore g t path old = none ∨ filterpathCore g t path old = wdOld path old := by
  rw [exportableF_eq] at h
  cases h1 : ibgpBlocks g t path.r
  · rw [core_of_ibgp_none (ibgpStage_pass path old h1)]
    cases h2 : (t.rid != path.r.src.rid)
    · rcases srcStage_block path old h2 with hs | hs
      · rw [hs]; exact Or.inl rfl
      · rw [hs]
        cases hw : wdOld path old with
        | none => exact Or.inl rfl
        | some p =>
          -- the withdraw of the old best goes through the AS-loop block in its turn
          rw [Option.bind_some, loopStage_eq]
          split
          · obtain ⟨r, w⟩ := p
            obtain rfl : w = true := (wdOld_eq_some hw).2.2
            exact Or.inl (wdOld_wd r old)
          · exact Or.inr rfl
    · rw [h1, h2] at h
      rw [srcStage_pass path old h2, Option.bind_some, loopStage_eq]
      simp only [Bool.not_false, Bool.true_and, Bool.not_eq_false'] at h
      rw [h]
      exact Or.inr rfl
  · obtain ⟨res, hres, hor⟩ := ibgpStage_block path old h1
    rw [filterpathCore, hres]
    exact hor

theorem core_of_wdOld_none {g : Global} {t : PeerCfg} {path : P} {old : Option Cand}
    (hw : wdOld path old = none) :
    filterpathCore g t path old = if exportableF g t path.r then some path else none := by
  cases h : exportableF g t path.r
  · rcases core_of_not_exportableF path old h with h' | h'
    · exact h'
    · rw [h', hw]; rfl
  · exact core_of_exportableF path old h

theorem exportable_eq (g : Global) (t : PeerCfg) (r : Cand) :
    exportable g t r = exportableF g t r := by
  unfold exportable
  rw [core_of_wdOld_none (wdOld_none _)]
  cases exportableF g t r <;> rfl

theorem core_of_exportable {g : Global} {t : PeerCfg} (path : P) (old : Option Cand)
    (h : exportable g t path.r = true) : filterpathCore g t path old = some path :=
  core_of_exportableF path old (exportable_eq g t path.r ▸ h)

theorem core_of_not_exportable {g : Global} {t : PeerCfg} (path : P) (old : Option Cand)
    (h : exportable g t path.r = false) :
    filterpathCore g t path old = none ∨ filterpathCore g t path old = wdOld path old :=
  core_of_not_exportableF path old (exportable_eq g t path.r ▸ h)

theorem addr_ne_of_rid_ne {g : Global} {t : PeerCfg} {o : Cand} (wf : FromPeerWF g t o)
    (h : (t.rid != o.src.rid) = true) : o.src.addr ≠ some t.addr := by
  intro ha
  rw [wf ha] at h
  exact absurd rfl (bne_iff_ne.mp h)

/-- **no stuck route**: when the new best is stopped, an old best the peer had been sent is
    withdrawn — by whichever rule stopped the new one -/
theorem core_of_old_exportable {g : Global} {t : PeerCfg} {b o : Cand}
    (hrs : t.isRSClient = false) (wf : FromPeerWF g t o)
    (ho : exportable g t o = true) (hb : exportable g t b = false) :
    filterpathCore g t ⟨b, false⟩ (some o) = some ⟨o, true⟩ := by
  rw [exportable_eq, exportableF_eq] at ho hb
  simp only [Bool.and_eq_true, Bool.not_eq_true'] at ho
  have ha := addr_ne_of_rid_ne wf ho.1.2
  cases h1 : ibgpBlocks g t b
  · rw [core_of_ibgp_none (ibgpStage_pass ⟨b, false⟩ _ h1)]
    cases h2 : (t.rid != b.src.rid)
    · rw [srcStage_wdOld h2 hrs ha, Option.bind_some, loopStage_eq, ho.2]
      rfl
    · rw [h1, h2] at hb
      simp only [Bool.not_false, Bool.true_and, Bool.not_eq_false'] at hb
      rw [srcStage_pass ⟨b, false⟩ _ h2, Option.bind_some, loopStage_eq, hb]
      rfl
  · rw [filterpathCore, ibgpStage_wdOld h1 ho.1.1 ha]

theorem core_route (g : Global) (t : PeerCfg) (path : P) (old : Option Cand) (p : P)
    (h : filterpathCore g t path old = some p) : p.r = path.r ∨ old = some p.r := by
  cases hx : exportable g t path.r
  · rcases core_of_not_exportable path old hx with h' | h' <;> rw [h'] at h
    · cases h
    · exact Or.inr (wdOld_route path old p h)
  · rw [core_of_exportable path old hx] at h
    cases h
    exact Or.inl rfl

theorem core_none_eq (g : Global) (t : PeerCfg) (r : Cand) :
    filterpathCore g t ⟨r, false⟩ none = if exportable g t r then some ⟨r, false⟩ else none := by
  rw [exportable_eq]
  exact core_of_wdOld_none (wdOld_none _)

theorem core_none_shape (g : Global) (t : PeerCfg) (b : Cand) (p : P)
    (h : filterpathCore g t ⟨b, false⟩ none = some p) : p = ⟨b, false⟩ := by
  rw [core_none_eq] at h
  split at h <;> cases h
  rfl

theorem core_wd (g : Global) (t : PeerCfg) (o : Cand) (old : Option Cand) :
    filterpathCore g t ⟨o, true⟩ old =
      (filterpathCore g t ⟨o, false⟩ none).map (fun p => ⟨p.r, true⟩) := by
  rw [core_of_wdOld_none (wdOld_wd o old), core_of_wdOld_none (wdOld_none _)]
  cases exportableF g t o <;> rfl

theorem core_announce (g : Global) (t : PeerCfg) (b : Cand) (old : Option Cand) (r : Cand)
    (h : filterpathCore g t ⟨b, false⟩ old = some ⟨r, false⟩) :
    r = b ∧ filterpathCore g t ⟨b, false⟩ none = some ⟨b, false⟩ := by
  cases hb : exportable g t b
  · rcases core_of_not_exportable ⟨b, false⟩ old hb with h' | h' <;> rw [h'] at h
    · cases h
    · cases (wdOld_eq_some h).2.2
  · rw [core_of_exportable ⟨b, false⟩ old hb] at h
    cases h
    exact ⟨rfl, core_of_exportable ⟨b, false⟩ none hb⟩

theorem core_none_of_ne {g : Global} {t : PeerCfg} {b : Cand} {old : Option Cand}
    (h : filterpathCore g t ⟨b, false⟩ old ≠ some ⟨b, false⟩) :
    filterpathCore g t ⟨b, false⟩ none = none := by
  rw [core_none_eq]
  cases hb : exportable g t b
  · rfl
  · exact absurd (core_of_exportable ⟨b, false⟩ old hb) h

theorem core_withdraw (g : Global) (t : PeerCfg) (b o r : Cand)
    (h : filterpathCore g t ⟨b, false⟩ (some o) = some ⟨r, true⟩) :
    filterpathCore g t ⟨b, false⟩ none = none :=
  core_none_of_ne (fun e => by rw [h] at e; cases e)

theorem core_silent_new (g : Global) (t : PeerCfg) (b o : Cand)
    (h : filterpathCore g t ⟨b, false⟩ (some o) = none) :
    filterpathCore g t ⟨b, false⟩ none = none :=
  core_none_of_ne (fun e => by rw [h] at e; cases e)

/-- if the answer is "nothing", the OLD best was not exportable either: nothing the peer holds is
    left behind.  This is the lemma that fails for the pinned tree (route-reflector stuck route;
    CLUSTER_LIST branch) and holds after the fixes. -/
theorem core_silent_old (g : Global) (t : PeerCfg) (b o : Cand)
    (hrs : t.isRSClient = false) (wf : FromPeerWF g t o)
    (h : filterpathCore g t ⟨b, false⟩ (some o) = none) :
    filterpathCore g t ⟨o, false⟩ none = none := by
  rw [core_none_eq]
  cases ho : exportable g t o
  · rfl
  · cases hb : exportable g t b
    · rw [core_of_old_exportable hrs wf ho hb] at h
      cases h
    · rw [core_of_exportable ⟨b, false⟩ _ hb] at h
      cases h

/-- the marker the peer should hold when `b` is the best path -/
def wantR (g : Global) (t : PeerCfg) (b : Cand) : Option Nat :=
  if b.nhInvalid then none
  else if exportable g t b && (t.llgr || !b.stale) then some b.marker else none

theorem wantR_invalid {g : Global} {t : PeerCfg} {b : Cand} (h : b.nhInvalid = true) :
    wantR g t b = none := by
  rw [wantR, if_pos h]

theorem wantR_not_exportable {g : Global} {t : PeerCfg} {b : Cand} (h : exportable g t b = false) :
    wantR g t b = none := by
  rw [wantR, h]
  split <;> rfl

theorem wantR_exportable {g : Global} {t : PeerCfg} {b : Cand} (hb : b.nhInvalid = false)
    (hx : exportable g t b = true) :
    wantR g t b = if t.llgr || !b.stale then some b.marker else none := by
  rw [wantR, hb, hx]
  rfl

/-- the post-filter turns an LLGR-stale announcement for a peer without LLGR into a withdraw -/
theorem heldApply_sfilter (g : Global) (t : PeerCfg) (path : P) (old : Option Cand) (h : Option Nat) :
    heldApply h (sFilterpath g t path old) =
      match filterpathCore g t path old with
      | none => h
      | some p => if !p.wd && (t.llgr || !p.r.stale) then some p.r.marker else none := by
  unfold sFilterpath
  cases filterpathCore g t path old with
  | none => rfl
  | some p =>
    obtain ⟨r, w⟩ := p
    dsimp only
    cases w <;> cases t.llgr <;> cases r.stale <;> rfl

theorem sfilter_route (g : Global) (t : PeerCfg) (path : P) (old : Option Cand) (p : P)
    (h : sFilterpath g t path old = some p) : p.r = path.r ∨ old = some p.r := by
  unfold sFilterpath at h
  cases hc : filterpathCore g t path old with
  | none => rw [hc] at h; cases h
  | some q =>
    rw [hc] at h
    dsimp only at h
    have := core_route g t path old q hc
    split at h <;> cases h <;> exact this

theorem sfilter_replace (g : Global) (t : PeerCfg) (b o : Cand) (hrs : t.isRSClient = false)
    (wf : FromPeerWF g t o) (hb : b.nhInvalid = false) :
    heldApply (wantR g t o) (sFilterpath g t ⟨b, false⟩ (some o)) = wantR g t b := by
  rw [heldApply_sfilter]
  cases hx : exportable g t b
  · rw [wantR_not_exportable hx]
    cases ho : exportable g t o
    · rw [wantR_not_exportable ho]
      rcases core_of_not_exportable ⟨b, false⟩ (some o) hx with h' | h' <;> rw [h'] <;> rfl
    · rw [core_of_old_exportable hrs wf ho hx]; rfl
  · rw [core_of_exportable ⟨b, false⟩ _ hx, wantR_exportable hb hx]
    rfl

theorem core_wd_eq (g : Global) (t : PeerCfg) (x : Cand) (old : Option Cand) :
    filterpathCore g t ⟨x, true⟩ old = if exportable g t x then some ⟨x, true⟩ else none := by
  rw [exportable_eq]
  exact core_of_wdOld_none (wdOld_wd x old)

theorem sfilter_wd_eq (g : Global) (t : PeerCfg) (x : Cand) (old : Option Cand) :
    sFilterpath g t ⟨x, true⟩ old = if exportable g t x then some ⟨x, true⟩ else none := by
  rw [sFilterpath, core_wd_eq]
  cases exportable g t x <;> rfl

theorem sfilter_remove (g : Global) (t : PeerCfg) (x o : Cand) (old : Option Cand)
    (h : exportable g t x = exportable g t o) :
    heldApply (wantR g t o) (sFilterpath g t ⟨x, true⟩ old) = none := by
  rw [sfilter_wd_eq, h]
  cases hx : exportable g t o
  · exact wantR_not_exportable hx
  · rfl

theorem sfilter_first (g : Global) (t : PeerCfg) (b : Cand) (hb : b.nhInvalid = false) :
    heldApply none (sFilterpath g t ⟨b, false⟩ none) = wantR g t b := by
  rw [heldApply_sfilter, core_none_eq]
  cases hx : exportable g t b
  · rw [wantR_not_exportable hx]; rfl
  · rw [wantR_exportable hb hx]; rfl

theorem wantOf_eq (g : Global) (t : PeerCfg) (l : List Cand) :
    wantOf g t l = match l.head? with | none => none | some b => wantR g t b := by
  unfold wantOf
  cases l.head? with
  | none => rfl
  | some b =>
    dsimp only
    cases hb : b.nhInvalid
    · rw [← sfilter_first g t b hb]
      cases sFilterpath g t ⟨b, false⟩ none <;> rfl
    · rw [wantR_invalid hb]; rfl

theorem exportable_congr (g : Global) (t : PeerCfg) (a b : Cand)
    (h1 : a.src = b.src) (h2 : a.clusterList = b.clusterList) (h3 : a.segs = b.segs) :
    exportable g t a = exportable g t b := by
  rw [exportable_eq, exportable_eq]
  unfold exportableF Cand.isLocal
  rw [h1, h2, h3]

theorem pathEqual_fields (a b : Cand) (h : pathEqual a b = true) :
    a.segs = b.segs ∧ a.marker = b.marker ∧ a.clusterList = b.clusterList ∧ a.stale = b.stale := by
  unfold pathEqual at h
  simp only [Bool.and_eq_true, beq_iff_eq] at h
  exact ⟨h.1.1.1.1.1.1.1.2, h.1.1.1.1.2, h.1.1.2, h.2⟩

theorem pathEqual_src (a b : Cand) (h : pathEqual a b = true) : a.src.equal b.src = true := by
  unfold pathEqual at h
  simp only [Bool.and_eq_true] at h
  exact h.1.1.1.1.1.1.1.1.1

/-- what propagateUpdateToNeighbors sends to one non ADD-PATH peer for one destination change -/
def deltaFor (g : Global) (t : PeerCfg) (oldL newL : List Cand) : Option P :=
  match getChanges oldL newL with
  | (some b, old) => sFilterpath g t b old
  | (none, _) => none

/-- **delta_correct**: if the peer held the export of the old best path, then after applying
    what the incremental fan-out sends it holds the export of the new best path. For EVERY pair
    of path lists and every target peer that is not a route-server client (eBGP, iBGP, RR client),
    with or without LLGR — no stuck route, no missing route. -/
theorem delta_correct (g : Global) (t : PeerCfg) (hrs : t.isRSClient = false)
    (oldL newL : List Cand)
    (wfO : ∀ o, oldL.head? = some o → FromPeerWF g t o)
    (wfEq : ∀ b o, newL.head? = some b → oldL.head? = some o →
      b.src.equal o.src = true → b.src = o.src) :
    heldApply (wantOf g t oldL) (deltaFor g t oldL newL) = wantOf g t newL := by
  rw [wantOf_eq, wantOf_eq]
  unfold deltaFor getChanges
  cases hn : newL.head? with
  | none =>
    cases ho : oldL.head? with
    | none => rfl
    | some o =>
      dsimp only
      cases hoi : o.nhInvalid
      · exact sfilter_remove g t o o (some o) rfl
      · exact wantR_invalid hoi
  | some b =>
    cases ho : oldL.head? with
    | none =>
      dsimp only
      cases hbi : b.nhInvalid
      · exact sfilter_first g t b hbi
      · exact (wantR_invalid hbi).symm
    | some o =>
      dsimp only
      cases heq : pathEqual b o
      · cases hbi : b.nhInvalid
        · exact sfilter_replace g t b o hrs (wfO o ho) hbi
        · rw [wantR_invalid hbi]
          cases hoi : o.nhInvalid
          · exact sfilter_remove g t o o (some o) rfl
          · exact wantR_invalid hoi
      · -- an equal path: same source, same attributes, so the same export decision
        obtain ⟨f1, f2, f3, f4⟩ := pathEqual_fields b o heq
        have hex := exportable_congr g t b o (wfEq b o hn ho (pathEqual_src b o heq)) f3 f1
        cases hbi : b.nhInvalid <;> cases hoi : o.nhInvalid
        · show wantR g t o = wantR g t b
          rw [wantR, wantR, hbi, hoi, hex, f2, f4]
        · exact sfilter_replace g t b o hrs (wfO o ho) hbi
        · rw [wantR_invalid hbi]
          exact sfilter_remove g t b o (some o) hex
        · exact (wantR_invalid hoi).trans (wantR_invalid hbi).symm
end World
