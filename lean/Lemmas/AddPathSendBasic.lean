/- lists without repeated local identifier and the identifier sets `ins` / `del` of the ADD-PATH
   send model -/
import Lemmas.AddPathSendDefs
namespace AddPathSend
open BestPath

theorem id_inj {l : List Cand} (h : (l.map (·.id)).Nodup) {x y : Cand} (hx : x ∈ l) (hy : y ∈ l)
    (e : x.id = y.id) : x = y :=
  eq_of_pairwise_ne (List.pairwise_map.mp (show (l.map (·.id)).Pairwise (· ≠ ·) from h)) hx hy e

theorem nodup_ids_sublist {l l' : List Cand} (s : l'.Sublist l) (h : (l.map (·.id)).Nodup) :
    (l'.map (·.id)).Nodup :=
  List.Nodup.sublist (s.map _) h

theorem mem_filter_ids {l : List Cand} {p : Cand → Bool} {i : Nat} :
    i ∈ (l.filter p).map (·.id) ↔ ∃ x, x ∈ l ∧ x.id = i ∧ p x = true := by
  rw [List.mem_map]
  exact exists_congr fun x => by rw [List.mem_filter, and_assoc, and_comm (a := p x = true)]

theorem ins_of_mem {j : Nat} {l : List Nat} (h : j ∈ l) : ins j l = l :=
  if_pos (List.contains_iff_mem.mpr h)

theorem ins_of_not_mem {j : Nat} {l : List Nat} (h : j ∉ l) : ins j l = j :: l :=
  if_neg (fun c => h (List.contains_iff_mem.mp c))

theorem mem_ins {i j : Nat} {l : List Nat} : i ∈ ins j l ↔ i = j ∨ i ∈ l := by
  by_cases hj : j ∈ l
  · rw [ins_of_mem hj]; exact ⟨Or.inr, fun h => h.elim (fun e => e ▸ hj) id⟩
  · rw [ins_of_not_mem hj]; exact List.mem_cons

theorem mem_del {i j : Nat} {l : List Nat} : i ∈ del j l ↔ i ∈ l ∧ i ≠ j := by
  unfold del
  rw [List.mem_filter, bne_iff_ne]

theorem del_of_not_mem {j : Nat} {l : List Nat} (h : j ∉ l) : del j l = l :=
  List.filter_eq_self.mpr fun _ ha => bne_iff_ne.mpr fun e => h (e ▸ ha)

theorem nodup_ins {j : Nat} {l : List Nat} (h : l.Nodup) : (ins j l).Nodup := by
  by_cases hj : j ∈ l
  · rw [ins_of_mem hj]; exact h
  · rw [ins_of_not_mem hj]; exact List.nodup_cons.mpr ⟨hj, h⟩

theorem nodup_del {j : Nat} {l : List Nat} (h : l.Nodup) : (del j l).Nodup :=
  List.Nodup.sublist List.filter_sublist h

theorem length_ins {j : Nat} {l : List Nat} (h : j ∉ l) : (ins j l).length = l.length + 1 := by
  rw [ins_of_not_mem h, List.length_cons]

/-- on a list without repetition `del` is `List.erase` -/
theorem length_del {j : Nat} {l : List Nat} (hn : l.Nodup) (h : j ∈ l) :
    (del j l).length + 1 = l.length := by
  unfold del
  rw [← hn.erase_eq_filter j, List.length_erase_of_mem h]
  have := List.length_pos_of_mem h
  omega

theorem keys_filter_nodup {v : List (Nat × Nat)} (h : (v.map (·.1)).Nodup) (p : Nat × Nat → Bool) :
    ((v.filter p).map (·.1)).Nodup :=
  List.Nodup.sublist (List.Sublist.map _ List.filter_sublist) h

theorem mem_view_filter {v : List (Nat × Nat)} {i m j : Nat} :
    (i, m) ∈ v.filter (fun e => e.1 != j) ↔ (i, m) ∈ v ∧ i ≠ j := by
  rw [List.mem_filter, bne_iff_ne]

theorem keys_cons_nodup {v : List (Nat × Nat)} (h : (v.map (·.1)).Nodup) (i m : Nat) :
    ((((i, m) :: v.filter (fun e => e.1 != i))).map (·.1)).Nodup := by
  rw [List.map_cons]
  refine List.nodup_cons.2 ⟨fun hm => ?_, keys_filter_nodup h _⟩
  obtain ⟨e, he, hei⟩ := List.mem_map.1 hm
  exact (mem_view_filter.1 he).2 hei

end AddPathSend
