import Lemmas.GRInv
/-!
No timer of the GR / LLGR model is ever overdue after an event: the fuel `tick` gives `advanceTo` always
suffices, and `nextDue` finds the earliest pending deadline.  And a peer is restarting only after a graceful
loss: over a history whose losses are all of a kind never classified as graceful, it never is (`nr_run`).
Core Lean only.
-/
namespace GR

theorem foldl_minStep (proj : Nat × Nat → Nat) (l : List (Nat × Nat)) : ∀ y : Nat × Nat,
    ∃ m, l.foldl (minStep proj) (some y) = some m ∧ m ∈ y :: l ∧ ∀ x ∈ y :: l, proj m ≤ proj x := by
  induction l with
  | nil =>
    intro y
    refine ⟨y, rfl, List.mem_singleton.mpr rfl, fun x hx => ?_⟩
    rw [List.mem_singleton.mp hx]
    exact Nat.le_refl _
  | cons a t ih =>
    intro y
    have hstep : ∃ z, minStep proj (some y) a = some z ∧ z ∈ [y, a] ∧ proj z ≤ proj y ∧ proj z ≤ proj a := by
      by_cases hlt : proj a < proj y
      · exact ⟨a, if_pos hlt, List.mem_cons_of_mem _ (List.mem_singleton.mpr rfl), Nat.le_of_lt hlt, Nat.le_refl _⟩
      · exact ⟨y, if_neg hlt, List.mem_cons_self .., Nat.le_refl _, Nat.le_of_not_lt hlt⟩
    obtain ⟨z, hz, hzmem, hzy, hza⟩ := hstep
    obtain ⟨m, hm, hmem, hmin⟩ := ih z
    have hmz : proj m ≤ proj z := hmin z (List.mem_cons_self ..)
    refine ⟨m, by rw [List.foldl_cons, hz]; exact hm, ?_, ?_⟩
    · rcases List.mem_cons.mp hmem with rfl | hmt
      · rcases List.mem_cons.mp hzmem with rfl | hma
        · exact List.mem_cons_self ..
        · rw [List.mem_singleton.mp hma]
          exact List.mem_cons_of_mem _ (List.mem_cons_self ..)
      · exact List.mem_cons_of_mem _ (List.mem_cons_of_mem _ hmt)
    · intro x hx
      rcases List.mem_cons.mp hx with rfl | hx
      · exact Nat.le_trans hmz hzy
      · rcases List.mem_cons.mp hx with rfl | hx
        · exact Nat.le_trans hmz hza
        · exact hmin x (List.mem_cons_of_mem _ hx)

theorem minBy_some (l : List (Nat × Nat)) (proj : Nat × Nat → Nat) (m : Nat × Nat) (h : minBy l proj = some m) :
    m ∈ l ∧ ∀ x ∈ l, proj m ≤ proj x := by
  cases l with
  | nil => cases h
  | cons a t =>
    obtain ⟨m', hm, hmem, hmin⟩ := foldl_minStep proj t a
    cases hm.symm.trans h
    exact ⟨hmem, hmin⟩

theorem minBy_le (l : List (Nat × Nat)) (proj : Nat × Nat → Nat) (x : Nat × Nat) (hx : x ∈ l) :
    ∃ m, minBy l proj = some m ∧ proj m ≤ proj x := by
  cases l with
  | nil => cases hx
  | cons a t =>
    obtain ⟨m, hm, _, hmin⟩ := foldl_minStep proj t a
    exact ⟨m, hm, hmin x hx⟩

theorem pickDue_mem (a b : Option (Nat × Due)) (x : Nat × Due) (h : pickDue a b = some x) :
    a = some x ∨ b = some x := by
  cases a with
  | none => exact Or.inr h
  | some u =>
    cases b with
    | none => exact Or.inl h
    | some v =>
      show some u = some x ∨ some v = some x
      rw [← h]
      exact ite_ind (P := fun r => some u = r ∨ some v = r) (Or.inr rfl) (Or.inl rfl)

theorem pickDue_left (b : Option (Nat × Due)) (u : Nat × Due) : ∃ y, pickDue (some u) b = some y ∧ y.1 ≤ u.1 := by
  cases b with
  | none => exact ⟨u, rfl, Nat.le_refl _⟩
  | some v =>
    by_cases hlt : v.1 < u.1
    · exact ⟨v, if_pos hlt, Nat.le_of_lt hlt⟩
    · exact ⟨u, if_neg hlt, Nat.le_refl _⟩

theorem pickDue_right (a : Option (Nat × Due)) (v : Nat × Due) : ∃ y, pickDue a (some v) = some y ∧ y.1 ≤ v.1 := by
  cases a with
  | none => exact ⟨v, rfl, Nat.le_refl _⟩
  | some u =>
    by_cases hlt : v.1 < u.1
    · exact ⟨v, if_pos hlt, Nat.le_refl _⟩
    · exact ⟨u, if_neg hlt, Nat.le_of_not_lt hlt⟩

/- the three candidates of `nextDue` (LLGR timers, deferral timers, restart timer) and the earliest of them -/
def cand1 (p : Peer) : Option (Nat × Due) := (minBy p.llTimers (·.2)).map (fun t => (t.2, Due.ll t.1))
def cand2 (p : Peer) : Option (Nat × Due) := (minBy p.defTimers (·.1)).map (fun t => (t.1, Due.defer t.2))
def cand3 (p : Peer) : Option (Nat × Due) := p.restartAt.map (fun d => (d, Due.restart))
def earliest (p : Peer) : Option (Nat × Due) := pickDue (pickDue (cand1 p) (cand2 p)) (cand3 p)

theorem nextDue_eq_some (p : Peer) (limit : Nat) (x : Nat × Due) :
    nextDue p limit = some x ↔ earliest p = some x ∧ x.1 ≤ limit := by
  show (match earliest p with | some (d, k) => if d ≤ limit then some (d, k) else none | none => none) = some x ↔ _
  cases earliest p with
  | none => exact ⟨(fun h => nomatch h), (fun h => nomatch h.1)⟩
  | some y =>
    show (if y.1 ≤ limit then some y else none) = some x ↔ _
    by_cases hle : y.1 ≤ limit
    · rw [if_pos hle]
      exact ⟨fun h => ⟨h, Option.some.inj h ▸ hle⟩, fun h => h.1⟩
    · rw [if_neg hle]
      exact ⟨(fun h => nomatch h), fun h => absurd (Option.some.inj h.1 ▸ h.2) hle⟩

theorem earliest_le_ll (p : Peer) (t : Nat × Nat) (ht : t ∈ p.llTimers) : ∃ x, earliest p = some x ∧ x.1 ≤ t.2 := by
  obtain ⟨m, hm, hmt⟩ := minBy_le p.llTimers (·.2) t ht
  have h1 : cand1 p = some (m.2, Due.ll m.1) := by rw [cand1, hm]; rfl
  obtain ⟨y, hy, hym⟩ := pickDue_left (cand2 p) (m.2, Due.ll m.1)
  obtain ⟨x, hx, hxy⟩ := pickDue_left (cand3 p) y
  rw [← h1] at hy
  rw [← hy] at hx
  exact ⟨x, hx, Nat.le_trans hxy (Nat.le_trans hym hmt)⟩

theorem earliest_le_restart (p : Peer) (D : Nat) (hD : p.restartAt = some D) : ∃ x, earliest p = some x ∧ x.1 ≤ D := by
  obtain ⟨x, hx, hxD⟩ := pickDue_right (pickDue (cand1 p) (cand2 p)) (D, Due.restart)
  have h3 : cand3 p = some (D, Due.restart) := by rw [cand3, hD]; rfl
  rw [← h3] at hx
  exact ⟨x, hx, hxD⟩

theorem nextDue_none (p : Peer) (limit : Nat) (h : nextDue p limit = none) :
    (∀ t ∈ p.llTimers, limit < t.2) ∧ (∀ D, p.restartAt = some D → limit < D) := by
  have hlate : ∀ x, earliest p = some x → limit < x.1 := fun x hx =>
    Nat.lt_of_not_le fun hle => nomatch h.symm.trans ((nextDue_eq_some p limit x).mpr ⟨hx, hle⟩)
  constructor
  · intro t ht
    obtain ⟨x, hx, hxt⟩ := earliest_le_ll p t ht
    exact Nat.lt_of_lt_of_le (hlate x hx) hxt
  · intro D hD
    obtain ⟨x, hx, hxD⟩ := earliest_le_restart p D hD
    exact Nat.lt_of_lt_of_le (hlate x hx) hxD

theorem nextDue_some (p : Peer) (limit d : Nat) (k : Due) (h : nextDue p limit = some (d, k)) :
    match k with
    | .ll f => (f, d) ∈ p.llTimers
    | .defer dt => (d, dt) ∈ p.defTimers
    | .restart => p.restartAt = some d := by
  rcases pickDue_mem _ _ _ ((nextDue_eq_some p limit _).mp h).1 with h12 | h3
  · rcases pickDue_mem _ _ _ h12 with h1 | h2
    · obtain ⟨m, hm, heq⟩ := Option.map_eq_some_iff.mp h1
      cases heq
      exact (minBy_some _ _ m hm).1
    · obtain ⟨m, hm, heq⟩ := Option.map_eq_some_iff.mp h2
      cases heq
      exact (minBy_some _ _ m hm).1
  · obtain ⟨D, hD, heq⟩ := Option.map_eq_some_iff.mp h3
    cases heq
    exact hD

/-- number of timer firings still possible: each pending timer once, and the restart timer may start one
LLGR timer per family -/
def mu (p : Peer) : Nat :=
  p.llTimers.length + p.defTimers.length + (if p.restartAt.isSome then p.fams.length + 1 else 0)

theorem mu_lt_of_fewer {p q : Peer} (hra : q.restartAt = p.restartAt) (hf : q.fams.length = p.fams.length)
    (h : q.llTimers.length + q.defTimers.length < p.llTimers.length + p.defTimers.length) : mu q < mu p := by
  unfold mu
  rw [hra, hf]
  exact Nat.add_lt_add_right h _

theorem mu_lt_of_restart {p q : Peer} {D : Nat} (hp : p.restartAt = some D) (hq : q.restartAt = none)
    (hd : q.defTimers = p.defTimers) (hll : q.llTimers.length ≤ p.llTimers.length + p.fams.length) :
    mu q < mu p := by
  unfold mu
  rw [hp, hq, hd]
  show _ + _ + 0 < _ + _ + (p.fams.length + 1)
  omega

theorem length_removeFirst (l : List (Nat × Nat)) (x : Nat × Nat) (h : x ∈ l) :
    (removeFirst l x).length + 1 = l.length := by
  induction l with
  | nil => cases h
  | cons y ys ih =>
    by_cases hc : (y == x) = true
    · rw [removeFirst, if_pos hc, List.length_cons]
    · rw [removeFirst, if_neg hc, List.length_cons, List.length_cons, ih]
      rcases List.mem_cons.mp h with rfl | h
      · exact absurd (beq_self_eq_true x) hc
      · exact h

theorem length_foldl_startLL (ll : List Nat) : ∀ q : Peer,
    ((ll.foldl startLL q).llTimers.length = q.llTimers.length + ll.length) ∧
    ((ll.foldl startLL q).fams.length = q.fams.length) := by
  induction ll with
  | nil => intro q; exact ⟨rfl, rfl⟩
  | cons a t ih =>
    intro q
    obtain ⟨h1, h2⟩ := ih (startLL q a)
    refine ⟨h1.trans ?_, h2.trans (List.length_map _)⟩
    show (q.llTimers ++ [_]).length + t.length = q.llTimers.length + (t.length + 1)
    rw [List.length_append, List.length_singleton]
    omega

theorem idlePurge_timers (p : Peer) :
    (idlePurge p).llTimers.length ≤ p.llTimers.length + p.fams.length ∧
    (idlePurge p).defTimers = p.defTimers ∧ (idlePurge p).restartAt = p.restartAt ∧
    (idlePurge p).fams.length = p.fams.length := by
  cases hll : p.longLived
  · rw [idlePurge_no_ll p hll]
    exact ⟨Nat.le_add_right _ _, rfl, rfl, List.length_map _⟩
  · cases hrun : p.llRun
    · by_cases hempty : (llFams p).isEmpty = true
      · rw [idlePurge_ll_empty p hll hrun hempty]
        exact ⟨Nat.zero_le _, rfl, rfl, List.length_map _⟩
      · rw [idlePurge_ll_start p hll hrun hempty, foldl_startLL_frame]
        obtain ⟨h1, h2⟩ := length_foldl_startLL (llFams p) (llStart p)
        refine ⟨?_, rfl, rfl, h2⟩
        show ((llFams p).foldl startLL (llStart p)).llTimers.length ≤ _
        rw [h1]
        have hle : (llFams p).length ≤ p.fams.length := by
          rw [llFams, List.length_map]
          exact List.length_filter_le _ _
        exact Nat.add_le_add_left hle _
    · rw [idlePurge_running p hll hrun]
      exact ⟨Nat.le_add_right _ _, rfl, rfl, rfl⟩

theorem mu_onLLExpire_lt (p : Peer) (f d : Nat) (h : (f, d) ∈ p.llTimers) : mu (onLLExpire p f) < mu p := by
  have hlt : (p.llTimers.filter (fun t => t.1 != f)).length < p.llTimers.length :=
    List.length_filter_lt_length_iff_exists.mpr ⟨(f, d), h, by rw [bne_self_eq_false]; exact Bool.false_ne_true⟩
  rw [onLLExpire_eq]
  refine ite_ind (P := fun q => mu q < mu p) (mu_lt_of_fewer rfl ?_ ?_) (mu_lt_of_fewer rfl (List.length_map _) ?_)
  · exact (List.length_map _).trans (List.length_map _)
  · exact Nat.add_lt_add_right (Nat.zero_lt_of_lt hlt) _
  · exact Nat.add_lt_add_right hlt _

theorem mu_onRestartExpire_lt (p : Peer) (D : Nat) (h : p.restartAt = some D) : mu (onRestartExpire p) < mu p := by
  obtain ⟨h1, h2, h3, _⟩ := idlePurge_timers { p with restartAt := none }
  rw [onRestartExpire_eq]
  exact ite_ind (P := fun q => mu q < mu p) (mu_lt_of_restart h h3 h2 h1)
    (mu_lt_of_restart h rfl rfl (Nat.le_add_right _ _))

theorem mu_fire_lt (p : Peer) (limit d : Nat) (k : Due) (h : nextDue p limit = some (d, k)) :
    mu (fire p d k) < mu p := by
  have hsrc := nextDue_some p limit d k h
  cases k with
  | ll f => exact mu_onLLExpire_lt { p with now := d } f d hsrc
  | defer dt =>
    have hlen := length_removeFirst p.defTimers (d, dt) hsrc
    have hlt : mu { p with now := d, defTimers := removeFirst p.defTimers (d, dt) } < mu p :=
      mu_lt_of_fewer rfl rfl (Nat.add_lt_add_left (Nat.lt_of_lt_of_eq (Nat.lt_succ_self _) hlen) _)
    exact onDeferralExpire_ind (fun x => mu x < mu p) _ dt hlt hlt
  | restart => exact mu_onRestartExpire_lt { p with now := d } d hsrc

theorem advanceTo_post (fuel : Nat) : ∀ (p : Peer) (limit : Nat), mu p < fuel →
    (advanceTo fuel p limit).now = limit ∧ nextDue (advanceTo fuel p limit) limit = none := by
  induction fuel with
  | zero => intro p limit h; cases h
  | succ n ih =>
    intro p limit h
    unfold advanceTo
    cases hd : nextDue p limit with
    | none => exact ⟨rfl, hd⟩
    | some x =>
      have := mu_fire_lt p limit x.1 x.2 hd
      exact ih _ _ (by omega)

theorem tick_post (p : Peer) (d : Nat) :
    (tick p d).now = p.now + d ∧
    (∀ t ∈ (tick p d).llTimers, (tick p d).now < t.2) ∧
    (∀ D, (tick p d).restartAt = some D → (tick p d).now < D) := by
  have hfuel : mu p < p.llTimers.length + p.defTimers.length + p.fams.length + 2 := by
    unfold mu
    split <;> omega
  obtain ⟨h1, h2⟩ := advanceTo_post _ p (p.now + d) hfuel
  refine ⟨h1, ?_⟩
  show (∀ t ∈ (tick p d).llTimers, (advanceTo _ p (p.now + d)).now < t.2) ∧
    (∀ D, (tick p d).restartAt = some D → (advanceTo _ p (p.now + d)).now < D)
  rw [h1]
  exact nextDue_none _ _ h2

/-- no LLGR timer and no restart timer is overdue -/
def Timely (p : Peer) : Prop :=
  (∀ t ∈ p.llTimers, p.now < t.2) ∧ (∀ D, p.restartAt = some D → p.now < D)

theorem timely_step (p : Peer) (e : Ev) : Timely (step p e) := by
  cases e with
  | tick d => exact (tick_post p d).2
  | _ => exact (tick_post _ 0).2

theorem timely_run (es : List Ev) : ∀ p : Peer, Timely p → Timely (run p es) := by
  induction es with
  | nil => intro p h; exact h
  | cons e es ih => intro p _; exact ih _ (timely_step p e)

theorem timely_init (p : Peer) (hi : Init p) : Timely p := by
  unfold Timely
  rw [hi.lls, hi.ra]
  exact ⟨(fun _ ht => nomatch ht), (fun _ hD => nomatch hD)⟩

/-- The classification in closed form: a loss is graceful iff GR was negotiated and it is a transport
failure, a hold-timer expiry, or a received NOTIFICATION other than Cease / Hard Reset with the N bit
negotiated. -/
theorem graceful_eq (en nb : Bool) (k : Loss) :
    graceful en nb k = (en && match k with
      | .readFail | .writeFail | .holdExpiry | .holdExpiryWriteErr => true
      | .notifRecv code sub => nb && !(code == 6 && sub == 9)
      | _ => false) := by
  cases k with
  | notifRecv code sub =>
    -- the code and the subcode are read through two tests only
    have key : ∀ c6 s9 : Bool,
        ((match (if en && nb && c6 && s9 then (Reason.hardReset, true, false)
                 else (Reason.notificationRecv, true, false) : Reason × Bool × Bool) with
          | (r, via, hn) => if via && reasonChGraceful en nb r hn then Reason.gracefulRestart else r)
          == Reason.gracefulRestart) = (en && (nb && !(c6 && s9))) := by
      intro c6 s9
      cases en <;> cases nb <;> cases c6 <;> cases s9 <;> rfl
    exact key (code == 6) (sub == 9)
  | notifSent _ _ | adminDown | prefixLimit => exact (Bool.and_false en).symm  -- these do not go through `reasonCh`
  | _ => cases en <;> cases nb <;> rfl

/-- kinds of loss that are never classified as graceful, whatever was negotiated -/
def neverGraceful : Loss → Bool
  | .notifSent _ _ => true
  | .adminDown => true
  | .prefixLimit => true
  | _ => false

theorem neverGraceful_spec (en nb : Bool) (k : Loss) (h : neverGraceful k = true) : graceful en nb k = false := by
  rw [graceful_eq]
  cases k with
  | notifSent _ _ | adminDown | prefixLimit => exact Bool.and_false en
  | _ => cases h

/-- events of a history in which no loss can be graceful -/
def NoGraceful : Ev → Prop
  | .loss k => neverGraceful k = true
  | _ => True

def NotRestarting (p : Peer) : Prop := p.peerRestarting = false

theorem nr_fire (p : Peer) (d : Nat) (k : Due) (h : NotRestarting p) : NotRestarting (fire p d k) := by
  cases k with
  | ll f =>
    show NotRestarting (onLLExpire { p with now := d } f)
    rw [onLLExpire_eq]
    exact ite_ind rfl h
  | defer dt => exact onDeferralExpire_ind NotRestarting _ dt h h
  | restart =>
    show NotRestarting (onRestartExpire { p with now := d })
    rw [onRestartExpire_eq, if_neg (fun hc => Bool.false_ne_true (h.symm.trans hc.2))]
    exact h

theorem nr_tick (p : Peer) (d : Nat) (h : NotRestarting p) : NotRestarting (tick p d) :=
  advanceTo_ind (fun _ _ h => h) nr_fire _ p _ h

theorem eorPeer_idle (q : Peer) (h : q.peerRestarting = false) : eorPeer q = q := by
  rw [eorPeer, h]
  rfl

theorem nr_onEst (p : Peer) (c : Caps) (h : NotRestarting p) : NotRestarting (onEst p c) := by
  rw [onEst_eq]
  refine ite_ind h ?_
  have hpr : (stateChangeEst p c).peerRestarting = false := (sceP_stateChangeEst p c).pr.trans h
  generalize stateChangeEst p c = q at hpr ⊢
  apply estDefer_ind (fun x => x.peerRestarting = false)
  intro _ _
  rw [estPurge_idle { q with est := true } hpr]
  exact hpr

theorem nr_onDown (p : Peer) (h : NotRestarting p) : NotRestarting (onDown p false) := by
  cases hest : p.est
  · rw [onDown_down p false hest]
    exact h
  · rw [onDown_up p false hest]
    rfl

theorem nr_goto (p : Peer) (n : Next) (ad : Bool) (h : NotRestarting p) : NotRestarting (stepRaw p (.goto n ad)) := by
  rw [goto_eq, if_neg (fun hc => Bool.false_ne_true (h.symm.trans hc.2.1))]
  exact h

theorem nr_onEOR (p : Peer) (f : Nat) (h : NotRestarting p) : NotRestarting (onEOR p f) := by
  refine ite_ind h ?_
  have h1 : (eorLocal p (markEOR p f)).peerRestarting = false :=
    ite_ind (P := fun q : Peer => q.peerRestarting = false) h h
  rw [eorPeer_idle _ h1]
  exact h1

theorem nr_stepRaw (p : Peer) (e : Ev) (he : NoGraceful e) (h : NotRestarting p) : NotRestarting (stepRaw p e) := by
  cases e with
  | est c => exact nr_onEst p c h
  | loss k =>
    show NotRestarting (onDown p (graceful p.enabled p.notif k))
    rw [neverGraceful_spec _ _ k he]
    exact nr_onDown p h
  | goto n ad => exact nr_goto p n ad h
  | ann f k v noLL n rj => exact ite_ind h h
  | wd f k => exact ite_ind h h
  | eor f => exact nr_onEOR p f h
  | tick d => exact nr_tick p d h
  | del => rfl

theorem nr_step (p : Peer) (e : Ev) (he : NoGraceful e) (h : NotRestarting p) : NotRestarting (step p e) :=
  step_ind nr_tick p e (nr_stepRaw p e he h)

theorem nr_run (es : List Ev) : ∀ p : Peer, (∀ e ∈ es, NoGraceful e) → NotRestarting p → NotRestarting (run p es) :=
  run_ind nr_step es

end GR
