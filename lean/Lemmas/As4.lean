import Model.As4
/-! Facts about `Model/As4.lean` behind `Props/C14.lean`: what the keep walk and the merge loop do
to `flat`, `asLen` and `Wire`; the serialised form under `validateBytes`; the round trip `up ∘ down`
reduced to the merge loop (`up_down_eq`). -/
namespace As4

theorem validSeg_iff (s : Seg) :
    validSeg s = true ↔ (1 ≤ s.typ ∧ s.typ ≤ 4 ∧ 1 ≤ s.as.length ∧ s.as.length ≤ 255) := by
  simp only [validSeg, Bool.and_eq_true, decide_eq_true_eq, and_assoc]

theorem validSeg_seq (l : List Nat) : validSeg ⟨2, l⟩ = true ↔ 1 ≤ l.length ∧ l.length ≤ 255 :=
  (validSeg_iff _).trans ⟨fun h => h.2.2, fun h => ⟨Nat.le_succ 1, Nat.le_add_left 2 2, h⟩⟩

theorem isConfed_iff (t : Nat) : isConfed t = true ↔ t = 3 ∨ t = 4 := by
  simp only [isConfed, Bool.or_eq_true, beq_iff_eq]

theorem segLen_seq {s : Seg} (h : s.typ = 2) : segLen s = s.as.length := if_pos h

theorem flatSeg_seq {s : Seg} (h : s.typ = 2) : flatSeg s = s.as.map Item.one := if_pos h

theorem flatSeg_mk (l : List Nat) : flatSeg ⟨2, l⟩ = l.map Item.one := rfl

theorem confed_segLen {s : Seg} (h : isConfed s.typ = true) : segLen s = 0 := by
  rcases (isConfed_iff _).mp h with h | h <;> rw [segLen, h] <;> rfl

theorem plain_segLen {s : Seg} (h : isConfed s.typ = false) (hv : validSeg s = true) :
    segLen s ≠ 0 := by
  have hv := (validSeg_iff s).mp hv
  have h34 : ¬(s.typ = 3 ∨ s.typ = 4) := fun h' => Bool.eq_false_iff.mp h ((isConfed_iff _).mpr h')
  by_cases h2 : s.typ = 2
  · rw [segLen_seq h2]
    exact Nat.ne_of_gt hv.2.2.1
  · rw [segLen, if_neg h2, if_pos (by omega)]
    exact Nat.one_ne_zero

theorem asLen_append (a b : Path) : asLen (a ++ b) = asLen a + asLen b := by
  induction a with
  | nil => exact (Nat.zero_add _).symm
  | cons s r ih => simp only [List.cons_append, asLen, ih, Nat.add_assoc]

theorem asLen_eq_zero {c : Path} (hc : ∀ s ∈ c, segLen s = 0) : asLen c = 0 := by
  induction c with
  | nil => rfl
  | cons t u ih =>
    rw [asLen, hc t (List.mem_cons_self ..), ih fun v hv => hc v (List.mem_cons_of_mem _ hv)]

theorem flat_append (a b : Path) : flat (a ++ b) = flat a ++ flat b := by
  induction a with
  | nil => rfl
  | cons s r ih => simp only [List.cons_append, flat, ih, List.append_assoc]

theorem flat_concat (a : Path) (s : Seg) : flat (a ++ [s]) = flat a ++ flatSeg s := by
  rw [flat_append, flat, flat, List.append_nil]

theorem Wire_nil : Wire [] := nofun

theorem Wire_cons {s : Seg} {r : Path} : Wire (s :: r) ↔ validSeg s = true ∧ Wire r :=
  List.forall_mem_cons

theorem Wire_append {a b : Path} : Wire (a ++ b) ↔ Wire a ∧ Wire b :=
  List.forall_mem_append

theorem Wire_reverse {a : Path} : Wire a.reverse ↔ Wire a := by
  simp only [Wire, List.mem_reverse]

theorem Wire_filter {a : Path} (f : Seg → Bool) (h : Wire a) : Wire (a.filter f) :=
  fun s hs => h s (List.mem_filter.mp hs).1

/-- The branches of `keep` in three cases: a segment that counts 0 falls under the first
(`k - 0 = k`), and what is cut is an AS_SEQUENCE, since nothing else counts more than 1. -/
theorem keep_cons (k : Nat) (s : Seg) (r : Path) :
    (segLen s ≤ k ∧ keep k (s :: r) = s :: keep (k - segLen s) r) ∨
    (k = 0 ∧ keep k (s :: r) = []) ∨
    (k ≠ 0 ∧ k < s.as.length ∧ s.typ = 2 ∧ keep k (s :: r) = [⟨2, s.as.take k⟩]) := by
  by_cases h0 : segLen s = 0
  · exact .inl ⟨h0 ▸ Nat.zero_le k, by rw [keep, if_pos h0, h0, Nat.sub_zero]⟩
  · by_cases hk : k = 0
    · exact .inr (.inl ⟨hk, by rw [keep, if_neg h0, if_pos hk]⟩)
    · by_cases h : segLen s ≤ k
      · exact .inl ⟨h, by rw [keep, if_neg h0, if_neg hk, if_pos h]⟩
      · have h2 : s.typ = 2 := Decidable.by_contra fun h2 => by
          rw [segLen, if_neg h2] at h
          split at h
          · exact h (Nat.one_le_iff_ne_zero.mpr hk)
          · exact h (Nat.zero_le k)
        refine .inr (.inr ⟨hk, Nat.lt_of_not_le (segLen_seq h2 ▸ h), h2, ?_⟩)
        rw [keep, if_neg h0, if_neg hk, if_neg h, h2]

theorem keep_wire (k : Nat) (a : Path) (ha : Wire a) : Wire (keep k a) := by
  induction a generalizing k with
  | nil => exact ha
  | cons s r ih =>
    obtain ⟨hs, hr⟩ := Wire_cons.mp ha
    rcases keep_cons k s r with ⟨_, e⟩ | ⟨_, e⟩ | ⟨h0, hk, _, e⟩ <;> rw [e]
    · exact Wire_cons.mpr ⟨hs, ih _ hr⟩
    · exact Wire_nil
    · refine Wire_cons.mpr ⟨(validSeg_seq _).mpr ?_, Wire_nil⟩
      rw [List.length_take_of_le (Nat.le_of_lt hk)]
      exact ⟨Nat.pos_of_ne_zero h0, Nat.le_trans (Nat.le_of_lt hk) ((validSeg_iff s).mp hs).2.2.2⟩

theorem keep_asLen (k : Nat) (a : Path) (hk : k ≤ asLen a) : asLen (keep k a) = k := by
  induction a generalizing k with
  | nil => exact (Nat.le_zero.mp hk).symm
  | cons s r ih =>
    rw [asLen] at hk
    rcases keep_cons k s r with ⟨h, e⟩ | ⟨h0, e⟩ | ⟨_, hl, _, e⟩ <;> rw [e]
    · rw [asLen, ih _ (Nat.sub_le_iff_le_add'.mpr hk)]
      exact Nat.add_sub_cancel' h
    · exact h0.symm
    · exact List.length_take_of_le (Nat.le_of_lt hl)

theorem keep_flat_prefix (k : Nat) (a : Path) : flat (keep k a) <+: flat a := by
  induction a generalizing k with
  | nil => exact List.prefix_refl _
  | cons s r ih =>
    rcases keep_cons k s r with ⟨_, e⟩ | ⟨_, e⟩ | ⟨_, _, h2, e⟩ <;> rw [e]
    · exact (List.prefix_append_right_inj _).mpr (ih _)
    · exact List.nil_prefix
    · rw [flat, flat, flat, List.append_nil, flatSeg_seq h2, flatSeg_mk]
      exact ((List.take_prefix k s.as).map Item.one).trans (List.prefix_append _ _)

theorem keep_zero_run (c q : Path) (hc : ∀ s ∈ c, segLen s = 0)
    (hq : ∀ s ∈ q, segLen s ≠ 0) : keep 0 (c ++ q) = c := by
  induction c with
  | nil =>
    cases q with
    | nil => rfl
    | cons s r => rw [List.nil_append, keep, if_neg (hq s (List.mem_cons_self ..)), if_pos rfl]
  | cons s r ih =>
    rw [List.cons_append, keep, if_pos (hc s (List.mem_cons_self ..)),
      ih fun t ht => hc t (List.mem_cons_of_mem _ ht)]

theorem mergeStep_flat (acc : Path) (s : Seg) :
    flat (mergeStep acc s).reverse = flat acc.reverse ++ flatSeg s := by
  cases acc with
  | nil => exact flat_concat [] s
  | cons last rest =>
    by_cases h : s.typ = 2 ∧ last.typ = 2
    · rw [List.reverse_cons, flat_concat, flatSeg_seq h.1, flatSeg_seq h.2, List.append_assoc,
        ← List.map_append]
      by_cases hlen : last.as.length + s.as.length > 255
      · -- the two pieces of the cut together hold `last.as ++ s.as`
        rw [mergeStep, if_pos h, if_pos hlen, List.reverse_cons, List.reverse_cons, flat_concat,
          flat_concat, List.append_assoc, flatSeg_mk, flatSeg_mk, ← List.map_append,
          List.append_assoc, List.take_append_drop]
      · rw [mergeStep, if_pos h, if_neg hlen, List.reverse_cons, flat_concat, flatSeg_mk]
    · rw [mergeStep, if_neg h, List.reverse_cons, flat_concat]

theorem foldl_merge_flat (a4 acc : Path) :
    flat (a4.foldl mergeStep acc).reverse = flat acc.reverse ++ flat a4 := by
  induction a4 generalizing acc with
  | nil => exact (List.append_nil _).symm
  | cons s r ih => rw [List.foldl, ih, mergeStep_flat, flat, List.append_assoc]

theorem merge_flat (kept a4 : Path) : flat (merge kept a4) = flat kept ++ flat a4 := by
  rw [merge, foldl_merge_flat, List.reverse_reverse]

/-- The AS count can be read off the flattening: every AS of an AS_SEQUENCE counts, an AS_SET
counts as one.  So whatever leaves `flat` alone leaves `asLen` alone. -/
def Item.counts : Item → Bool
  | .one _ => true
  | .grp t _ => t == 1

theorem segLen_eq_countP (s : Seg) : segLen s = (flatSeg s).countP Item.counts := by
  unfold segLen flatSeg
  split
  · rw [List.countP_map]
    exact (List.countP_eq_length.mpr fun _ _ => rfl).symm
  · simp only [List.countP_singleton, Item.counts, beq_iff_eq]

theorem asLen_eq_countP (p : Path) : asLen p = (flat p).countP Item.counts := by
  induction p with
  | nil => rfl
  | cons s r ih => rw [asLen, flat, List.countP_append, ih, segLen_eq_countP]

theorem merge_asLen (kept a4 : Path) : asLen (merge kept a4) = asLen kept + asLen a4 := by
  rw [asLen_eq_countP, merge_flat, List.countP_append, ← asLen_eq_countP, ← asLen_eq_countP]

theorem mergeStep_wire (acc : Path) (s : Seg) (ha : Wire acc) (hs : validSeg s = true) :
    Wire (mergeStep acc s) := by
  cases acc with
  | nil => exact Wire_cons.mpr ⟨hs, Wire_nil⟩
  | cons last rest =>
    obtain ⟨hl, hr⟩ := Wire_cons.mp ha
    by_cases h : s.typ = 2 ∧ last.typ = 2
    · have hs' := (validSeg_iff s).mp hs
      have hl' := (validSeg_iff last).mp hl
      by_cases hlen : last.as.length + s.as.length > 255
      · -- `last` is filled up to 255 members, the 1..255 members of `s` left over come after it
        have hn : 255 - last.as.length < s.as.length := Nat.sub_lt_left_of_lt_add hl'.2.2.2 hlen
        rw [mergeStep, if_pos h, if_pos hlen]
        refine Wire_cons.mpr ⟨(validSeg_seq _).mpr ?_, Wire_cons.mpr ⟨(validSeg_seq _).mpr ?_, hr⟩⟩
        · rw [List.length_drop]
          exact ⟨Nat.sub_pos_of_lt hn, Nat.le_trans (Nat.sub_le _ _) hs'.2.2.2⟩
        · rw [List.length_append, List.length_take_of_le (Nat.le_of_lt hn),
            Nat.add_sub_cancel' hl'.2.2.2]
          exact ⟨by decide, Nat.le_refl _⟩
      · rw [mergeStep, if_pos h, if_neg hlen]
        refine Wire_cons.mpr ⟨(validSeg_seq _).mpr ?_, hr⟩
        rw [List.length_append]
        exact ⟨Nat.le_trans hl'.2.2.1 (Nat.le_add_right _ _), Nat.le_of_not_gt hlen⟩
    · rw [mergeStep, if_neg h]
      exact Wire_cons.mpr ⟨hs, ha⟩

theorem foldl_merge_wire (a4 acc : Path) (ha : Wire acc) (h4 : Wire a4) :
    Wire (a4.foldl mergeStep acc) := by
  induction a4 generalizing acc with
  | nil => exact ha
  | cons s r ih =>
    obtain ⟨hs, hr⟩ := Wire_cons.mp h4
    exact ih _ (mergeStep_wire acc s ha hs) hr

theorem merge_wire (kept a4 : Path) (hk : Wire kept) (h4 : Wire a4) : Wire (merge kept a4) :=
  Wire_reverse.mpr (foldl_merge_wire a4 _ (Wire_reverse.mpr hk) h4)

theorem mergeStep_packed (acc : Path) (s : Seg) (hs : validSeg s = true)
    (hj : ∀ last, acc.head? = some last → last.typ = 2 → s.typ = 2 → last.as.length = 255) :
    mergeStep acc s = s :: acc := by
  cases acc with
  | nil => rfl
  | cons last rest =>
    by_cases h : s.typ = 2 ∧ last.typ = 2
    · -- `last` is full: the cut gives `last` all it has room for, nothing, and leaves `s` whole
      have h255 := hj last rfl h.2 h.1
      have hv := (validSeg_iff s).mp hs
      rw [mergeStep, if_pos h, h255, if_pos (Nat.lt_add_of_pos_right hv.2.2.1), Nat.sub_self,
        List.take_zero, List.drop_zero, List.append_nil]
      show _ = ⟨s.typ, s.as⟩ :: ⟨last.typ, last.as⟩ :: rest
      rw [h.1, h.2]
    · exact if_neg h

theorem foldl_merge_packed (q acc : Path) (hw : Wire q) (hp : Packed q)
    (hj : ∀ last s, acc.head? = some last → q.head? = some s → last.typ = 2 → s.typ = 2 →
      last.as.length = 255) :
    q.foldl mergeStep acc = q.reverse ++ acc := by
  induction q generalizing acc with
  | nil => rfl
  | cons s r ih =>
    obtain ⟨hs, hr⟩ := Wire_cons.mp hw
    rw [List.foldl, mergeStep_packed acc s hs fun last hl => hj last s hl rfl, List.reverse_cons,
      List.append_assoc]
    cases r with
    | nil => rfl
    | cons t u =>
      have hp' : (s.typ = 2 → t.typ = 2 → s.as.length = 255) ∧ Packed (t :: u) := hp
      apply ih (s :: acc) hr hp'.2
      intro last x hl hx
      cases hl; cases hx
      exact hp'.1

theorem merge_packed (kept q : Path) (hw : Wire q) (hp : Packed q)
    (hk : ∀ last, kept.getLast? = some last → last.typ ≠ 2) : merge kept q = kept ++ q := by
  rw [merge, foldl_merge_packed q kept.reverse hw hp, List.reverse_append, List.reverse_reverse,
    List.reverse_reverse]
  intro last s hl _ h2
  rw [List.head?_reverse] at hl
  exact absurd h2 (hk last hl)

theorem beBytes_length (w v : Nat) : (beBytes w v).length = w := by
  induction w generalizing v with
  | zero => rfl
  | succ n ih => rw [beBytes, List.length_append, ih]; rfl

theorem flatMap_beBytes_length (w : Nat) (as : List Nat) :
    (as.flatMap (beBytes w)).length = w * as.length := by
  induction as with
  | nil => rfl
  | cons a r ih =>
    rw [List.flatMap_cons, List.length_append, beBytes_length, ih, List.length_cons, Nat.mul_succ,
      Nat.add_comm]

theorem serSegs_length (w : Nat) (p : Path) : (serSegs w p).length = valueLen w p := by
  induction p with
  | nil => rfl
  | cons s r ih =>
    simp only [serSegs, valueLen, List.length_append, List.length_cons, List.length_nil,
      flatMap_beBytes_length, ih]

theorem two_dvd_valueLen (w : Nat) (hw : 2 ∣ w) (p : Path) : 2 ∣ valueLen w p := by
  induction p with
  | nil => exact Nat.dvd_zero 2
  | cons s r ih =>
    exact Nat.dvd_add (Nat.dvd_add (Nat.dvd_refl 2) (Nat.dvd_mul_right_of_dvd hw _)) ih

theorem validateLoop_seg (w f t n : Nat) (body d : List Nat) (ht : 1 ≤ t ∧ t ≤ 4) (hn : n ≠ 0)
    (hb : body.length = n * w) :
    validateLoop w (f + 1) (t :: n :: (body ++ d)) = validateLoop w f d := by
  have h1 : ¬(t = 0 ∨ t > 4) := not_or.mpr ⟨Nat.ne_of_gt ht.1, Nat.not_lt.mpr ht.2⟩
  have h3 : ¬(n * w > (body ++ d).length) := by
    rw [List.length_append, hb]
    exact Nat.not_lt.mpr (Nat.le_add_right _ _)
  rw [validateLoop, if_neg h1, if_neg hn, if_neg h3, ← hb, List.drop_left]

theorem validateLoop_ser (w : Nat) (p : Path) (h : Wire p) (f : Nat) (hf : valueLen w p ≤ f) :
    validateLoop w f (serSegs w p) = true := by
  induction p generalizing f with
  | nil => cases f <;> rfl
  | cons s r ih =>
    obtain ⟨hs, hr⟩ := Wire_cons.mp h
    have hv := (validSeg_iff s).mp hs
    rw [valueLen] at hf
    obtain ⟨f', rfl⟩ : ∃ f', f = f' + 1 := ⟨f - 1, by omega⟩
    -- type and count fit their octet
    rw [serSegs, Nat.mod_eq_of_lt (Nat.lt_of_le_of_lt hv.2.1 (by decide)),
      Nat.mod_eq_of_lt (Nat.lt_of_le_of_lt hv.2.2.2 (by decide))]
    exact (validateLoop_seg w f' _ _ (s.as.flatMap (beBytes w)) (serSegs w r) ⟨hv.1, hv.2.1⟩
      (Nat.ne_of_gt hv.2.2.1) ((flatMap_beBytes_length w s.as).trans (Nat.mul_comm _ _))).trans
      (ih hr f' (by omega))

theorem validateBytes_ser (w : Nat) (hw : 2 ∣ w) (p : Path) (h : Wire p) :
    validateBytes w (serSegs w p) = true := by
  have he : ¬((serSegs w p).length % 2 ≠ 0) := by
    rw [serSegs_length]
    exact not_not_intro (Nat.mod_eq_zero_of_dvd (two_dvd_valueLen w hw p))
  rw [validateBytes, if_neg he]
  exact validateLoop_ser w p h _ (Nat.le_of_eq (serSegs_length w p).symm)

/-- an attribute built by `NewPathAttributeAsPath` caches the length it serialises to -/
theorem attrLen_mkAttr (w : Nat) (p : Path) : attrLen (mkAttr w p) = serLen (mkAttr w p) := rfl

/-- the AS4_PATH component of `down`, with the test read as a proposition -/
theorem down_snd (p : Path) :
    (down p).2 = if needs4 p = true ∧ down4 p ≠ [] then some (down4 p) else none := by
  simp only [down, Bool.and_eq_true, Bool.not_eq_true', List.isEmpty_eq_false_iff]

theorem down_fst (p : Path) : (down p).1 = down2 p := rfl

theorem up_some (a a4 : Path) :
    up a (some a4) =
      if asLen a < asLen (dropConfed a4) then a
      else merge (keep (asLen a - asLen (dropConfed a4)) a) (dropConfed a4) := rfl

theorem down2_append (a b : Path) : down2 (a ++ b) = down2 a ++ down2 b :=
  List.map_append

theorem segLen_down2 (s : Seg) : segLen ⟨s.typ, s.as.map trans⟩ = segLen s := by
  simp only [segLen, List.length_map]

theorem asLen_down2 (p : Path) : asLen (down2 p) = asLen p := by
  induction p with
  | nil => rfl
  | cons s r ih =>
    show segLen _ + asLen (down2 r) = _
    rw [segLen_down2, ih, asLen]

theorem validSeg_down2 (s : Seg) : validSeg ⟨s.typ, s.as.map trans⟩ = validSeg s := by
  simp only [validSeg, List.length_map]

theorem Wire_down2 {p : Path} (h : Wire p) : Wire (down2 p) :=
  List.forall_mem_map.mpr fun s hs => (validSeg_down2 s).trans (h s hs)

theorem trans_lt (a : Nat) : trans a < 65536 := by
  unfold trans asTrans; split <;> omega

theorem down2_lt (p : Path) : ∀ s ∈ down2 p, ∀ a ∈ s.as, a < 65536 :=
  List.forall_mem_map.mpr fun _ _ => List.forall_mem_map.mpr fun a _ => trans_lt a

theorem down4_plain (p : Path) : ∀ s ∈ down4 p, isConfed s.typ = false :=
  fun _ hs => Bool.not_eq_true' _ ▸ (List.mem_filter.mp hs).2

theorem trans_id {a : Nat} (h : a ≤ 65535) : trans a = a := if_neg (Nat.not_lt.mpr h)

theorem map_trans_id {l : List Nat} (h : ∀ a ∈ l, a ≤ 65535) : l.map trans = l :=
  (List.map_congr_left fun a ha => trans_id (h a ha)).trans (List.map_id' l)

theorem needs4_eq_false {p : Path} : needs4 p = false ↔ ∀ s ∈ p, ∀ a ∈ s.as, a ≤ 65535 := by
  simp only [needs4, List.any_eq_false, Bool.not_eq_true, decide_eq_true_eq, Nat.not_lt]

theorem down2_id {p : Path} (h : ∀ s ∈ p, ∀ a ∈ s.as, a ≤ 65535) : down2 p = p :=
  (List.map_congr_left fun s hs => by rw [map_trans_id (h s hs)]).trans (List.map_id' p)

theorem confedTrans_confed {c : Path} (hc : ∀ s ∈ c, isConfed s.typ = true) :
    confedTrans c = down2 c :=
  List.map_congr_left fun s hs => if_pos (hc s hs)

theorem confedTrans_plain {q : Path} (hq : ∀ s ∈ q, isConfed s.typ = false) :
    confedTrans q = q :=
  (List.map_congr_left fun s hs => if_neg (Bool.eq_false_iff.mp (hq s hs))).trans (List.map_id' q)

theorem confedTrans_append (a b : Path) : confedTrans (a ++ b) = confedTrans a ++ confedTrans b :=
  List.map_append

/-- stated on the filter itself, which is both `down4` and `dropConfed` -/
theorem filter_confed_append (c q : Path) (hc : ∀ s ∈ c, isConfed s.typ = true)
    (hq : ∀ s ∈ q, isConfed s.typ = false) :
    (c ++ q).filter (fun s => !isConfed s.typ) = q := by
  rw [List.filter_append, List.filter_eq_nil_iff.mpr fun s hs => by rw [hc s hs]; decide,
    List.filter_eq_self.mpr fun s hs => by rw [hq s hs]; rfl]
  rfl

theorem confedTrans_run {c q : Path}
    (hc : ∀ s ∈ c, isConfed s.typ = true) (hq : ∀ s ∈ q, isConfed s.typ = false) :
    confedTrans (c ++ q) = down2 c ++ q := by
  rw [confedTrans_append, confedTrans_confed hc, confedTrans_plain hq]

/-- for an RFC-valid path `c ++ q` the reconstruction is: the confederation run as sent, then the
merge loop over the AS4_PATH (= `q`) — or, when no AS4_PATH was sent, the AS_PATH as sent -/
theorem up_down_eq (c q : Path)
    (hc : ∀ s ∈ c, isConfed s.typ = true) (hq : ∀ s ∈ q, isConfed s.typ = false)
    (hw : Wire q) :
    up (down (c ++ q)).1 (down (c ++ q)).2 =
      if needs4 (c ++ q) = true ∧ q ≠ [] then merge (down2 c) q else down2 c ++ q := by
  have hd4 : down4 (c ++ q) = q := filter_confed_append c q hc hq
  rw [down_fst, down_snd, hd4, down2_append]
  split
  · -- the AS4_PATH counts as many ASes as the AS_PATH, so the walk keeps what counts 0 in front
    have hc0 : ∀ s ∈ down2 c, segLen s = 0 :=
      List.forall_mem_map.mpr fun s hs => (segLen_down2 s).trans (confed_segLen (hc s hs))
    have hq0 : ∀ s ∈ down2 q, segLen s ≠ 0 :=
      List.forall_mem_map.mpr fun s hs => (segLen_down2 s).symm ▸ plain_segLen (hq s hs) (hw s hs)
    have hlen : asLen (down2 c ++ down2 q) = asLen q := by
      rw [asLen_append, asLen_eq_zero hc0, Nat.zero_add, asLen_down2]
    have hdc : dropConfed q = q := filter_confed_append [] q nofun hq
    rw [up_some, hdc, hlen, if_neg (Nat.lt_irrefl _), Nat.sub_self, keep_zero_run _ _ hc0 hq0]
  · -- no AS4_PATH: `q` has no segment, or no member at all exceeds 65535
    next hn =>
    show down2 c ++ down2 q = _
    rw [down2_id fun t ht => needs4_eq_false.mp
      (Bool.eq_false_iff.mpr fun h4 => hn ⟨h4, List.ne_nil_of_mem ht⟩) t (List.mem_append_right c ht)]

end As4
