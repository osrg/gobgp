/-
  C17: updates toward the RTC peer deferred for a while (needToAdvertise false), the deferred table
  transfer, and RT-membership prefixes over their length domain.
-/
import Lemmas.VrfRtcView
namespace VrfRtc
open ViewAux

theorem interested_nil (ecs : List EC) : interested [] ecs = false := by
  simp [interested, Rtm.has]

theorem viewOK_nil (t : Tbl) (v : View) : ViewOK t [] v ↔ ∀ n, v n = none := by
  have hexp : ∀ n, expect [] (t.best n) = none := fun n => by
    cases t.best n <;> simp [expect, interested_nil]
  exact ⟨fun hv n => (hv n).trans (hexp n), fun hv n => (hv n).trans (hexp n).symm⟩

theorem catchUp_view (t : Tbl) (s : Rtm) (h : TblWF t) :
    ViewOK t s (View.apply (fun _ => none) (catchUp t s)) := by
  have hmem : ∀ x, x ∈ catchUp t s ↔
      ∃ b, t.best b.nlri = some b ∧ interested s b.ecs = true ∧ x = Msg.adv b.nlri b.marker := by
    intro x
    unfold catchUp
    simp only [mem_flatMap_rtcFilter, mem_bests h]
  refine viewOK_batch t [] s _ _ h ((viewOK_nil t _).2 fun _ => rfl) ?_ ?_
  · intro x hx
    obtain ⟨b, hb, hi, rfl⟩ := (hmem x).1 hx
    exact ⟨b, hb, rfl, (expect_pos hi).symm⟩
  · intro b hb hne
    have hi : interested s b.ecs = true := by
      cases hi : interested s b.ecs
      · exact absurd (hi.trans (interested_nil _).symm) hne
      · rfl
    exact ⟨_, (hmem _).2 ⟨b, hb, hi, rfl⟩, rfl⟩

theorem sysS_inv (x : SysS) (h : SysSReach x) :
    Reach x.t ∧ (if x.sup then (∀ n, x.v n = none) else ViewOK x.t x.s x.v) := by
  induction h with
  | init => exact ⟨Reach.empty, fun n => rfl⟩
  | step x e hx hf ih =>
    obtain ⟨t, s, v, sup⟩ := x
    obtain ⟨hr, hv⟩ := ih
    have hwf := reach_inv t hr
    cases sup with
    | true =>
      have hv' : ∀ n, v n = none := hv
      cases e with
      | upd p wd => exact ⟨Reach.step t p wd hr (fun hw => hf p (by rw [hw])), hv'⟩
      | mem m wd => exact ⟨hr, hv'⟩
      | restart => exact ⟨hr, fun n => rfl⟩
      | resume =>
        refine ⟨hr, ?_⟩
        show ViewOK t s (v.apply (catchUp t s))
        rw [funext hv']
        exact catchUp_view t s hwf.1
    | false =>
      have hv' : ViewOK t s v := hv
      cases e with
      | upd p wd =>
        have hfr : wd = false → Fresh t p := fun hw => hf p (by rw [hw])
        exact ⟨Reach.step t p wd hr hfr, rtc_table_step t s v p wd hwf.1 hfr hv'⟩
      | mem m wd => exact ⟨hr, rtc_member_step t s v m wd hwf.1 hwf.2 hv'⟩
      | restart => exact ⟨hr, fun n => rfl⟩
      | resume => exact ⟨hr, hv'⟩

namespace SupAux

theorem has_map_toMem (ms : List MemL) (k : Nat) :
    Rtm.has (ms.map MemL.toMem) k = true ↔ ∃ m, m ∈ ms ∧ m.toMem.rt = k := by
  simp only [Rtm.has, List.any_map, List.any_eq_true, Function.comp, beq_iff_eq]

theorem wantsRFC_iff (ms : List MemL) (ecs : List EC) :
    wantsRFC ms ecs = true ↔
      (∃ m, m ∈ ms ∧ m.len ≤ 32) ∨ ∃ k, k ∈ keys ecs ∧ ∃ m, m ∈ ms ∧ m.covers k = true := by
  simp only [wantsRFC, Bool.or_eq_true, List.any_eq_true, decide_eq_true_eq]

/-- `m.rt ≠ 0`: a full-length membership for the all-zero route target is kept under the wildcard key too -/
theorem toMem_rt_eq_zero (m : MemL) (h : m.len ≤ 32 ∨ (m.len = 96 ∧ m.rt ≠ 0)) :
    m.toMem.rt = 0 ↔ m.len ≤ 32 := by
  rcases h with h | ⟨h, h0⟩
  · simp [MemL.toMem, h]
  · simp [MemL.toMem, h, h0]

theorem covers_iff (m : MemL) (k : Nat) (h : m.len ≤ 32 ∨ (m.len = 96 ∧ m.rt ≠ 0)) :
    m.covers k = true ↔ m.len ≤ 32 ∨ m.toMem.rt = k := by
  rcases h with h | ⟨h, _⟩
  · simp [MemL.covers, h]
  · simp [MemL.covers, MemL.toMem, h]
    exact eq_comm

end SupAux
end VrfRtc
