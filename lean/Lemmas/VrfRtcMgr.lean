/-
  C17: the RT memberships the speaker originates for its VRFs (Model/VrfRtcMgr.lean).  After any
  sequence of VRF adds, VRF deletes and memberships received from neighbours, VRF names are distinct
  and a local membership path stands in the destination of an RT iff some VRF imports it (`MgrAux.Inv`,
  `MgrAux.inv_run`).
-/
import Model.VrfRtcMgr
namespace VrfRtc

/-- neighbours never use source id 0 (that is this speaker) -/
def RecvOK : List MOp → Prop
  | [] => True
  | .recv _ p _ :: r => p.src ≠ 0 ∧ RecvOK r
  | _ :: r => RecvOK r

namespace MgrAux

theorem scanLocal_iff (l : List RPath) : scanLocal l = true ↔ ∃ p, p ∈ l ∧ p.src = 0 := by
  induction l with
  | nil => simp [scanLocal]
  | cons q r ih =>
    simp only [List.mem_cons, or_and_right, exists_or, exists_eq_left, ← ih, scanLocal]
    by_cases h : q.src = 0 <;> simp [h]

theorem mem_rInsert (l : List RPath) (p x : RPath) : x ∈ rInsert l p ↔ x = p ∨ x ∈ l := by
  induction l with
  | nil => simp [rInsert]
  | cons q r ih =>
    unfold rInsert
    split
    · exact List.mem_cons
    · simp only [List.mem_cons, ih]
      exact or_left_comm

theorem mem_rRemove (l : List RPath) (s : Nat) (x : RPath) : x ∈ rRemove l s ↔ x ∈ l ∧ x.src ≠ s := by
  simp only [rRemove, List.mem_filter, bne_iff_ne, ne_eq]

theorem mem_rUpdate (l : List RPath) (p : RPath) (wd : Bool) (x : RPath) :
    x ∈ rUpdate l p wd ↔ (wd = false ∧ x = p) ∨ (x ∈ l ∧ x.src ≠ p.src) := by
  cases wd <;> simp [rUpdate, mem_rRemove, mem_rInsert]

theorem scanLocal_rUpdate (l : List RPath) (p : RPath) (wd : Bool) :
    scanLocal (rUpdate l p wd) = if p.src = 0 then !wd else scanLocal l := by
  rw [Bool.eq_iff_iff, scanLocal_iff]
  simp only [mem_rUpdate]
  by_cases h0 : p.src = 0
  · rw [if_pos h0]
    constructor
    · rintro ⟨x, ⟨hw, rfl⟩ | ⟨_, hne⟩, hx⟩
      · simp [hw]
      · exact absurd (hx.trans h0.symm) hne
    · intro hw
      exact ⟨p, Or.inl ⟨by simpa using hw, rfl⟩, h0⟩
  · rw [if_neg h0, scanLocal_iff]
    constructor
    · rintro ⟨x, ⟨_, rfl⟩ | ⟨hx, _⟩, h⟩
      · exact absurd h h0
      · exact ⟨x, hx, h⟩
    · rintro ⟨x, hx, h⟩
      exact ⟨x, Or.inr ⟨hx, fun e => h0 (e ▸ h)⟩, h⟩

theorem scanLocal_localUpdate (ks : List Nat) (wd : Bool) (rtc : Nat → List RPath) (x : Nat) :
    scanLocal (localUpdate rtc ks wd x) = if x ∈ ks then !wd else scanLocal (rtc x) := by
  induction ks generalizing rtc with
  | nil => rfl
  | cons k ks ih =>
    rw [localUpdate, List.foldl_cons, ← localUpdate, ih]
    by_cases hk : x = k
    · simp [hk, scanLocal_rUpdate]
    · simp [hk]

theorem isLastTargetUser_iff (rest : List Vrf) (k : Nat) :
    isLastTargetUser rest k = true ↔ ∀ w, w ∈ rest → k ∉ w.imports := by
  simp only [isLastTargetUser, List.contains_eq_mem, List.all_eq_true, Bool.not_eq_eq_eq_not, Bool.not_true,
    decide_eq_false_iff_not]

theorem mem_delVrfRtm (v : Vrf) (rest : List Vrf) (k : Nat) :
    k ∈ delVrfRtm v rest ↔ k ∈ v.imports ∧ ∀ w, w ∈ rest → k ∉ w.imports := by
  simp only [delVrfRtm, List.mem_filter, List.mem_eraseDups, isLastTargetUser_iff]

def Inv (m : Mgr) : Prop :=
  m.vrfs.Pairwise (fun a b => a.name ≠ b.name) ∧
    ∀ k, scanLocal (m.rtc k) = true ↔ ∃ v, v ∈ m.vrfs ∧ k ∈ v.imports

theorem inv_empty : Inv Mgr.empty :=
  ⟨List.Pairwise.nil, fun k => by simp [Mgr.empty, scanLocal]⟩

theorem inv_add (m : Mgr) (v : Vrf) (hi : Inv m) : Inv (m.addVrf v) := by
  unfold Mgr.addVrf
  split
  · exact hi
  · rename_i hany
    refine ⟨List.pairwise_cons.2 ⟨fun w hw e => hany ?_, hi.1⟩, fun k => ?_⟩
    · exact List.any_eq_true.2 ⟨w, hw, by simp [e]⟩
    · simp only [scanLocal_localUpdate, addVrfRtm, List.mem_cons, or_and_right, exists_or, exists_eq_left, ← hi.2 k]
      by_cases hk : k ∈ v.imports <;> simp [hk]

theorem find?_name (l : List Vrf) (hp : l.Pairwise (fun a b => a.name ≠ b.name)) (v : Vrf) (hv : v ∈ l) :
    l.find? (fun w => w.name == v.name) = some v := by
  induction l with
  | nil => cases hv
  | cons c r ih =>
    rw [List.pairwise_cons] at hp
    rw [List.find?_cons]
    rcases List.mem_cons.1 hv with rfl | hv
    · simp
    · have : (c.name == v.name) = false := by simpa using hp.1 v hv
      rw [this]
      exact ih hp.2 hv

/-- the keys a delete withdraws; the test for a local path is no restriction, since `v` imports `k` -/
theorem mem_ws (m : Mgr) (hi : Inv m) (v : Vrf) (hv : v ∈ m.vrfs) (rest : List Vrf) (k : Nat) :
    k ∈ (delVrfRtm v rest).filter (fun k => scanLocal (m.rtc k)) ↔
      (k ∈ v.imports ∧ ∀ w, w ∈ rest → k ∉ w.imports) := by
  rw [List.mem_filter, mem_delVrfRtm]
  exact ⟨fun h => h.1, fun h => ⟨h, (hi.2 k).2 ⟨v, hv, h.1⟩⟩⟩

theorem inv_del (m : Mgr) (name : Nat) (hi : Inv m) : Inv (m.delVrf name).1 := by
  unfold Mgr.delVrf
  cases hf : m.vrfs.find? (fun w => w.name == name) with
  | none => exact hi
  | some v =>
    have hv : v ∈ m.vrfs := List.mem_of_find?_eq_some hf
    refine ⟨List.Pairwise.filter _ hi.1, fun k => ?_⟩
    dsimp only
    rw [scanLocal_localUpdate]
    split
    · rename_i hk
      have hk' := ((mem_ws m hi v hv _ k).1 hk).2
      simp only [Bool.not_true, Bool.false_eq_true, false_iff]
      exact fun ⟨w, hw, hkw⟩ => hk' w hw hkw
    · rename_i hk
      rw [hi.2 k]
      constructor
      · rintro ⟨w, hw, hkw⟩
        by_cases hwn : w.name = name
        · have hfw := find?_name _ hi.1 w hw
          rw [hwn, hf] at hfw
          obtain rfl : v = w := Option.some.inj hfw
          -- `k` is imported by the deleted VRF and not withdrawn: another VRF imports it
          apply Classical.byContradiction
          intro hne
          exact hk ((mem_ws m hi v hv _ k).2 ⟨hkw, fun u hu hku => hne ⟨u, hu, hku⟩⟩)
        · exact ⟨w, List.mem_filter.2 ⟨hw, by simpa using hwn⟩, hkw⟩
      · rintro ⟨w, hw, hkw⟩
        exact ⟨w, (List.mem_filter.1 hw).1, hkw⟩

theorem inv_recv (m : Mgr) (k : Nat) (p : RPath) (wd : Bool) (hp : p.src ≠ 0) (hi : Inv m) :
    Inv (m.recv k p wd) := by
  refine ⟨hi.1, fun x => ?_⟩
  show scanLocal (if x = k then rUpdate (m.rtc k) p wd else m.rtc x) = true ↔ ∃ v, v ∈ m.vrfs ∧ x ∈ v.imports
  rw [← hi.2 x]
  split
  · rename_i hx
    rw [scanLocal_rUpdate, if_neg hp, hx]
  · exact Iff.rfl

theorem inv_foldl (ops : List MOp) (m : Mgr) (hi : Inv m) (hr : RecvOK ops) : Inv (ops.foldl Mgr.step m) := by
  induction ops generalizing m with
  | nil => exact hi
  | cons o r ih =>
    cases o with
    | add v => exact ih _ (inv_add m v hi) hr
    | del n => exact ih _ (inv_del m n hi) hr
    | recv k p wd => exact ih _ (inv_recv m k p wd hr.1 hi) hr.2

theorem inv_run (ops : List MOp) (h : RecvOK ops) : Inv (Mgr.run ops) :=
  inv_foldl ops Mgr.empty inv_empty h

end MgrAux
end VrfRtc
