/-
  Lemmas for C15, export side: with an export policy folded into the export decision,
  (1) the incremental fan-out keeps `held = want` as long as the policy does not change
      (C01's delta_correct with policy), (2) under ANY sequence of policy changes it keeps a weak
      invariant, and (3) one soft reset out / route refresh step restores `held = want` for the
      current policy from any state satisfying the weak invariant.
-/
import Model.SoftReset
import Lemmas.World
namespace SoftReset
open BestPath World

/-! ### what the policy interpreter reads and writes -/

/-- the attributes the modelled policies read or write, plus what the view shows -/
abbrev PView := Nat × Option Nat × Option Nat × List Nat × Bool × List Seg × Nat

def pview (c : Cand) : PView :=
  (c.marker, c.med, c.localPref, c.comms, c.stale, c.segs, c.pfx)

def modifyV (s : Stmt) : PView → PView
  | (marker, med, lp, comms, rest) =>
    (marker, (match s.setMed with | some v => some v | none => med),
      (match s.setLp with | some v => some v | none => lp),
      (match s.addComm with | some c => comms ++ [c] | none => comms), rest)

def prePolicyV (g : Global) (t : PeerCfg) : PView → PView
  | (marker, med, lp, comms, stale, segs, pfx) =>
    if t.isIBGP g then (marker, med, some (lp.getD 100), comms, stale, segs, pfx)
    else (marker, none, lp, comms, stale, removeConfed (prependAS g.as segs), pfx)

theorem pview_modify (s : Stmt) (r : Cand) : pview (s.modify r) = modifyV s (pview r) := by
  unfold Stmt.modify modifyV
  cases s.addComm <;> cases s.setMed <;> cases s.setLp <;> rfl

theorem pview_prePolicy (g : Global) (t : PeerCfg) (r : Cand) :
    pview (prePolicy g t r) = prePolicyV g t (pview r) := by
  unfold prePolicy prePolicyV pview
  split <;> rfl

theorem matches_congr (s : Stmt) (i : Nat) (a b : Cand) (h : pview a = pview b) :
    s.matches i a = s.matches i b := by
  simp only [pview, Prod.mk.injEq] at h
  unfold Stmt.matches asPathLen; rw [h.2.1, h.2.2.1, h.2.2.2.1, h.2.2.2.2.2.1, h.2.2.2.2.2.2]

/-- the outcome, as far as policies and the view can see it, depends on `pview` only -/
theorem evalStmts_pview (d : Bool) (i : Nat) (ss : List Stmt) :
    ∀ (a b : Cand), pview a = pview b →
      (evalStmts d i ss a).map pview = (evalStmts d i ss b).map pview := by
  induction ss with
  | nil => intro a b h; unfold evalStmts; cases d <;> simp [h]
  | cons s rest ih =>
    intro a b h
    have hm : pview (s.modify a) = pview (s.modify b) := by rw [pview_modify, pview_modify, h]
    unfold evalStmts
    rw [matches_congr s i a b h]
    cases s.matches i b with
    | false => simpa using ih a b h
    | true =>
      simp only [if_true]
      by_cases h1 : s.route = 1
      · simp [h1, hm]
      · by_cases h2 : s.route = 2
        · simp [h2]
        · simp only [h1, h2, if_false]
          exact ih _ _ hm

/-- what the peer should hold when `b` is the best path: the export of `b` under policy `e` -/
def wantRP (g : Global) (e : Pol) (t : PeerCfg) (b : Cand) : Option Held :=
  if b.nhInvalid then none
  else if exportable g t b then
    match applyPol e t.idx (prePolicy g t b) with
    | some r' => if !t.llgr && r'.stale then none else some (heldOf g t r')
    | none => none
  else none

def wantOfP (g : Global) (e : Pol) (t : PeerCfg) (l : List Cand) : Option Held :=
  match l.head? with
  | none => none
  | some b => wantRP g e t b

theorem wantRP_invalid (g : Global) (e : Pol) (t : PeerCfg) (b : Cand)
    (h : b.nhInvalid = true) : wantRP g e t b = none := by
  unfold wantRP; simp [h]

theorem wantRP_not_exportable (g : Global) (e : Pol) (t : PeerCfg) (b : Cand)
    (h : exportable g t b = false) : wantRP g e t b = none := by
  unfold wantRP; simp [h]

theorem wantRP_reject (g : Global) (e : Pol) (t : PeerCfg) (b : Cand)
    (h : applyPol e t.idx (prePolicy g t b) = none) : wantRP g e t b = none := by
  unfold wantRP; simp [h]

theorem wantRP_accept (g : Global) (e : Pol) (t : PeerCfg) (b r' : Cand)
    (hb : b.nhInvalid = false) (hx : exportable g t b = true)
    (h : applyPol e t.idx (prePolicy g t b) = some r') :
    wantRP g e t b = if !t.llgr && r'.stale then none else some (heldOf g t r') := by
  unfold wantRP; simp [hb, hx, h]

theorem wantRP_not_accepted (g : Global) (e : Pol) (t : PeerCfg) (o : Cand)
    (h : (exportable g t o && (applyPol e t.idx (prePolicy g t o)).isSome) = false) :
    wantRP g e t o = none := by
  cases hx : exportable g t o with
  | false => exact wantRP_not_exportable g e t o hx
  | true =>
    cases hp : applyPol e t.idx (prePolicy g t o) with
    | none => exact wantRP_reject g e t o hp
    | some x => simp [hx, hp] at h

theorem wantOfP_unreachable (g : Global) (e : Pol) (t : PeerCfg) (l : List Cand)
    (hu : ∀ b, l.head? = some b → b.nhInvalid = true) : wantOfP g e t l = none := by
  unfold wantOfP
  cases hl : l.head? with
  | none => rfl
  | some b => exact wantRP_invalid g e t b (hu b hl)

theorem heldOf_pview (g : Global) (t : PeerCfg) (a b : Cand) (h : pview a = pview b) :
    heldOf g t a = heldOf g t b := by
  simp only [pview, Prod.mk.injEq] at h
  unfold heldOf; rw [h.1, h.2.1, h.2.2.1, h.2.2.2.1]

theorem wantRP_congr (g : Global) (e : Pol) (t : PeerCfg) (a b : Cand)
    (hv : pview a = pview b) (hn : a.nhInvalid = b.nhInvalid)
    (hx : exportable g t a = exportable g t b) : wantRP g e t a = wantRP g e t b := by
  unfold wantRP
  rw [hn, hx]
  have hp := evalStmts_pview e.dfltAccept t.idx e.stmts (prePolicy g t a) (prePolicy g t b)
    (by rw [pview_prePolicy, pview_prePolicy, hv])
  unfold applyPol
  cases ha : evalStmts e.dfltAccept t.idx e.stmts (prePolicy g t a) with
  | none =>
    cases hb : evalStmts e.dfltAccept t.idx e.stmts (prePolicy g t b) with
    | none => rfl
    | some y => simp [ha, hb] at hp
  | some x =>
    cases hb : evalStmts e.dfltAccept t.idx e.stmts (prePolicy g t b) with
    | none => simp [ha, hb] at hp
    | some y =>
      simp only [ha, hb, Option.map_some, Option.some.injEq] at hp
      have hs : x.stale = y.stale := by
        simp only [pview, Prod.mk.injEq] at hp; exact hp.2.2.2.2.1
      simp only [hs, heldOf_pview g t x y hp]

theorem pathEqual_pview (a b : Cand) (h : pathEqual a b = true) (hp : a.pfx = b.pfx) :
    pview a = pview b := by
  simp only [pathEqual, Bool.and_eq_true, beq_iff_eq] at h
  simp only [pview, Prod.mk.injEq]
  exact ⟨h.1.1.1.1.2, h.1.1.1.1.1.2, h.1.1.1.1.1.1.1.1.2, h.1.2, h.2, h.1.1.1.1.1.1.1.2, hp⟩

theorem exportable_pathEqual (g : Global) (t : PeerCfg) (a b : Cand) (h : pathEqual a b = true)
    (hsrc : a.src.equal b.src = true → a.src = b.src) : exportable g t a = exportable g t b := by
  obtain ⟨f1, _, f3, _⟩ := pathEqual_fields a b h
  exact exportable_congr g t a b (hsrc (pathEqual_src a b h)) f3 f1

/-! ### sFilterpathP in terms of the core verdict -/

/-- an announcement that passed loop prevention unchanged: policy, old re-evaluation, post -/
def afterCore (g : Global) (e : Pol) (t : PeerCfg) (b : Cand) (old : Option Cand) : Option P :=
  match applyPol e t.idx (prePolicy g t b) with
  | some r' => some ⟨r', !t.llgr && r'.stale⟩
  | none =>
    match old with
    | some o =>
      if exportable g t o && (applyPol e t.idx (prePolicy g t o)).isSome then some ⟨o, true⟩ else none
    | none => none

theorem sFilterpathP_ann (g : Global) (e : Pol) (t : PeerCfg) (b : Cand) (old : Option Cand)
    (h : filterpathCore g t ⟨b, false⟩ old = some ⟨b, false⟩) :
    sFilterpathP g e t ⟨b, false⟩ old = afterCore g e t b old := by
  unfold sFilterpathP afterCore exportable
  simp only [h]
  cases applyPol e t.idx (prePolicy g t b) with
  | some r' => cases hs : (!t.llgr && r'.stale) <;> simp [hs]
  | none =>
    cases old with
    | none => simp
    | some o =>
      cases hv : ((filterpathCore g t ⟨o, false⟩ none).isSome &&
          (applyPol e t.idx (prePolicy g t o)).isSome) <;> simp [hv]

theorem sFilterpathP_wd (g : Global) (e : Pol) (t : PeerCfg) (path : P) (old : Option Cand) (r : Cand)
    (h : filterpathCore g t path old = some ⟨r, true⟩) :
    sFilterpathP g e t path old = some ⟨r, true⟩ := by
  unfold sFilterpathP; simp [h]

theorem sFilterpathP_none (g : Global) (e : Pol) (t : PeerCfg) (path : P) (old : Option Cand)
    (h : filterpathCore g t path old = none) : sFilterpathP g e t path old = none := by
  unfold sFilterpathP; simp [h]

theorem sfilterP_wd_eq (g : Global) (e : Pol) (t : PeerCfg) (x : Cand) (old : Option Cand) :
    sFilterpathP g e t ⟨x, true⟩ old = if exportable g t x then some ⟨x, true⟩ else none := by
  unfold sFilterpathP
  rw [core_wd_eq]
  cases exportable g t x <;> rfl

/-- the from-scratch export of a reachable best path (`old = nil`: initial transfer, soft reset
    out) against the specification: an announcement of what the peer should hold, or a withdraw
    of an LLGR-stale route, or nothing, and in the last two cases the peer should hold nothing -/
theorem first_export (g : Global) (e : Pol) (t : PeerCfg) (b : Cand) (hb : b.nhInvalid = false) :
    (∃ r', sFilterpathP g e t ⟨b, false⟩ none = some ⟨r', false⟩ ∧
        wantRP g e t b = some (heldOf g t r')) ∨
      (∃ r', sFilterpathP g e t ⟨b, false⟩ none = some ⟨r', true⟩ ∧ r'.stale = true ∧
        wantRP g e t b = none) ∨
      (sFilterpathP g e t ⟨b, false⟩ none = none ∧ wantRP g e t b = none) := by
  have hc := core_none_eq g t b
  cases hx : exportable g t b with
  | false =>
    rw [hx] at hc
    exact .inr (.inr ⟨sFilterpathP_none g e t _ _ hc, wantRP_not_exportable g e t b hx⟩)
  | true =>
    rw [hx] at hc
    rw [sFilterpathP_ann g e t b none hc]
    unfold afterCore
    cases hp : applyPol e t.idx (prePolicy g t b) with
    | none => exact .inr (.inr ⟨rfl, wantRP_reject g e t b hp⟩)
    | some r' =>
      rw [wantRP_accept g e t b r' hb hx hp]
      simp only
      cases hs : (!t.llgr && r'.stale) with
      | false => exact .inl ⟨r', rfl, rfl⟩
      | true => exact .inr (.inl ⟨r', rfl, ((Bool.and_eq_true _ _).mp hs).2, rfl⟩)

/-- an announcement of a reachable `b` filtered together with the old best: either the peer ends
    up with the export of `b`; or nothing is sent, `b` has no export, and the old best has none
    either — because loop prevention refuses it, or because it passes `b`, so that the policy
    was asked about the old best and rejected it too -/
theorem announce_held (g : Global) (e : Pol) (t : PeerCfg) (b : Cand) (old : Option Cand)
    (h : Option Held) (hb : b.nhInvalid = false) (hrs : t.isRSClient = false)
    (wf : ∀ o, old = some o → FromPeerWF g t o) :
    heldApplyP g t h (sFilterpathP g e t ⟨b, false⟩ old) = wantRP g e t b ∨
      (heldApplyP g t h (sFilterpathP g e t ⟨b, false⟩ old) = h ∧ wantRP g e t b = none ∧
        ∀ o, old = some o → wantRP g e t o = none ∧
          (exportable g t b = true ∨ exportable g t o = false)) := by
  rcases Bool.eq_false_or_eq_true (exportable g t b) with hx | hx
  · rw [sFilterpathP_ann g e t b old (core_of_exportable ⟨b, false⟩ old hx)]
    unfold afterCore
    cases hp : applyPol e t.idx (prePolicy g t b) with
    | some r' => rw [wantRP_accept g e t b r' hb hx hp]; exact .inl rfl
    | none =>
      have hw := wantRP_reject g e t b hp
      cases old with
      | none => exact .inr ⟨rfl, hw, fun o ho => nomatch ho⟩
      | some o =>
        simp only
        cases hv : (exportable g t o && (applyPol e t.idx (prePolicy g t o)).isSome) with
        | true => exact .inl hw.symm
        | false =>
          refine .inr ⟨rfl, hw, ?_⟩
          intro o' ho'
          cases ho'
          exact ⟨wantRP_not_accepted g e t o hv, .inl hx⟩
  · rw [wantRP_not_exportable g e t b hx]
    cases old with
    | none =>
      rw [sFilterpathP_none g e t _ _ (by rw [core_none_eq, hx]; rfl)]
      exact .inr ⟨rfl, rfl, fun o ho => nomatch ho⟩
    | some o =>
      rcases Bool.eq_false_or_eq_true (exportable g t o) with ho | ho
      · rw [sFilterpathP_wd g e t _ _ o (core_of_old_exportable hrs (wf o rfl) ho hx)]
        exact .inl rfl
      · rcases core_of_not_exportable ⟨b, false⟩ (some o) hx with hc | hc
        · rw [sFilterpathP_none g e t _ _ hc]
          refine .inr ⟨rfl, rfl, ?_⟩
          intro o' ho'
          cases ho'
          exact ⟨wantRP_not_exportable g e t o ho, .inr ho⟩
        · rw [sFilterpathP_wd g e t _ _ o hc]
          exact .inl rfl

/-- what the fan-out hands to the filters for one destination change, in four shapes -/
theorem deltaForP_cases (g : Global) (e : Pol) (t : PeerCfg) (oldL newL : List Cand) :
    -- nothing: there was and is no reachable best path
    (deltaForP g e t oldL newL = none ∧ (∀ o, oldL.head? = some o → o.nhInvalid = true) ∧
        ∀ b, newL.head? = some b → b.nhInvalid = true) ∨
      -- nothing: the reachable best path is the same
      (∃ b o, deltaForP g e t oldL newL = none ∧ newL.head? = some b ∧ oldL.head? = some o ∧
        pathEqual b o = true ∧ b.nhInvalid = false ∧ o.nhInvalid = false) ∨
      -- the reachable new best, together with the old best
      (∃ b, newL.head? = some b ∧ b.nhInvalid = false ∧
        deltaForP g e t oldL newL = sFilterpathP g e t ⟨b, false⟩ oldL.head?) ∨
      -- no reachable new best: a withdraw of the reachable old best `o`, or of the new best when
      -- that is the same path
      (∃ o x, oldL.head? = some o ∧ o.nhInvalid = false ∧
        (∀ b, newL.head? = some b → b.nhInvalid = true) ∧
        deltaForP g e t oldL newL = sFilterpathP g e t ⟨x, true⟩ (some o) ∧
        (x = o ∨ (newL.head? = some x ∧ pathEqual x o = true))) := by
  unfold deltaForP getChanges
  -- the leaves are closed by `rfl`, which must not look into the filter
  generalize sFilterpathP g e t = f
  have head : ∀ (c : Cand) (v : Bool), c.nhInvalid = v → ∀ c', some c = some c' → c'.nhInvalid = v := by
    intro c v hv c' h; cases h; exact hv
  have nohead : ∀ c : Cand, none = some c → c.nhInvalid = true := fun _ h => nomatch h
  cases newL.head? with
  | none =>
    cases oldL.head? with
    | none => exact .inl ⟨rfl, nohead, nohead⟩
    | some o =>
      dsimp only
      cases hoi : o.nhInvalid with
      | true => exact .inl ⟨rfl, head o _ hoi, nohead⟩
      | false => exact .inr (.inr (.inr ⟨o, o, rfl, hoi, nohead, rfl, .inl rfl⟩))
  | some b =>
    cases oldL.head? with
    | none =>
      dsimp only
      cases hbi : b.nhInvalid with
      | true => exact .inl ⟨rfl, nohead, head b _ hbi⟩
      | false => exact .inr (.inr (.inl ⟨b, rfl, hbi, rfl⟩))
    | some o =>
      dsimp only
      cases heq : pathEqual b o <;> cases hbi : b.nhInvalid <;> cases hoi : o.nhInvalid
      · exact .inr (.inr (.inl ⟨b, rfl, hbi, rfl⟩))
      · exact .inr (.inr (.inl ⟨b, rfl, hbi, rfl⟩))
      · exact .inr (.inr (.inr ⟨o, o, rfl, hoi, head b _ hbi, rfl, .inl rfl⟩))
      · exact .inl ⟨rfl, head o _ hoi, head b _ hbi⟩
      · exact .inr (.inl ⟨b, o, rfl, rfl, rfl, heq, hbi, hoi⟩)
      · exact .inr (.inr (.inl ⟨b, rfl, hbi, rfl⟩))
      · exact .inr (.inr (.inr ⟨o, b, rfl, hoi, head b _ hbi, rfl, .inr ⟨rfl, heq⟩⟩))
      · exact .inl ⟨rfl, head o _ hoi, head b _ hbi⟩

/-! ### the weak invariant that survives policy changes -/

/-- whatever the peer holds for the destination, the current best path is reachable and passes
    loop prevention toward the peer.  (Under a fixed policy `held = want` implies it; after a
    policy change `held` may be the export of an OLDER best path or of the current one under
    the older policy — this is all that is left, and all a soft reset needs.) -/
def WeakInv (g : Global) (t : PeerCfg) (l : List Cand) (h : Option Held) : Prop :=
  h ≠ none → ∃ b, l.head? = some b ∧ b.nhInvalid = false ∧ exportable g t b = true

theorem weakInv_none (g : Global) (t : PeerCfg) (l : List Cand) : WeakInv g t l none := by
  intro h; exact absurd rfl h

theorem weak_of_want (g : Global) (e : Pol) (t : PeerCfg) (l : List Cand) :
    WeakInv g t l (wantOfP g e t l) := by
  unfold WeakInv wantOfP
  cases hl : l.head? with
  | none => simp
  | some b =>
    simp only
    intro hne
    refine ⟨b, rfl, ?_, ?_⟩
    · cases hb : b.nhInvalid with
      | false => rfl
      | true => exact absurd (wantRP_invalid g e t b hb) hne
    · cases hx : exportable g t b with
      | true => rfl
      | false => exact absurd (wantRP_not_exportable g e t b hx) hne

theorem weak_none (g : Global) (t : PeerCfg) (l : List Cand) (h : Option Held)
    (inv : WeakInv g t l h)
    (hu : ∀ b, l.head? = some b → b.nhInvalid = false → exportable g t b = false) : h = none := by
  cases hh : h with
  | none => rfl
  | some x =>
    obtain ⟨b, hb, hv, hx⟩ := inv (by simp [hh])
    rw [hu b hb hv] at hx
    cases hx

theorem weak_unreachable (g : Global) (t : PeerCfg) (l : List Cand) (h : Option Held)
    (inv : WeakInv g t l h)
    (hu : ∀ b, l.head? = some b → b.nhInvalid = true) : h = none :=
  weak_none g t l h inv (fun b hb hv => by rw [hu b hb] at hv; cases hv)

/-- a withdraw handed to the filters leaves nothing held, provided the withdrawn route gets the
    loop-prevention verdict of the best path the weak invariant speaks about -/
theorem withdraw_held (g : Global) (e : Pol) (t : PeerCfg) (l : List Cand) (o x : Cand)
    (old : Option Cand) (h : Option Held) (ho : l.head? = some o) (inv : WeakInv g t l h)
    (hex : exportable g t x = exportable g t o) :
    heldApplyP g t h (sFilterpathP g e t ⟨x, true⟩ old) = none := by
  rw [sfilterP_wd_eq, hex]
  cases hx : exportable g t o with
  | true => rfl
  | false =>
    refine weak_none g t l h inv ?_
    intro b hb _
    rw [ho] at hb
    cases hb
    exact hx

/-- **one destination change, one peer**, whatever export policy is in force and whatever the peer
    holds under the weak invariant: afterwards the peer holds the export of the new best path; or
    nothing was sent, the weak invariant holds of the new list, and — provided both best paths
    are for the same prefix — the export has not changed either -/
theorem fanout_step (g : Global) (e : Pol) (t : PeerCfg) (hrs : t.isRSClient = false)
    (oldL newL : List Cand) (h : Option Held)
    (wfO : ∀ o, oldL.head? = some o → FromPeerWF g t o)
    (wfEq : ∀ b o, newL.head? = some b → oldL.head? = some o →
      b.src.equal o.src = true → b.src = o.src)
    (inv : WeakInv g t oldL h) :
    heldApplyP g t h (deltaForP g e t oldL newL) = wantOfP g e t newL ∨
      (heldApplyP g t h (deltaForP g e t oldL newL) = h ∧ WeakInv g t newL h ∧
        ((∀ b o, newL.head? = some b → oldL.head? = some o → b.pfx = o.pfx) →
          wantOfP g e t newL = wantOfP g e t oldL)) := by
  rcases deltaForP_cases g e t oldL newL with ⟨hd, ho, hn⟩ | ⟨b, o, hd, hn, ho, heq, hbi, hoi⟩ |
    ⟨b, hn, hbi, hd⟩ | ⟨o, x, ho, _, hn, hd, hx⟩
  · rw [hd, wantOfP_unreachable g e t newL hn]
    exact .inl (weak_unreachable g t oldL h inv ho)
  · -- the same path: invariant and export move from `o` to the equal `b`
    have hex := exportable_pathEqual g t b o heq (wfEq b o hn ho)
    refine .inr ⟨by rw [hd]; rfl, fun hne => ?_, fun wfP => ?_⟩
    · obtain ⟨o', ho', _, hxo⟩ := inv hne
      rw [ho] at ho'
      cases ho'
      exact ⟨b, hn, hbi, hex.trans hxo⟩
    · unfold wantOfP
      rw [hn, ho]
      exact wantRP_congr g e t b o (pathEqual_pview b o heq (wfP b o hn ho)) (hbi.trans hoi.symm) hex
  · have hw : wantOfP g e t newL = wantRP g e t b := by unfold wantOfP; rw [hn]
    rw [hd, hw]
    rcases announce_held g e t b oldL.head? h hbi hrs wfO with h1 | ⟨h1, h2, h3⟩
    · exact .inl h1
    · refine .inr ⟨h1, fun hne => ?_, fun _ => ?_⟩
      · -- nothing was sent although the peer holds something: loop prevention passed `b`
        obtain ⟨o, ho, _, hxo⟩ := inv hne
        refine ⟨b, hn, hbi, (h3 o ho).2.resolve_right ?_⟩
        rw [hxo]
        exact Bool.noConfusion
      · rw [h2]
        unfold wantOfP
        cases ho : oldL.head? with
        | none => rfl
        | some o => exact (h3 o ho).1.symm
  · rw [hd, wantOfP_unreachable g e t newL hn]
    refine .inl (withdraw_held g e t oldL o x _ h ho inv ?_)
    rcases hx with rfl | ⟨hn', heq⟩
    · rfl
    · exact exportable_pathEqual g t x o heq (wfEq x o hn' ho)

/-- **delta_correct with export policy** (the policy does not change during the step) -/
theorem delta_correct_P (g : Global) (e : Pol) (t : PeerCfg) (hrs : t.isRSClient = false)
    (oldL newL : List Cand)
    (wfO : ∀ o, oldL.head? = some o → FromPeerWF g t o)
    (wfEq : ∀ b o, newL.head? = some b → oldL.head? = some o →
      b.src.equal o.src = true → b.src = o.src)
    (wfP : ∀ b o, newL.head? = some b → oldL.head? = some o → b.pfx = o.pfx) :
    heldApplyP g t (wantOfP g e t oldL) (deltaForP g e t oldL newL) = wantOfP g e t newL := by
  rcases fanout_step g e t hrs oldL newL _ wfO wfEq (weak_of_want g e t oldL) with h | ⟨h, _, hw⟩
  · exact h
  · rw [h, hw wfP]

/-- **weak_inv_step**: the incremental fan-out keeps the weak invariant whatever export policy is
    in force at the time of the change -/
theorem weak_inv_step (g : Global) (e : Pol) (t : PeerCfg) (hrs : t.isRSClient = false)
    (oldL newL : List Cand) (h : Option Held)
    (wfO : ∀ o, oldL.head? = some o → FromPeerWF g t o)
    (wfEq : ∀ b o, newL.head? = some b → oldL.head? = some o →
      b.src.equal o.src = true → b.src = o.src)
    (inv : WeakInv g t oldL h) :
    WeakInv g t newL (heldApplyP g t h (deltaForP g e t oldL newL)) := by
  rcases fanout_step g e t hrs oldL newL h wfO wfEq inv with h1 | ⟨h1, hw, _⟩
  · rw [h1]
    exact weak_of_want g e t newL
  · rw [h1]
    exact hw

/-- **soft_out_restores**: from ANY state that satisfies the weak invariant (sentPaths agreeing
    with what the peer holds), the soft reset out leaves the peer with exactly the export of the
    current best path under the current policy -/
theorem soft_out_restores (g : Global) (e : Pol) (t : PeerCfg) (l : List Cand) (h : Option Held)
    (inv : WeakInv g t l h) :
    heldApplyList g t h (softOutFor g e t l h.isSome) = wantOfP g e t l := by
  unfold softOutFor wantOfP
  cases hl : l.head? with
  | none => exact weak_unreachable g t l h inv (by intro b hb; rw [hl] at hb; cases hb)
  | some b =>
    simp only
    cases hbi : b.nhInvalid with
    | true =>
      rw [wantRP_invalid g e t b hbi]
      exact weak_unreachable g t l h inv (by intro b' hb'; rw [hl] at hb'; cases hb'; exact hbi)
    | false =>
      simp only [Bool.false_eq_true, if_false]
      rcases first_export g e t b hbi with ⟨r', hS, hW⟩ | ⟨r', hS, _, hW⟩ | ⟨hS, hW⟩ <;> rw [hS, hW]
      · rfl
      · rfl
      · cases h <;> rfl

/-- a withdrawal is emitted only for a destination in sentPaths, or for an LLGR-stale route
    toward a peer without LLGR (postFilterpath) -/
theorem soft_out_withdraw_only_sent (g : Global) (e : Pol) (t : PeerCfg) (l : List Cand)
    (p : P) (hp : p ∈ softOutFor g e t l false) (hw : p.wd = true) : p.r.stale = true := by
  unfold softOutFor at hp
  cases hl : l.head? with
  | none => simp [hl] at hp
  | some b =>
    simp only [hl] at hp
    cases hbi : b.nhInvalid with
    | true => simp [hbi] at hp
    | false =>
      simp only [hbi, Bool.false_eq_true, if_false] at hp
      rcases first_export g e t b hbi with ⟨r', hS, _⟩ | ⟨r', hS, hs, _⟩ | ⟨hS, _⟩ <;>
        simp only [hS, List.mem_singleton, List.not_mem_nil] at hp
      · subst hp; cases hw
      · subst hp; exact hs

/-! ### destination-level histories: policy changes, route changes, soft resets interleaved -/

/-- an event for one destination and one target peer -/
inductive DEv where
  | chg (e : Pol) (newL : List Cand)   -- the Loc-RIB list changes while export policy `e` is in force
  | soft (e : Pol)                     -- soft reset out / route refresh under policy `e`

def dstep (g : Global) (t : PeerCfg) (s : List Cand × Option Held) : DEv → List Cand × Option Held
  | .chg e newL => (newL, heldApplyP g t s.2 (deltaForP g e t s.1 newL))
  | .soft e => (s.1, heldApplyList g t s.2 (softOutFor g e t s.1 s.2.isSome))

def DEv.list : DEv → List (List Cand)
  | .chg _ l => [l]
  | .soft _ => []

/-- well-formedness of every path list that occurs (see C01): a best path whose source address is
    the peer's address carries the peer's PeerInfo; PeerInfo.Equal sources are equal -/
def ListsWF (g : Global) (t : PeerCfg) (ls : List (List Cand)) : Prop :=
  (∀ l ∈ ls, ∀ o, l.head? = some o → FromPeerWF g t o) ∧
  (∀ l ∈ ls, ∀ l' ∈ ls, ∀ b o, l.head? = some b → l'.head? = some o →
    b.src.equal o.src = true → b.src = o.src) ∧
  (∀ l ∈ ls, ∀ l' ∈ ls, ∀ b o, l.head? = some b → l'.head? = some o → b.pfx = o.pfx)

theorem weak_fold (g : Global) (t : PeerCfg) (hrs : t.isRSClient = false) (U : List (List Cand))
    (wf : ListsWF g t U) (evs : List DEv) (s : List Cand × Option Held) (hs : s.1 ∈ U)
    (hU : ∀ ev ∈ evs, ∀ l ∈ ev.list, l ∈ U) (inv : WeakInv g t s.1 s.2) :
    (evs.foldl (dstep g t) s).1 ∈ U ∧
      WeakInv g t (evs.foldl (dstep g t) s).1 (evs.foldl (dstep g t) s).2 := by
  refine List.foldlRecOn (motive := fun s => s.1 ∈ U ∧ WeakInv g t s.1 s.2) evs (dstep g t) ⟨hs, inv⟩ ?_
  intro s ⟨hs, inv⟩ ev hev
  cases ev with
  | chg e newL =>
    have hnew : newL ∈ U := hU _ hev newL (by simp [DEv.list])
    exact ⟨hnew, weak_inv_step g e t hrs s.1 newL s.2 (fun o ho => wf.1 _ hs o ho)
      (fun b o hb ho => wf.2.1 _ hnew _ hs b o hb ho) inv⟩
  | soft e =>
    refine ⟨hs, ?_⟩
    simp only [dstep]
    rw [soft_out_restores g e t s.1 s.2 inv]
    exact weak_of_want g e t s.1

theorem want_fold (g : Global) (e : Pol) (t : PeerCfg) (hrs : t.isRSClient = false)
    (U : List (List Cand)) (wf : ListsWF g t U) (ls : List (List Cand))
    (s : List Cand × Option Held) (hs : s.1 ∈ U) (hU : ∀ l ∈ ls, l ∈ U)
    (h : s.2 = wantOfP g e t s.1) :
    ((ls.map (DEv.chg e)).foldl (dstep g t) s).2 =
      wantOfP g e t ((ls.map (DEv.chg e)).foldl (dstep g t) s).1 := by
  refine (List.foldlRecOn (motive := fun s => s.1 ∈ U ∧ s.2 = wantOfP g e t s.1) _ (dstep g t) ⟨hs, h⟩ ?_).2
  intro s ⟨hs, h⟩ ev hev
  obtain ⟨l, hl, rfl⟩ := List.mem_map.mp hev
  have hl := hU l hl
  refine ⟨hl, ?_⟩
  simp only [dstep]
  rw [h]
  exact delta_correct_P g e t hrs s.1 l (fun o ho => wf.1 _ hs o ho)
    (fun b o hb ho => wf.2.1 _ hl _ hs b o hb ho) (fun b o hb ho => wf.2.2 _ hl _ hs b o hb ho)

end SoftReset
