/-
  The invariant "every established route-server client holds, for every destination, exactly
  the export of ITS best path", and the two facts everything a route-server client does is made
  of: a write to the route-server table followed by the fan-out, and a change of one neighbour's
  state.  Both keep the invariant and leave the global table and every ordinary neighbour alone.
-/
import Lemmas.RouteServer
import Lemmas.RouteServerFrame

namespace RouteServer
open BestPath World

/-- the route was learned from SOME route-server client (configured now or earlier) -/
def RsSrc (g : Global) (r : Cand) : Prop :=
  ∃ c : PeerCfg, c.isRSClient = true ∧ r.src = c.srcInfo g

theorem rsSrc_equal {g : Global} {a b : Cand} (ha : RsSrc g a) (hb : RsSrc g b)
    (h : a.src.equal b.src = true) : a.src = b.src := by
  obtain ⟨c1, r1, s1⟩ := ha
  obtain ⟨c2, r2, s2⟩ := hb
  rw [s1, s2] at h ⊢
  unfold Src.equal PeerCfg.srcInfo at h
  simp only [Bool.and_eq_true, beq_iff_eq, Option.some.injEq] at h
  unfold PeerCfg.srcInfo
  rw [rs_not_rr c1 r1, rs_not_rr c2 r2, h.1.1.1, h.1.1.2, h.2]

theorem rsRibOf_set_same (s : S) (pfx : Nat) (l : List Cand) : (s.setRsRib pfx l).rsRibOf pfx = l := by
  simp only [S.setRsRib, S.rsRibOf, List.find?_cons, beq_self_eq_true]

theorem rsRibOf_set_other (s : S) (pfx q : Nat) (l : List Cand) (h : q ≠ pfx) :
    (s.setRsRib pfx l).rsRibOf q = s.rsRibOf q := by
  unfold S.setRsRib S.rsRibOf
  have h1 : ((pfx, l).1 == q) = false := beq_eq_false_iff_ne.mpr (Ne.symm h)
  simp only [List.find?_cons, h1]
  rw [find_filter_of_imp]
  intro a ha
  rw [beq_iff_eq.mp ha]
  exact bne_iff_ne.mpr h

theorem mem_rsRibOf (s : S) (pfx : Nat) (r : Cand) (h : r ∈ s.rsRibOf pfx) :
    ∃ e ∈ s.rsRib, e.1 = pfx ∧ r ∈ e.2 := by
  unfold S.rsRibOf at h
  cases hf : s.rsRib.find? (fun x => x.1 == pfx) with
  | none =>
    rw [hf] at h
    cases h
  | some e =>
    rw [hf] at h
    have hk := List.find?_some hf
    exact ⟨e, List.mem_of_find?_eq_some hf, beq_iff_eq.mp hk, h⟩

structure RSInv (s : S) : Prop where
  peers : PeersWF s.base.peers
  keys  : s.rsRib.Pairwise (fun a b => a.1 ≠ b.1)
  rib   : ∀ e ∈ s.rsRib, ∀ r ∈ e.2, r.pfx = e.1 ∧ RsSrc s.base.g r
  views : ∀ ps ∈ s.base.peers, ps.up = true → ps.cfg.isRSClient = true →
            ∀ pfx, heldOf ps.view pfx = rsWant s.base.g ps.cfg (s.rsRibOf pfx)

theorem RSInv.ribOf {s : S} (h : RSInv s) (pfx : Nat) :
    ∀ r ∈ s.rsRibOf pfx, r.pfx = pfx ∧ RsSrc s.base.g r := by
  intro r hr
  obtain ⟨e, he, rfl, hre⟩ := mem_rsRibOf s pfx r hr
  exact h.rib e he r hre

theorem RSInv.of_views {s : S} (h : RSInv s) {b : W} (hg : b.g = s.base.g) (hp : PeersWF b.peers)
    (hv : ∀ ps ∈ b.peers, ps.up = true → ps.cfg.isRSClient = true →
      ∀ pfx, heldOf ps.view pfx = rsWant s.base.g ps.cfg (s.rsRibOf pfx)) :
    RSInv { s with base := b } :=
  ⟨hp, h.keys, hg ▸ h.rib, hg ▸ hv⟩

theorem RSInv.of_base {s : S} (h : RSInv s) {b : W} (hg : b.g = s.base.g) (hp : PeersWF b.peers)
    (hm : ∀ ps ∈ b.peers, ps.up = true → ps.cfg.isRSClient = true → ps ∈ s.base.peers) :
    RSInv { s with base := b } :=
  h.of_views hg hp fun ps hps hup hrs => h.views ps (hm ps hps hup hrs) hup hrs

theorem RSInv.untouched {s : S} (h : RSInv s) {b : W}
    (hu : Untouched PeerCfg.isRSClient s.base b) : RSInv { s with base := b } :=
  h.of_base hu.g (hu.wf h.peers) fun ps hps _ hrs => (hu.mem ps hrs).mp hps

theorem updPeer_peers (w : W) (idx : Nat) (f : PeerSt → PeerSt) :
    (w.updPeer idx f).peers = w.peers.map (fun ps => if ps.cfg.idx == idx then f ps else ps) := rfl

theorem RSInv.updPeer {s : S} (h : RSInv s) (n idx : Nat) (f : PeerSt → PeerSt)
    (hc : ∀ q, (f q).cfg = q.cfg)
    (hv : ∀ q ∈ s.base.peers, (f q).up = true → q.cfg.isRSClient = true →
      ∀ pfx, heldOf (f q).view pfx = rsWant s.base.g q.cfg (s.rsRibOf pfx)) :
    RSInv { s with base := W.updPeer { s.base with tick := n } idx f } := by
  refine h.of_views rfl ?_ ?_
  · rw [updPeer_peers]
    exact peersWF_map _ _ (fun q => ite_cfg hc _ q) h.peers
  intro ps' hps' hup hrs pfx
  rw [updPeer_peers] at hps'
  obtain ⟨q, hq, rfl⟩ := List.mem_map.mp hps'
  by_cases hi : (q.cfg.idx == idx) = true
  · rw [if_pos hi] at hup hrs ⊢
    rw [hc q] at hrs ⊢
    exact hv q hq hup hrs pfx
  · rw [if_neg hi] at hup hrs ⊢
    exact h.views q hq hup hrs pfx

/-- applying what the fan-out sends (possibly nothing) to a view -/
def viewDelta (v : View) : Option P → View
  | some p => viewApply v p 0
  | none => v

theorem heldOf_viewDelta (v : View) (d : Option P) (pfx q : Nat)
    (hd : ∀ p, d = some p → p.r.pfx = pfx) :
    heldOf (viewDelta v d) q = if q = pfx then heldApply (heldOf v q) d else heldOf v q := by
  cases d with
  | none => exact (ite_self _).symm
  | some p =>
    have hp := hd p rfl
    by_cases hq : q = pfx
    · rw [if_pos hq]
      exact heldOf_viewApply_same v p q (hp.trans hq.symm)
    · rw [if_neg hq]
      exact heldOf_viewApply_other v p q fun e => hq (e.symm.trans hp)

theorem rsTarget_eq (g : Global) (oldL newL : List Cand) (ps : PeerSt) :
    rsTarget g oldL newL ps =
      { ps with view := if ps.cfg.isRSClient && ps.up then
          viewDelta ps.view (rsDeltaFor g ps.cfg oldL newL) else ps.view } := by
  obtain ⟨cfg, up, adj, view⟩ := ps
  unfold rsTarget rsDeltaFor
  dsimp only
  cases cfg.isRSClient with
  | false => rfl
  | true =>
    cases up with
    | false => rfl
    | true =>
      rcases getChangesFor cfg oldL newL with ⟨_ | b, old⟩
      · rfl
      · dsimp only
        cases rsFilterpath g cfg b old <;> rfl

theorem rsTarget_cfg (g : Global) (oldL newL : List Cand) (ps : PeerSt) :
    (rsTarget g oldL newL ps).cfg = ps.cfg := by
  rw [rsTarget_eq]

theorem rsTarget_up (g : Global) (oldL newL : List Cand) (ps : PeerSt) :
    (rsTarget g oldL newL ps).up = ps.up := by
  rw [rsTarget_eq]

theorem rsTarget_view (g : Global) (oldL newL : List Cand) (ps : PeerSt)
    (hrs : ps.cfg.isRSClient = true) (hup : ps.up = true) :
    (rsTarget g oldL newL ps).view = viewDelta ps.view (rsDeltaFor g ps.cfg oldL newL) := by
  rw [rsTarget_eq, hrs, hup]
  rfl

theorem rsTarget_ord (g : Global) (oldL newL : List Cand) (ps : PeerSt)
    (h : ps.cfg.isRSClient = false) : rsTarget g oldL newL ps = ps := by
  rw [rsTarget_eq, h]
  rfl

theorem rsDeltaFor_route (g : Global) (t : PeerCfg) (h : t.isRSClient = true)
    (oldL newL : List Cand) (p : P) (hd : rsDeltaFor g t oldL newL = some p) :
    p.r ∈ oldL ∨ p.r ∈ newL := by
  rw [rsDeltaFor_eq g t h] at hd
  rcases deltaFor_route g (asOrd t) _ _ p hd with h1 | h1
  · exact Or.inl (clientBest_some (Option.mem_toList.mp h1)).1
  · exact Or.inr (clientBest_some (Option.mem_toList.mp h1)).1

/-- replacing the path list of one destination by ANY list of client routes for it, then
    fanning out, keeps the invariant: per client this is `rs_delta_correct` -/
theorem rsFanout_inv (s : S) (hinv : RSInv s) (pfx : Nat) (newL : List Cand)
    (hnew : ∀ r ∈ newL, r.pfx = pfx ∧ RsSrc s.base.g r) :
    RSInv (rsFanout (s.setRsRib pfx newL) (s.rsRibOf pfx) newL) := by
  have hold := hinv.ribOf pfx
  refine ⟨?_, ?_, ?_, ?_⟩
  · show PeersWF (s.base.peers.map (rsTarget s.base.g (s.rsRibOf pfx) newL))
    exact peersWF_map _ _ (rsTarget_cfg _ _ _) hinv.peers
  · show ((pfx, newL) :: s.rsRib.filter (fun x => x.1 != pfx)).Pairwise (fun a b => a.1 ≠ b.1)
    exact List.pairwise_cons.mpr ⟨fun e he => (bne_iff_ne.mp (List.mem_filter.mp he).2).symm,
      hinv.keys.filter _⟩
  · intro e he r hr
    rcases List.mem_cons.mp he with rfl | he
    · exact hnew r hr
    · exact hinv.rib e (List.mem_filter.mp he).1 r hr
  · intro ps' hps' hup hrs q
    have hps' : ps' ∈ s.base.peers.map (rsTarget s.base.g (s.rsRibOf pfx) newL) := hps'
    obtain ⟨ps, hps, rfl⟩ := List.mem_map.mp hps'
    rw [rsTarget_up] at hup
    rw [rsTarget_cfg] at hrs ⊢
    show _ = rsWant s.base.g ps.cfg ((s.setRsRib pfx newL).rsRibOf q)
    rw [rsTarget_view _ _ _ _ hrs hup, heldOf_viewDelta _ _ pfx q fun p hd =>
      (rsDeltaFor_route _ _ hrs _ _ p hd).elim (fun h => (hold _ h).1) (fun h => (hnew _ h).1)]
    by_cases hq : q = pfx
    · rw [if_pos hq, hq, rsRibOf_set_same, hinv.views ps hps hup hrs pfx]
      exact rs_delta_correct s.base.g ps.cfg hrs _ newL fun b o hb ho =>
        rsSrc_equal (hnew b (clientBest_some hb).1).2 (hold o (clientBest_some ho).1).2
    · rw [if_neg hq, rsRibOf_set_other _ _ _ _ hq]
      exact hinv.views ps hps hup hrs q

theorem rsPropagate_inv (s : S) (r : Cand) (wd : Bool) (h : RSInv s)
    (hr : wd = false → RsSrc s.base.g r) : RSInv (rsPropagate s r wd) := by
  refine rsFanout_inv s h r.pfx _ fun r' hr' => ?_
  rcases calcStep_subset _ _ _ r' hr' with hm | hop
  · exact h.ribOf r.pfx r' hm
  · cases wd with
    | true => cases hop
    | false =>
      cases hop
      exact ⟨rfl, hr rfl⟩

/-- the base changed only by a configuration-preserving map that fixes every ORDINARY
    neighbour; the global table is untouched -/
def RsFrame (s s' : S) : Prop :=
  MapFrame (fun c => !c.isRSClient) s.base s'.base ∧ s'.base.rib = s.base.rib

theorem RsFrame.refl (s : S) : RsFrame s s := ⟨MapFrame.refl _ _, rfl⟩

theorem RsFrame.trans {a b c : S} (h1 : RsFrame a b) (h2 : RsFrame b c) : RsFrame a c :=
  ⟨h1.1.trans h2.1, h2.2.trans h1.2⟩

theorem rsPropagate_frame (s : S) (r : Cand) (wd : Bool) : RsFrame s (rsPropagate s r wd) :=
  ⟨⟨rfl, rsTarget s.base.g _ _, rfl, rsTarget_cfg _ _ _,
    fun ps _ hk => rsTarget_ord _ _ _ ps ((Bool.not_eq_true' _).mp hk)⟩, rfl⟩

theorem rs_fold_withdraw (L : List AdjEntry) (s : S) (h : RSInv s) :
    RSInv (L.foldl (fun s e => rsPropagate s e.r true) s) ∧
    RsFrame s (L.foldl (fun s e => rsPropagate s e.r true) s) := by
  induction L generalizing s with
  | nil => exact ⟨h, .refl s⟩
  | cons e rest ih =>
    obtain ⟨hi, hf⟩ := ih _ (rsPropagate_inv s e.r true h fun e => nomatch e)
    exact ⟨hi, (rsPropagate_frame s e.r true).trans hf⟩

theorem rs_upd_frame {s : S} (hp : PeersWF s.base.peers) {idx : Nat} {ps : PeerSt}
    (h0 : s.base.peer? idx = some ps) (hc : ps.cfg.isRSClient = true) {n : Nat}
    {f : PeerSt → PeerSt} (hf : ∀ q, (f q).cfg = q.cfg) :
    RsFrame s { s with base := W.updPeer { s.base with tick := n } idx f } :=
  ⟨updPeer_frame hp h0 (congrArg not hc) hf, rfl⟩

end RouteServer
