/-
C13 — the exact shape `^a:l$` and the fixed-AS wildcard shapes `^a:\d+$`, `^a:.*`, …: which texts the
parsed regular expression matches.
-/
import Model.CommMatch
import Lemmas.C13Compile
namespace CommMatch
open Regex

theorem parseExact_some {body : Str} {bits a l : Nat} (h : parseExact body bits = some (a, l)) :
    body = toDec a ++ 58 :: toDec l ∧ a < 65536 ∧ l < 2 ^ bits := by
  unfold parseExact at h
  split at h
  · cases h
  · next x L hfc =>
    simp only at h
    split at h
    · cases h
    · split at h
      · next x y hx hy =>
        split at h
        · next hcan =>
          cases h
          simp only [Bool.and_eq_true] at hcan
          obtain ⟨hA, ha⟩ := parseUint_canon hx hcan.1
          obtain ⟨hL, hl⟩ := parseUint_canon hy hcan.2
          exact ⟨by rw [← hA, ← hL]; exact (fromColon_cons hfc).1, ha, hl⟩
        · cases h
      · cases h

theorem parse_anchored_plain {w : Str} {r : R} (hw : ∀ c ∈ w, Plain c)
    (h : parse (94 :: (w ++ [36])) = .ok r) : r = catList (.bot :: (w.map lit ++ [.eot])) := by
  rcases parse_ok_full h with ⟨b, hpf⟩
  obtain ⟨tks', S1, hl, hr, hf⟩ := parseFull_prefix hw hpf
  have h36 : lexGo .normal [36] = .ok [.atom .eot] := rfl
  cases h36.symm.trans hl
  cases hr
  simp only [pfinish, Frame.close, Option.some.injEq, Prod.mk.injEq] at hf
  rw [← hf.1, List.reverse_cons, prefP_reverse]
  rfl

theorem exact_lang {s body : Str} {bits a l : Nat} {r : R}
    (hb : anchoredBody s = some body) (he : parseExact body bits = some (a, l))
    (hp : parse s = .ok r) (t : Str) :
    search r t = (t == toDec a ++ 58 :: toDec l) := by
  rw [anchoredBody_some hb, (parseExact_some he).1] at hp
  have hw : ∀ c ∈ toDec a ++ 58 :: toDec l, Plain c := by
    intro c hc
    rw [List.append_cons] at hc
    rcases List.mem_append.1 hc with hc | hc
    · exact asPfx_plain a c hc
    · exact digits_plain (toDec_all_digit l) c hc
  rw [parse_anchored_plain hw hp, search_anchored_lits]

theorem exact_sound {s body : Str} {bits a l : Nat} {r : R}
    (hb : anchoredBody s = some body) (he : parseExact body bits = some (a, l))
    (hp : parse s = .ok r) (hi lo : Nat) :
    search r (toDec hi ++ 58 :: toDec lo) = (hi == a && lo == l) := by
  rw [exact_lang hb he hp, Bool.eq_iff_iff]
  simp only [beq_iff_eq, Bool.and_eq_true]
  constructor
  · intro h
    obtain ⟨h1, h2⟩ := dec_colon_inj h
    exact ⟨h1, toDec_inj h2⟩
  · rintro ⟨rfl, rfl⟩; rfl

def rD : R := .chr ⟨false, [(48, 57)]⟩
def rDot : R := .chr ⟨true, [(10, 10)]⟩

theorem rD_mem (x : Nat) : CS.mem ⟨false, [(48, 57)]⟩ x = isDigit x := by
  simp [CS.mem, inRanges, isDigit]

theorem rDot_mem_digit {x : Nat} (h : isDigit x = true) : CS.mem ⟨true, [(10, 10)]⟩ x = true := by
  simp only [isDigit, Bool.and_eq_true, decide_eq_true_eq] at h
  simp [CS.mem, inRanges]; omega

theorem wild_rest_cases {rest : Str} (h : isWildcardLocal rest = true) :
    rest = wcPlusD ∨ rest = wcPlusD ++ [36] ∨ rest = wcPlusCls ∨ rest = wcPlusCls ++ [36] ∨
      rest = wcDotStar ∨ rest = wcDotStar ++ [36] := by
  unfold isWildcardLocal trimDollar at h
  simp only [Bool.or_eq_true, beq_iff_eq] at h
  split at h
  · next hl =>
    rcases List.getLast?_eq_some_iff.1 hl with ⟨ys, rfl⟩
    simp only [List.dropLast_concat] at h
    rcases h with (h | h) | h <;> subst h <;> simp
  · rcases h with (h | h) | h <;> subst h <;> simp

/-- what may follow `^a:` in wildcard mode, as parsed -/
def wildYs : List (List R) :=
  [[.cat rD (.star rD)], [.cat rD (.star rD), .eot], [.star rDot], [.star rDot, .eot]]

theorem wild_tail {rest : Str} (h : isWildcardLocal rest = true) :
    ∃ tks, lexGo .normal rest = .ok tks ∧ ∃ Y ∈ wildYs, ∀ P : List R,
      ∃ jr, prun ⟨[], ⟨none, P⟩, false⟩ tks = some ⟨[], ⟨none, Y.reverse ++ P⟩, jr⟩ := by
  rcases wild_rest_cases h with h | h | h | h | h | h <;> subst h
  · exact ⟨[.atom rD, .plus], rfl, _, .head _, fun _ => ⟨_, rfl⟩⟩
  · exact ⟨[.atom rD, .plus, .atom .eot], rfl, _, .tail _ (.head _), fun _ => ⟨_, rfl⟩⟩
  · exact ⟨[.atom rD, .plus], rfl, _, .head _, fun _ => ⟨_, rfl⟩⟩
  · exact ⟨[.atom rD, .plus, .atom .eot], rfl, _, .tail _ (.head _), fun _ => ⟨_, rfl⟩⟩
  · exact ⟨[.atom rDot, .star], rfl, _, .tail _ (.tail _ (.head _)), fun _ => ⟨_, rfl⟩⟩
  · exact ⟨[.atom rDot, .star, .atom .eot], rfl, _, .tail _ (.tail _ (.tail _ (.head _))), fun _ => ⟨_, rfl⟩⟩

theorem wild_parse {s : Str} {asn : Nat} {rest : Str} {r : R}
    (hs : ASNShape s asn rest) (hw : isWildcardLocal rest = true) (hp : parse s = .ok r) :
    ∃ Y ∈ wildYs, r = catList (.bot :: ((toDec asn ++ [58]).map lit ++ Y)) := by
  rcases parse_ok_full hp with ⟨b, hpf⟩
  rw [hs.eq, List.append_cons] at hpf
  obtain ⟨tks', S1, hl, hr, hf⟩ := parseFull_prefix (asPfx_plain asn) hpf
  obtain ⟨tks, hl', Y, hY, hrun⟩ := wild_tail hw
  cases hl'.symm.trans hl
  obtain ⟨jr, hrun⟩ := hrun (prefP (toDec asn ++ [58]))
  cases hrun.symm.trans hr
  refine ⟨Y, hY, ?_⟩
  simp only [pfinish, Frame.close, Option.some.injEq, Prod.mk.injEq] at hf
  rw [← hf.1, List.reverse_append, List.reverse_reverse, prefP_reverse]
  rfl

theorem wild_accepts {Y : List R} (hY : Y ∈ wildYs) {t : List Nat} {k : Nat} (hk : k < t.length)
    (hd : ∀ x ∈ t.drop k, isDigit x = true) : ∃ j, Match t (catList Y) k j := by
  have hdk : t.drop k = t[k] :: t.drop (k + 1) := List.drop_eq_getElem_cons hk
  have h0 : isDigit t[k] = true := hd _ (hdk ▸ List.mem_cons_self)
  have hD : Match t rD k (k + 1) := .chr (List.getElem?_eq_getElem hk) (by rw [rD_mem]; exact h0)
  have hrest : ∀ x ∈ t.drop (k + 1), isDigit x = true := fun x hx => hd x (hdk ▸ List.mem_cons_of_mem _ hx)
  simp only [wildYs, List.mem_cons, List.not_mem_nil, or_false] at hY
  rcases hY with rfl | rfl | rfl | rfl
  · exact ⟨k + 1, .cat (.cat hD (.star0 _)) (.eps _)⟩
  · refine ⟨t.length, .cat (.cat hD ?_) (.cat .eot (.eps _))⟩
    exact star_to_end _ (k + 1) rfl (by omega) (fun x hx => by rw [rD_mem]; exact hrest x hx)
  · exact ⟨k, .cat (.star0 _) (.eps _)⟩
  · refine ⟨t.length, .cat ?_ (.cat .eot (.eps _))⟩
    exact star_to_end _ k rfl (by omega) (fun x hx => rDot_mem_digit (hd x hx))

theorem wild_sound {s : Str} {asn : Nat} {rest : Str} {r : R}
    (he : extractASN s = some (asn, rest)) (hw : isWildcardLocal rest = true) (hp : parse s = .ok r)
    (hi lo : Nat) :
    search r (toDec hi ++ 58 :: toDec lo) = (hi == asn) := by
  have sh := extractASN_some he
  rw [Bool.eq_iff_iff, beq_iff_eq]
  constructor
  · intro hm
    rcases asn_shape_text sh hp hm with ⟨u, hu⟩
    exact (dec_colon_inj hu).1
  · rintro rfl
    rcases wild_parse sh hw hp with ⟨Y, hY, rfl⟩
    rw [List.append_cons (toDec hi) 58 (toDec lo), search_lits]
    have hne : 0 < (toDec lo).length := List.length_pos_iff.2 (toDec_ne_nil lo)
    rcases wild_accepts hY (t := toDec hi ++ [58] ++ toDec lo) (k := (toDec hi ++ [58]).length)
      (by rw [List.length_append (bs := toDec lo)]; omega)
      (by rw [List.drop_left]; exact fun x hx => List.all_eq_true.1 (toDec_all_digit lo) x hx) with ⟨j, hj⟩
    exact ⟨_, j, rfl, hj⟩

end CommMatch
