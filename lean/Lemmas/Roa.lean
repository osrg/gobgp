/-
  Lemmas for C16: the bucket table of Model/Roa.lean is a set of records.
  `add` / `delete` / `deleteAll` / `addAll` act on `recs` as insert / remove / remove-by-source /
  union, and keep the table well formed (one bucket per prefix, no duplicate in a bucket).
  At the end: `verdict` / `validate` in terms of their three lists, `before` in arithmetic terms.
-/
import Model.Roa
namespace Roa

/- `insertSorted` (the entries of a bucket) and `insLen` (the buckets of a walk) are one function
   for two orders. -/
def insertBy {α : Type} (lt : α → α → Prop) [DecidableRel lt] (b : α) : List α → List α
  | [] => [b]
  | x :: xs => if lt b x then b :: x :: xs else x :: insertBy lt b xs

theorem insertBy_perm {α : Type} (lt : α → α → Prop) [DecidableRel lt] (b : α) (l : List α) :
    (insertBy lt b l).Perm (b :: l) := by
  induction l with
  | nil => exact .refl _
  | cons x xs ih =>
    unfold insertBy
    split
    · exact .refl _
    · exact (ih.cons x).trans (.swap b x xs)

theorem insertBy_pairwise {α : Type} {lt R : α → α → Prop} [DecidableRel lt]
    (trans : ∀ {a b c}, R a b → R b c → R a c) {b : α}
    (hlt : ∀ x, lt b x → R b x) (hge : ∀ x, ¬ lt b x → R x b) {l : List α} (h : l.Pairwise R) :
    (insertBy lt b l).Pairwise R := by
  induction l with
  | nil => exact List.pairwise_singleton R b
  | cons x xs ih =>
    rw [List.pairwise_cons] at h
    unfold insertBy
    split
    · rename_i hb
      refine List.pairwise_cons.mpr ⟨fun y hy => ?_, List.pairwise_cons.mpr h⟩
      rcases List.mem_cons.mp hy with rfl | hy
      · exact hlt _ hb
      · exact trans (hlt x hb) (h.1 y hy)
    · rename_i hb
      refine List.pairwise_cons.mpr ⟨fun y hy => ?_, ih h.2⟩
      rcases List.mem_cons.mp ((insertBy_perm lt b xs).mem_iff.mp hy) with rfl | hy
      · exact hge x hb
      · exact h.1 y hy

theorem insertSorted_eq (r : Roa) (es : List Roa) :
    insertSorted r es = insertBy (fun a b => less a b = true) r es := by
  induction es with
  | nil => rfl
  | cons x xs ih => rw [insertSorted, insertBy, ih]

theorem insertSorted_perm (r : Roa) (es : List Roa) : (insertSorted r es).Perm (r :: es) := by
  rw [insertSorted_eq]
  exact insertBy_perm _ r es

theorem mem_bucketAdd (es : List Roa) (r y : Roa) : y ∈ bucketAdd es r ↔ y = r ∨ y ∈ es := by
  unfold bucketAdd
  split
  · rename_i hr
    exact ⟨Or.inr, fun h => h.elim (fun e => e ▸ hr) id⟩
  · exact (insertSorted_perm r es).mem_iff.trans List.mem_cons

theorem nodup_bucketAdd (es : List Roa) (r : Roa) (hn : es.Nodup) : (bucketAdd es r).Nodup := by
  unfold bucketAdd
  split
  · exact hn
  · rename_i hr
    exact (insertSorted_perm r es).nodup_iff.mpr (List.nodup_cons.mpr ⟨hr, hn⟩)

theorem less_iff (a b : Roa) :
    less a b = true ↔ a.maxLen < b.maxLen ∨ (a.maxLen = b.maxLen ∧ a.as < b.as) := by
  unfold less
  split
  · rename_i h1
    exact iff_of_true rfl (Or.inl h1)
  · rename_i h1
    split
    · rename_i h2
      exact iff_of_false Bool.false_ne_true fun h => h.elim h1 fun h' => Nat.ne_of_gt h2 h'.1
    · rename_i h2
      have he : a.maxLen = b.maxLen := Nat.le_antisymm (Nat.le_of_not_lt h2) (Nat.le_of_not_lt h1)
      split
      · rename_i h3
        exact iff_of_true rfl (Or.inr ⟨he, h3⟩)
      · rename_i h3
        exact iff_of_false Bool.false_ne_true fun h => h.elim h1 fun h' => h3 h'.2

/-- `less` or equal in (max length, AS): the order `insertSorted` keeps a bucket in
    (`insertSorted_sorted`) -/
def lessEq (a b : Roa) : Prop := a.maxLen < b.maxLen ∨ (a.maxLen = b.maxLen ∧ a.as ≤ b.as)

theorem lessEq_trans {a b c : Roa} (h1 : lessEq a b) (h2 : lessEq b c) : lessEq a c := by
  rcases h1 with h1 | ⟨e1, l1⟩
  · rcases h2 with h2 | ⟨e2, _⟩
    · exact Or.inl (Nat.lt_trans h1 h2)
    · exact Or.inl (e2 ▸ h1)
  · rcases h2 with h2 | ⟨e2, l2⟩
    · exact Or.inl (e1 ▸ h2)
    · exact Or.inr ⟨e1.trans e2, Nat.le_trans l1 l2⟩

theorem lessEq_of_less {a b : Roa} (h : less a b = true) : lessEq a b :=
  ((less_iff a b).mp h).imp id fun ⟨e, l⟩ => ⟨e, Nat.le_of_lt l⟩

theorem lessEq_of_not_less {a b : Roa} (h : ¬ less a b = true) : lessEq b a := by
  rw [less_iff] at h
  rcases Nat.lt_trichotomy a.maxLen b.maxLen with h1 | h1 | h1
  · exact absurd (Or.inl h1) h
  · exact Or.inr ⟨h1.symm, Nat.le_of_not_lt fun l => h (Or.inr ⟨h1, l⟩)⟩
  · exact Or.inl h1

theorem insertSorted_sorted (r : Roa) (es : List Roa) (h : es.Pairwise lessEq) :
    (insertSorted r es).Pairwise lessEq := by
  rw [insertSorted_eq]
  exact insertBy_pairwise (R := lessEq) lessEq_trans (fun _ => lessEq_of_less) (fun _ => lessEq_of_not_less) h

theorem recs_nil : recs [] = [] := rfl

theorem recs_cons (q : Prefix) (es : List Roa) (t : Table) :
    recs ((q, es) :: t) = (es.map fun r => (q, r)) ++ recs t := rfl

theorem mem_recs {t : Table} {x : Rec} : x ∈ recs t ↔ ∃ es, (x.1, es) ∈ t ∧ x.2 ∈ es := by
  simp only [recs, List.mem_flatMap, List.mem_map]
  constructor
  · rintro ⟨b, hb, r, hr, rfl⟩
    exact ⟨b.2, hb, hr⟩
  · rintro ⟨es, hb, hr⟩
    exact ⟨(x.1, es), hb, x.2, hr, rfl⟩

theorem mem_recs_cons (q : Prefix) (es : List Roa) (t : Table) (x : Rec) :
    x ∈ recs ((q, es) :: t) ↔ (x.1 = q ∧ x.2 ∈ es) ∨ x ∈ recs t := by
  rw [recs_cons, List.mem_append, List.mem_map]
  refine or_congr_left ⟨?_, fun h => ⟨x.2, h.2, Prod.ext h.1.symm rfl⟩⟩
  rintro ⟨r, hr, rfl⟩
  exact ⟨rfl, hr⟩

theorem fst_mem_of_mem_recs {t : Table} {x : Rec} (h : x ∈ recs t) : x.1 ∈ t.map (·.1) := by
  obtain ⟨es, hb, _⟩ := mem_recs.mp h
  exact List.mem_map.mpr ⟨_, hb, rfl⟩

def WF (t : Table) : Prop := (t.map (·.1)).Nodup ∧ ∀ b ∈ t, b.2.Nodup

theorem wf_nil : WF [] := ⟨List.nodup_nil, fun _ h => nomatch h⟩

theorem wf_cons {q : Prefix} {es : List Roa} {t : Table} :
    WF ((q, es) :: t) ↔ q ∉ t.map (·.1) ∧ es.Nodup ∧ WF t := by
  simp only [WF, List.map_cons, List.nodup_cons, List.forall_mem_cons]
  exact ⟨fun ⟨⟨h1, h2⟩, h3, h4⟩ => ⟨h1, h3, h2, h4⟩, fun ⟨h1, h3, h2, h4⟩ => ⟨⟨h1, h2⟩, h3, h4⟩⟩

theorem recs_nodup (t : Table) (h : WF t) : (recs t).Nodup := by
  induction t with
  | nil => exact List.nodup_nil
  | cons c t ih =>
    obtain ⟨q, es⟩ := c
    rw [wf_cons] at h
    rw [recs_cons, List.nodup_append]
    refine ⟨h.2.1.map _ fun a b hab e => hab (congrArg Prod.snd e), ih h.2.2, ?_⟩
    intro a ha b hb hab
    obtain ⟨r, _, rfl⟩ := List.mem_map.mp ha
    exact h.1 (fst_mem_of_mem_recs (hab ▸ hb))

theorem infoPrefixList_nodup (t : Table) (fam src : Nat) (h : WF t) : (infoPrefixList t fam src).Nodup := by
  unfold infoPrefixList
  exact (List.filter_sublist.map _).nodup h.1

theorem mem_infoPrefixList (t : Table) (fam src : Nat) (p : Prefix) :
    p ∈ infoPrefixList t fam src ↔ p.fam = fam ∧ ∃ r, (p, r) ∈ recs t ∧ r.src = src := by
  simp only [infoPrefixList, List.mem_map, List.mem_filter, Bool.and_eq_true, beq_iff_eq, List.any_eq_true]
  constructor
  · rintro ⟨b, ⟨hb, hf, r, hr, hs⟩, rfl⟩
    exact ⟨hf, r, mem_recs.mpr ⟨b.2, hb, hr⟩, hs⟩
  · rintro ⟨hf, r, hr, hs⟩
    obtain ⟨es, hb, hre⟩ := mem_recs.mp hr
    exact ⟨(p, es), ⟨hb, hf, r, hre, hs⟩, rfl⟩

theorem mem_recs_add (t : Table) (p : Prefix) (r : Roa) (x : Rec) :
    x ∈ recs (add t p r) ↔ x = (p, r) ∨ x ∈ recs t := by
  induction t with
  | nil => simp only [add, mem_recs_cons, List.mem_singleton, Prod.ext_iff]
  | cons b t ih =>
    obtain ⟨q, es⟩ := b
    unfold add
    split
    · rename_i hq
      subst hq
      simp only [mem_recs_cons, mem_bucketAdd, Prod.ext_iff]
      rw [and_or_left, or_assoc]
    · simp only [mem_recs_cons, ih]
      exact or_left_comm

theorem mem_keys_add (t : Table) (p : Prefix) (r : Roa) (k : Prefix) :
    k ∈ (add t p r).map (·.1) ↔ k = p ∨ k ∈ t.map (·.1) := by
  induction t with
  | nil => simp only [add, List.map_cons, List.mem_cons]
  | cons b t ih =>
    obtain ⟨q, es⟩ := b
    unfold add
    split
    · rename_i hq
      subst hq
      simp only [List.map_cons, List.mem_cons]
      rw [← or_assoc, or_self]
    · simp only [List.map_cons, List.mem_cons, ih]
      exact or_left_comm

theorem wf_add (t : Table) (p : Prefix) (r : Roa) (h : WF t) : WF (add t p r) := by
  induction t with
  | nil => exact wf_cons.mpr ⟨List.not_mem_nil, List.pairwise_singleton _ r, wf_nil⟩
  | cons c t ih =>
    obtain ⟨q, es⟩ := c
    rw [wf_cons] at h
    unfold add
    split
    · exact wf_cons.mpr ⟨h.1, nodup_bucketAdd es r h.2.1, h.2.2⟩
    · rename_i hq
      refine wf_cons.mpr ⟨?_, h.2.1, ih h.2.2⟩
      rw [mem_keys_add]
      exact fun hk => hk.elim hq h.1

theorem keys_delete (t : Table) (p : Prefix) (r : Roa) : (delete t p r).map (·.1) = t.map (·.1) := by
  induction t with
  | nil => rfl
  | cons b t ih =>
    unfold delete
    split
    · rfl
    · rw [List.map_cons, ih, List.map_cons]

theorem mem_recs_delete (t : Table) (p : Prefix) (r : Roa) (x : Rec) (h : WF t) :
    x ∈ recs (delete t p r) ↔ x ∈ recs t ∧ x ≠ (p, r) := by
  induction t with
  | nil => simp only [delete, recs_nil, List.not_mem_nil, false_and]
  | cons c t ih =>
    obtain ⟨q, es⟩ := c
    rw [wf_cons] at h
    unfold delete
    split
    · rename_i hq
      subst hq
      simp only [mem_recs_cons]
      rw [List.Nodup.mem_erase_iff h.2.1]
      constructor
      · rintro (⟨h1, h2, h3⟩ | hx)
        · exact ⟨Or.inl ⟨h1, h3⟩, fun e => h2 (congrArg Prod.snd e)⟩
        · -- a record of another bucket has another prefix
          exact ⟨Or.inr hx, fun e => h.1 (fst_mem_of_mem_recs (e ▸ hx))⟩
      · rintro ⟨⟨h1, h2⟩ | hx, hne⟩
        · exact Or.inl ⟨h1, fun e => hne (Prod.ext h1 e), h2⟩
        · exact Or.inr hx
    · rename_i hq
      simp only [mem_recs_cons, ih h.2.2]
      rw [or_and_right, and_iff_left_of_imp (a := x.1 = q ∧ x.2 ∈ es)]
      rintro ⟨h1, _⟩ e
      exact hq (h1.symm.trans (congrArg Prod.fst e))

theorem wf_delete (t : Table) (p : Prefix) (r : Roa) (h : WF t) : WF (delete t p r) := by
  induction t with
  | nil => exact h
  | cons c t ih =>
    obtain ⟨q, es⟩ := c
    rw [wf_cons] at h
    unfold delete
    split
    · exact wf_cons.mpr ⟨h.1, h.2.1.erase r, h.2.2⟩
    · exact wf_cons.mpr ⟨by rw [keys_delete]; exact h.1, h.2.1, ih h.2.2⟩

theorem mem_recs_deleteAll (t : Table) (s : Nat) (x : Rec) :
    x ∈ recs (deleteAll t s) ↔ x ∈ recs t ∧ x.2.src ≠ s := by
  simp only [mem_recs, deleteAll, List.mem_filter, List.mem_map]
  constructor
  · rintro ⟨es, ⟨⟨b, hb, e⟩, _⟩, hx⟩
    have e1 : b.1 = x.1 := congrArg Prod.fst e
    have e2 : b.2.filter (fun r => r.src != s) = es := congrArg Prod.snd e
    rw [← e2, List.mem_filter, bne_iff_ne] at hx
    exact ⟨⟨b.2, e1 ▸ hb, hx.1⟩, hx.2⟩
  · rintro ⟨⟨es, hb, hx⟩, hs⟩
    have hx' : x.2 ∈ es.filter (fun r => r.src != s) := List.mem_filter.mpr ⟨hx, bne_iff_ne.mpr hs⟩
    refine ⟨es.filter (fun r => r.src != s), ⟨⟨(x.1, es), hb, rfl⟩, ?_⟩, hx'⟩
    -- the bucket survives because it still holds `x.2`
    rw [Bool.not_eq_true', List.isEmpty_eq_false_iff]
    exact List.ne_nil_of_mem hx'

theorem wf_deleteAll (t : Table) (s : Nat) (h : WF t) : WF (deleteAll t s) := by
  constructor
  · have hsub := (List.filter_sublist (p := fun b : Prefix × List Roa => !b.2.isEmpty)
      (l := t.map fun b => (b.1, b.2.filter fun r => r.src != s))).map (·.1)
    rw [List.map_map] at hsub
    exact hsub.nodup h.1
  · intro b hb
    simp only [deleteAll, List.mem_filter, List.mem_map] at hb
    obtain ⟨⟨b', hb', rfl⟩, _⟩ := hb
    exact (h.2 b' hb').filter _

theorem mem_recs_addAll (l : List Rec) (t : Table) (x : Rec) :
    x ∈ recs (addAll t l) ↔ x ∈ l ∨ x ∈ recs t := by
  induction l generalizing t with
  | nil => simp only [addAll, List.not_mem_nil, false_or]
  | cons y ys ih =>
    obtain ⟨p, r⟩ := y
    simp only [addAll, ih, mem_recs_add, List.mem_cons]
    rw [or_left_comm, or_assoc]

theorem wf_addAll (l : List Rec) (t : Table) (h : WF t) : WF (addAll t l) := by
  induction l generalizing t with
  | nil => exact h
  | cons y ys ih => exact ih _ (wf_add t y.1 y.2 h)

theorem insLen_eq (b : Prefix × List Roa) (l : List (Prefix × List Roa)) :
    insLen b l = insertBy (fun a c => a.1.len < c.1.len) b l := by
  induction l with
  | nil => rfl
  | cons x xs ih => rw [insLen, insertBy, ih]

theorem sortLen_cons (x : Prefix × List Roa) (xs : List (Prefix × List Roa)) :
    sortLen (x :: xs) = insLen x (sortLen xs) := rfl

theorem sortLen_perm (l : List (Prefix × List Roa)) : (sortLen l).Perm l := by
  induction l with
  | nil => exact .refl _
  | cons x xs ih =>
    rw [sortLen_cons, insLen_eq]
    exact (insertBy_perm _ x _).trans (ih.cons x)

/-- the walk visits the covering prefixes by ascending length -/
theorem sortLen_sorted (l : List (Prefix × List Roa)) :
    (sortLen l).Pairwise (fun a b => a.1.len ≤ b.1.len) := by
  induction l with
  | nil => exact .nil
  | cons x xs ih =>
    rw [sortLen_cons, insLen_eq]
    exact insertBy_pairwise (R := fun a b : Prefix × List Roa => a.1.len ≤ b.1.len) Nat.le_trans (fun _ => Nat.le_of_lt)
      (fun _ => Nat.le_of_not_lt) ih

theorem mem_recs_walkMatch (t : Table) (q : Prefix) (x : Rec) :
    x ∈ recs (walkMatch t q) ↔ x ∈ recs t ∧ covers x.1 q = true := by
  simp only [mem_recs, walkMatch, (sortLen_perm _).mem_iff, List.mem_filter]
  constructor
  · rintro ⟨es, ⟨hb, hc⟩, hx⟩
    exact ⟨⟨es, hb, hx⟩, hc⟩
  · rintro ⟨⟨es, hb, hx⟩, hc⟩
    exact ⟨es, ⟨hb, hc⟩, hx⟩

theorem verdict_status (m ua ul : List Rec) :
    ((verdict m ua ul).1 = .valid ↔ m ≠ []) ∧
    ((verdict m ua ul).1 = .invalid ↔ m = [] ∧ (ua ≠ [] ∨ ul ≠ [])) ∧
    ((verdict m ua ul).1 = .notFound ↔ m = [] ∧ ua = [] ∧ ul = []) := by
  cases m with
  | cons _ _ => simp [verdict]
  | nil =>
    cases ua with
    | cons _ _ => simp [verdict]
    | nil =>
      cases ul with
      | cons _ _ => simp [verdict]
      | nil => simp [verdict]

theorem verdict_reason (m ua ul : List Rec) :
    ((verdict m ua ul).2 = .as ↔ m = [] ∧ ua ≠ []) ∧
    ((verdict m ua ul).2 = .length ↔ m = [] ∧ ua = [] ∧ ul ≠ []) := by
  cases m with
  | cons _ _ => simp [verdict]
  | nil =>
    cases ua with
    | cons _ _ => simp [verdict]
    | nil =>
      cases ul with
      | cons _ _ => simp [verdict]
      | nil => simp [verdict]

theorem isUnmatchedAs_iff (q : Prefix) (origin : Nat) (x : Rec) :
    isUnmatchedAs q.len origin x = true ↔ q.len ≤ x.2.maxLen ∧ ¬ (x.2.as = origin ∧ x.2.as ≠ 0) := by
  simp only [isUnmatchedAs, Bool.and_eq_true, decide_eq_true_eq, Bool.not_eq_true', Bool.and_eq_false_iff,
    bne_eq_false_iff_eq, beq_eq_false_iff_ne, Ne]
  rw [Decidable.not_and_iff_not_or_not, Decidable.not_not, or_comm]

theorem isUnmatchedLen_iff (q : Prefix) (x : Rec) :
    isUnmatchedLen q.len x = true ↔ x.2.maxLen < q.len := by
  simp only [isUnmatchedLen, Bool.not_eq_true', decide_eq_false_iff_not, Nat.not_le]

theorem validate_verdict (t : Table) (q : Prefix) (localAS : Nat) (segs : List Seg) :
    (validate t q localAS segs).status =
      (verdict (validate t q localAS segs).matched (validate t q localAS segs).unmatchedAs
        (validate t q localAS segs).unmatchedLen).1 ∧
    (validate t q localAS segs).reason =
      (verdict (validate t q localAS segs).matched (validate t q localAS segs).unmatchedAs
        (validate t q localAS segs).unmatchedLen).2 := by
  unfold validate
  split
  · exact ⟨rfl, rfl⟩
  · exact ⟨rfl, rfl⟩

theorem verdict_partition {P M : Rec → Prop} {m ua ul : List Rec} (hm : ∀ x, x ∈ m ↔ P x ∧ M x)
    (hall : ∀ x, x ∈ m ∨ x ∈ ua ∨ x ∈ ul ↔ P x) :
    ((verdict m ua ul).1 = .valid ↔ ∃ x, P x ∧ M x) ∧
    ((verdict m ua ul).1 = .invalid ↔ (∃ x, P x) ∧ ¬ ∃ x, P x ∧ M x) ∧
    ((verdict m ua ul).1 = .notFound ↔ ¬ ∃ x, P x) := by
  have ne {l : List Rec} : l ≠ [] ↔ ∃ x, x ∈ l :=
    ⟨List.exists_mem_of_ne_nil l, fun ⟨_, h⟩ => List.ne_nil_of_mem h⟩
  have hM : m ≠ [] ↔ ∃ x, P x ∧ M x := ne.trans (exists_congr hm)
  have hP : m ≠ [] ∨ ua ≠ [] ∨ ul ≠ [] ↔ ∃ x, P x := by
    rw [ne, ne, ne, ← exists_or, ← exists_or]
    exact exists_congr hall
  obtain ⟨hv, hi, hn⟩ := verdict_status m ua ul
  rw [hv, hi, hn, ← hM, ← hP]
  refine ⟨.rfl, ?_, ?_⟩
  · rw [Decidable.not_not]
    exact ⟨fun ⟨h1, h2⟩ => ⟨Or.inr h2, h1⟩, fun ⟨h1, h2⟩ => ⟨h2, h1.resolve_left (not_not_intro h2)⟩⟩
  · simp only [not_or, Decidable.not_not]

theorem validate_of_no_origin (t : Table) (q : Prefix) (localAS : Nat) (segs : List Seg)
    (h : originAS localAS segs = none) : validate t q localAS segs = ⟨.notFound, .none, [], [], []⟩ := by
  simp only [validate, h]

theorem before_iff (a b : Nat) (ha : a < 4294967296) (hb : b < 4294967296) :
    before a b = true ↔ b + 2147483648 ≤ a ∨ (a < b ∧ b ≤ a + 2147483648) := by
  simp only [before, decide_eq_true_eq]
  omega

end Roa
