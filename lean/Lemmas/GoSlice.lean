/-
  Frame lemmas for the Go-slice heap model (Model/GoSlice.lean): an operation whose target slices
  are nil or live in arrays allocated after a watermark `base` leaves every array below the
  watermark exactly as it was.

  Every operation lemma takes "the heap so far keeps `h0` (`Keeps base h0 h`), and the target is
  owned (`Owned`, `OwnedNode`)" and returns the same about the result, so that a sequence of
  operations is a nest of applications.
-/
import Model.GoSlice
namespace GoSlice

/-- the slice is nil-like (no capacity: any append allocates, no index is in range) or lives in an
    array allocated at or after the watermark -/
def Owned (base : Nat) (s : Slice) : Prop := (s.cap = 0 ∨ base ≤ s.arr) ∧ s.len ≤ s.cap

theorem owned_nil (base : Nat) : Owned base Slice.nil := ⟨Or.inl rfl, Nat.le_refl _⟩

theorem writeCells_nil (cells : List Nat) (i : Nat) : writeCells cells i [] = cells := by
  cases cells <;> rfl

theorem writeAt_nil (h : Heap) (a i : Nat) : writeAt h a i [] = h := by
  induction h generalizing a with
  | nil => rfl
  | cons x rest ih =>
    cases a with
    | zero => rw [writeAt, writeCells_nil]
    | succ n => rw [writeAt, ih]

theorem writeAt_take (h : Heap) (a i : Nat) (v : List Nat) (base : Nat) (hb : base ≤ a) :
    (writeAt h a i v).take base = h.take base := by
  induction h generalizing a base with
  | nil => rfl
  | cons x rest ih =>
    cases base with
    | zero => rfl
    | succ b =>
      cases a with
      | zero => exact absurd hb (Nat.not_succ_le_zero b)
      | succ n => rw [writeAt, List.take_succ_cons, List.take_succ_cons, ih n b (Nat.le_of_succ_le_succ hb)]

def Keeps (base : Nat) (h h' : Heap) : Prop := base ≤ h.length ∧ h'.take base = h.take base

theorem Keeps.refl {base : Nat} {h : Heap} (hb : base ≤ h.length) : Keeps base h h := ⟨hb, rfl⟩

theorem Keeps.le {base : Nat} {h h' : Heap} (k : Keeps base h h') : base ≤ h'.length := by
  have e := congrArg List.length k.2
  rw [List.length_take, List.length_take, Nat.min_eq_left k.1] at e
  exact e ▸ Nat.min_le_right base h'.length

theorem Keeps.writeAt {base : Nat} {h0 h : Heap} (k : Keeps base h0 h) {a : Nat} (hb : base ≤ a)
    (i : Nat) (v : List Nat) : Keeps base h0 (writeAt h a i v) :=
  ⟨k.1, (writeAt_take h a i v base hb).trans k.2⟩

theorem keeps_alloc {base : Nat} {h0 h : Heap} (k : Keeps base h0 h) (cells : List Nat) (cap : Nat) :
    Keeps base h0 (alloc h cells cap).1 ∧ Owned base (alloc h cells cap).2 :=
  ⟨⟨k.1, (List.take_append_of_le_length k.le).trans k.2⟩, .inr k.le, Nat.le_max_right _ _⟩

theorem keeps_goAppend {base : Nat} {h0 h : Heap} {s : Slice} (k : Keeps base h0 h ∧ Owned base s)
    (v : List Nat) : Keeps base h0 (goAppend h s v).1 ∧ Owned base (goAppend h s v).2 := by
  unfold goAppend
  by_cases hfit : s.len + v.length ≤ s.cap
  · rw [if_pos hfit]
    refine ⟨?_, k.2.1, hfit⟩
    rcases k.2.1 with h0 | h1
    · -- no capacity, so nothing is appended and nothing written
      have hv : v.length = 0 := (Nat.add_eq_zero_iff.1 (Nat.le_zero.1 (h0 ▸ hfit))).2
      rw [List.eq_nil_of_length_eq_zero hv, writeAt_nil]
      exact k.1
    · exact k.1.writeAt h1 _ _
  · rw [if_neg hfit]
    exact keeps_alloc k.1 _ _

theorem keeps_store {base : Nat} {h0 h : Heap} {s : Slice} (k : Keeps base h0 h ∧ Owned base s)
    (i v : Nat) : Keeps base h0 (store h s i v) := by
  unfold store
  by_cases hi : i < s.len
  · rw [if_pos hi]
    rcases k.2.1 with h0 | h1
    · exact absurd (h0 ▸ Nat.lt_of_lt_of_le hi k.2.2) (Nat.not_lt_zero i)
    · exact k.1.writeAt h1 _ _
  · rw [if_neg hi]
    exact k.1

def OwnedNode (base : Nat) (n : Node) : Prop := Owned base n.attrs ∧ Owned base n.dels

theorem keeps_setAttrGo {base : Nat} {h0 h : Heap} {n : Node} (typOf : Nat → Nat) (a : Nat)
    (k : Keeps base h0 h ∧ OwnedNode base n) :
    Keeps base h0 (setAttrGo typOf h n a).1 ∧ OwnedNode base (setAttrGo typOf h n a).2 := by
  unfold setAttrGo
  split
  · have r := keeps_alloc k.1 [a] 1
    exact ⟨r.1, r.2, k.2.2⟩
  · split
    · exact ⟨keeps_store ⟨k.1, k.2.1⟩ _ _, k.2⟩
    · have r := keeps_goAppend ⟨k.1, k.2.1⟩ [a]
      exact ⟨r.1, r.2, k.2.2⟩

theorem keeps_delAttrGo {base : Nat} {h0 h : Heap} {n : Node} (t : Nat)
    (k : Keeps base h0 h ∧ OwnedNode base n) :
    Keeps base h0 (delAttrGo h n t).1 ∧ OwnedNode base (delAttrGo h n t).2 := by
  unfold delAttrGo
  split
  · have r := keeps_alloc k.1 [t] 1
    exact ⟨r.1, k.2.1, r.2⟩
  · have r := keeps_goAppend ⟨k.1, k.2.2⟩ [t]
    exact ⟨r.1, k.2.1, r.2⟩

theorem keeps_runOps {base : Nat} {h0 h : Heap} {n : Node} (typOf : Nat → Nat) (ops : List NodeOp)
    (k : Keeps base h0 h ∧ OwnedNode base n) :
    Keeps base h0 (runOps typOf h n ops).1 ∧ OwnedNode base (runOps typOf h n ops).2 := by
  induction ops generalizing h n with
  | nil => exact k
  | cons op rest ih =>
    cases op with
    | set a => exact ih (keeps_setAttrGo typOf a k)
    | del t => exact ih (keeps_delAttrGo t k)

theorem read_of_keeps {base : Nat} {h h' : Heap} (k : Keeps base h h') (s : Slice) (hs : s.arr < base) :
    read h' s = read h s := by
  unfold read
  rw [List.getD_eq_getElem?_getD, List.getD_eq_getElem?_getD, ← List.getElem?_take_of_lt hs, k.2,
    List.getElem?_take_of_lt hs]

theorem keeps_appendAll {base : Nat} {h0 h : Heap} {out : Slice} (f : Nat → Option Nat) (xs : List Nat)
    (k : Keeps base h0 h ∧ Owned base out) :
    Keeps base h0 (appendAll f h out xs).1 ∧ Owned base (appendAll f h out xs).2 := by
  induction xs generalizing h out with
  | nil => exact k
  | cons x rest ih =>
    unfold appendAll
    split
    · exact ih (keeps_goAppend k _)
    · exact ih k

theorem keeps_filterMapGo (f : Nat → Option Nat) (h : Heap) (input : Slice) :
    Keeps h.length h (filterMapGo f h input).1 :=
  (keeps_appendAll f _ (keeps_alloc (Keeps.refl (Nat.le_refl _)) _ _)).1

theorem keeps_prependScratchNew (h : Heap) (asn repeatN rep : Nat) (asList : Slice) :
    Keeps h.length h (prependScratchNew h asn repeatN rep asList).1 :=
  (keeps_goAppend (keeps_goAppend (keeps_alloc (keeps_alloc (Keeps.refl (Nat.le_refl _)) _ _).1 _ _) _) _).1

end GoSlice
