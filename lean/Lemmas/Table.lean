/-
C02 (table level): the bucket structure `Tbl.Dests` refines a finite map prefix → destination, for
every hash function.
-/
import Model.Table
namespace Tbl

/-! The Go map of buckets (`mget` / `mset` / `mdel`) and the collision chain inside a bucket
(`chainFind` / `chainSet` / `chainErase`) are the same structure: a list of key–value pairs read and
written at the first entry with the key, and kept free of repeated keys. -/

section Assoc
variable {κ α : Type} [DecidableEq κ]

def afind : List (κ × α) → κ → Option α
  | [], _ => none
  | (k', v) :: r, k => if k' = k then some v else afind r k

def aset : List (κ × α) → κ → α → List (κ × α)
  | [], k, v => [(k, v)]
  | (k', v') :: r, k, v => if k' = k then (k, v) :: r else (k', v') :: aset r k v

def aerase : List (κ × α) → κ → List (κ × α)
  | [], _ => []
  | (k', v') :: r, k => if k' = k then r else (k', v') :: aerase r k

theorem afind_eq_none_iff (l : List (κ × α)) (k : κ) :
    afind l k = none ↔ k ∉ l.map Prod.fst := by
  induction l with
  | nil => exact ⟨fun _ => List.not_mem_nil, fun _ => rfl⟩
  | cons a r ih =>
    rw [afind, List.map_cons, List.mem_cons, not_or]
    by_cases h0 : a.1 = k
    · rw [if_pos h0]; exact ⟨nofun, fun hn => absurd h0.symm hn.1⟩
    · rw [if_neg h0, ih]; exact ⟨fun hn => ⟨Ne.symm h0, hn⟩, fun hn => hn.2⟩

theorem afind_some_mem {l : List (κ × α)} {k : κ} {v : α} (hf : afind l k = some v) :
    (k, v) ∈ l := by
  induction l with
  | nil => cases hf
  | cons a r ih =>
    rw [afind] at hf
    split at hf
    · next h0 => cases hf; rw [← h0]; exact List.mem_cons_self
    · exact List.mem_cons_of_mem _ (ih hf)

theorem mem_iff_afind {l : List (κ × α)} (hn : (l.map Prod.fst).Nodup) (k : κ) (v : α) :
    (k, v) ∈ l ↔ afind l k = some v := by
  refine ⟨fun hm => ?_, afind_some_mem⟩
  induction l with
  | nil => cases hm
  | cons a r ih =>
    rw [List.map_cons, List.nodup_cons] at hn
    rcases List.mem_cons.1 hm with hm | hm
    · rw [← hm]; exact if_pos rfl
    · have hne : ¬ a.1 = k := fun e => hn.1 (e ▸ List.mem_map.2 ⟨_, hm, rfl⟩)
      rw [afind, if_neg hne, ih hn.2 hm]

theorem afind_append (l1 l2 : List (κ × α)) (k : κ) :
    afind (l1 ++ l2) k = (afind l1 k).or (afind l2 k) := by
  induction l1 with
  | nil => rfl
  | cons a r ih =>
    rw [List.cons_append, afind, afind, ih]
    split <;> rfl

theorem afind_aset (l : List (κ × α)) (k : κ) (v : α) (k' : κ) :
    afind (aset l k v) k' = if k' = k then some v else afind l k' := by
  by_cases hk : k' = k
  · subst hk
    rw [if_pos rfl]
    induction l with
    | nil => exact if_pos rfl
    | cons a r ih =>
      rw [aset]
      split
      · exact if_pos rfl
      · next h0 => rw [afind, if_neg h0, ih]
  · have hk' : ¬ k = k' := fun e => hk e.symm
    rw [if_neg hk]
    induction l with
    | nil => exact if_neg hk'
    | cons a r ih =>
      rw [aset]
      split
      · next h0 => rw [afind, afind, if_neg hk', h0, if_neg hk']
      · rw [afind, afind, ih]

theorem aset_of_none {l : List (κ × α)} {k : κ} (hf : afind l k = none) (v : α) :
    aset l k v = l ++ [(k, v)] := by
  induction l with
  | nil => rfl
  | cons a r ih =>
    rw [afind] at hf
    split at hf
    · cases hf
    · next h0 => rw [aset, if_neg h0, ih hf]; rfl

theorem mem_aset {l : List (κ × α)} {k : κ} {v : α} {x : κ × α} (hx : x ∈ aset l k v) :
    x = (k, v) ∨ x ∈ l := by
  induction l with
  | nil => exact Or.inl (List.mem_singleton.1 hx)
  | cons a r ih =>
    rw [aset] at hx
    split at hx
    · exact (List.mem_cons.1 hx).imp_right (List.mem_cons_of_mem _)
    · rcases List.mem_cons.1 hx with hx | hx
      · exact Or.inr (hx ▸ List.mem_cons_self)
      · exact (ih hx).imp_right (List.mem_cons_of_mem _)

theorem nodup_aset {l : List (κ × α)} (k : κ) (v : α) (hn : (l.map Prod.fst).Nodup) :
    ((aset l k v).map Prod.fst).Nodup := by
  induction l with
  | nil => exact List.nodup_cons.2 ⟨List.not_mem_nil, List.nodup_nil⟩
  | cons a r ih =>
    rw [List.map_cons, List.nodup_cons] at hn
    rw [aset]
    split
    · next h0 => rw [List.map_cons, List.nodup_cons, ← h0]; exact hn
    · next h0 =>
      rw [List.map_cons, List.nodup_cons]
      refine ⟨fun hm => ?_, ih hn.2⟩
      obtain ⟨x, hx, hxa⟩ := List.mem_map.1 hm
      rcases mem_aset hx with h1 | h1
      · exact h0 (hxa ▸ h1 ▸ rfl)
      · exact hn.1 (List.mem_map.2 ⟨x, h1, hxa⟩)

theorem aerase_sublist (l : List (κ × α)) (k : κ) : (aerase l k).Sublist l := by
  induction l with
  | nil => exact List.Sublist.slnil
  | cons a r ih =>
    rw [aerase]
    split
    · exact List.sublist_cons_self a r
    · exact ih.cons_cons a

theorem afind_aerase {l : List (κ × α)} (hn : (l.map Prod.fst).Nodup) (k k' : κ) :
    afind (aerase l k) k' = if k' = k then none else afind l k' := by
  induction l with
  | nil => exact (ite_self _).symm
  | cons a r ih =>
    rw [List.map_cons, List.nodup_cons] at hn
    rw [aerase]
    split
    · next h0 =>
      -- the entry removed is the head: its key does not occur again
      by_cases hk : k' = k
      · rw [if_pos hk, hk, ← h0]; exact (afind_eq_none_iff r a.1).2 hn.1
      · rw [if_neg hk, afind, if_neg (h0 ▸ Ne.symm hk)]
    · next h0 =>
      rw [afind, afind, ih hn.2]
      by_cases hk : k' = k
      · rw [hk, if_neg h0, if_pos rfl, if_pos rfl]
      · rw [if_neg hk, if_neg hk]

theorem afind_map (f : α → α) (l : List (κ × α)) (k : κ) :
    afind (l.map (fun e => (e.1, f e.2))) k = (afind l k).map f := by
  induction l with
  | nil => rfl
  | cons a r ih =>
    rw [List.map_cons, afind, afind, ih]
    split <;> rfl

end Assoc

variable {δ ρ : Type}

theorem chainFind_eq (c : Chain δ) (p : Pfx) : chainFind c p = afind c p := by
  induction c with
  | nil => rfl
  | cons a r ih => rw [chainFind, afind, ih]

theorem chainErase_eq (c : Chain δ) (p : Pfx) : chainErase c p = aerase c p := by
  induction c with
  | nil => rfl
  | cons a r ih => rw [chainErase, aerase, ih]

/-- `chainSet` only replaces: it agrees with `aset` on a prefix the chain holds -/
theorem chainSet_eq {c : Chain δ} {p : Pfx} {d0 : δ} (hf : afind c p = some d0) (d : δ) :
    chainSet c p d = aset c p d := by
  induction c with
  | nil => cases hf
  | cons a r ih =>
    rw [afind] at hf
    rw [chainSet, aset]
    split
    · next h0 => rw [h0]
    · next h0 => rw [if_neg h0] at hf; rw [ih hf]

theorem mget_eq (t : Dests δ) (k : Nat) : mget t k = afind t k := by
  induction t with
  | nil => rfl
  | cons a r ih => rw [mget, afind, ih]

theorem mset_eq (t : Dests δ) (k : Nat) (c : Chain δ) : mset t k c = aset t k c := by
  induction t with
  | nil => rfl
  | cons a r ih => rw [mset, aset, ih]

theorem mdel_eq (t : Dests δ) (k : Nat) : mdel t k = aerase t k := by
  induction t with
  | nil => rfl
  | cons a r ih => rw [mdel, aerase, ih]

/-- a chain stored under key `k`: non-empty (empty buckets are removed), every member hashes to
    `k`, no prefix twice -/
def ChainOK (h : Pfx → Nat) (k : Nat) (c : Chain δ) : Prop :=
  c ≠ [] ∧ (∀ e ∈ c, h e.1 = k) ∧ (c.map Prod.fst).Nodup

/-- the representation invariant of the bucket structure -/
def WF (h : Pfx → Nat) (t : Dests δ) : Prop :=
  (t.map Prod.fst).Nodup ∧ ∀ kc ∈ t, ChainOK h kc.1 kc.2

theorem wf_nil (h : Pfx → Nat) : WF h ([] : Dests δ) :=
  ⟨List.nodup_nil, fun _ hm => nomatch hm⟩

theorem wf_tail {h : Pfx → Nat} {a : Nat × Chain δ} {r : Dests δ} (hw : WF h (a :: r)) :
    WF h r :=
  ⟨(List.nodup_cons.1 hw.1).2, fun kc hkc => hw.2 kc (List.mem_cons_of_mem _ hkc)⟩

theorem wf_mset {h : Pfx → Nat} {t : Dests δ} (hw : WF h t) {k : Nat} {c : Chain δ}
    (hc : ChainOK h k c) : WF h (mset t k c) := by
  rw [mset_eq]
  refine ⟨nodup_aset k c hw.1, fun kc hkc => ?_⟩
  rcases mem_aset hkc with h1 | h1
  · rw [h1]; exact hc
  · exact hw.2 kc h1

theorem wf_mdel {h : Pfx → Nat} {t : Dests δ} (hw : WF h t) (k : Nat) : WF h (mdel t k) := by
  rw [mdel_eq]
  have hs := aerase_sublist t k
  exact ⟨(hs.map Prod.fst).nodup hw.1, fun kc hkc => hw.2 kc (hs.subset hkc)⟩

theorem chainOK_of_mget {h : Pfx → Nat} {t : Dests δ} (hw : WF h t) {k : Nat} {c : Chain δ}
    (hm : mget t k = some c) : ChainOK h k c :=
  hw.2 (k, c) (afind_some_mem ((mget_eq t k).symm.trans hm))

theorem chainOK_of_keys_eq {h : Pfx → Nat} {k : Nat} {c c' : Chain δ}
    (he : c'.map Prod.fst = c.map Prod.fst) (hc : ChainOK h k c) : ChainOK h k c' := by
  refine ⟨fun e => hc.1 ?_, fun e hm => ?_, he ▸ hc.2.2⟩
  · rw [e] at he; exact List.map_eq_nil_iff.1 he.symm
  · have : e.1 ∈ c.map Prod.fst := he ▸ List.mem_map.2 ⟨e, hm, rfl⟩
    obtain ⟨e0, h0, h1⟩ := List.mem_map.1 this
    rw [← h1]; exact hc.2.1 e0 h0

/-- `c` need not be `ChainOK`: with `c = []` this is the fresh bucket -/
theorem chainOK_aset {h : Pfx → Nat} {k : Nat} {c : Chain δ} (hk : ∀ e ∈ c, h e.1 = k)
    (hn : (c.map Prod.fst).Nodup) {p : Pfx} (hp : h p = k) (d : δ) : ChainOK h k (aset c p d) := by
  refine ⟨fun e => ?_, fun e he => ?_, nodup_aset p d hn⟩
  · have := afind_aset c p d p
    rw [e, if_pos rfl] at this
    cases this
  · rcases mem_aset he with h1 | h1
    · rw [h1]; exact hp
    · exact hk e h1

theorem chainOK_aerase {h : Pfx → Nat} {k : Nat} {c : Chain δ} (hc : ChainOK h k c)
    (p : Pfx) (hne : aerase c p ≠ []) : ChainOK h k (aerase c p) :=
  have hs := aerase_sublist c p
  ⟨hne, fun e he => hc.2.1 e (hs.subset he), (hs.map Prod.fst).nodup hc.2.2⟩

theorem get_of_mget_some {h : Pfx → Nat} {t : Dests δ} {k : Nat} {c : Chain δ}
    (hm : mget t k = some c) {q : Pfx} (hq : h q = k) : get h t q = afind c q := by
  unfold get; rw [hq, hm]; exact chainFind_eq c q

theorem get_of_mget_none {h : Pfx → Nat} {t : Dests δ} {k : Nat}
    (hm : mget t k = none) {q : Pfx} (hq : h q = k) : get h t q = none := by
  unfold get; rw [hq, hm]

theorem get_mset (h : Pfx → Nat) (t : Dests δ) (k : Nat) (c : Chain δ) (q : Pfx) :
    get h (mset t k c) q = if h q = k then afind c q else get h t q := by
  unfold get
  rw [mget_eq, mset_eq, afind_aset, ← mget_eq]
  by_cases hq : h q = k
  · rw [if_pos hq, if_pos hq]; exact chainFind_eq c q
  · rw [if_neg hq, if_neg hq]

theorem get_mdel (h : Pfx → Nat) {t : Dests δ} (hn : (t.map Prod.fst).Nodup) (k : Nat) (q : Pfx) :
    get h (mdel t k) q = if h q = k then none else get h t q := by
  unfold get
  rw [mget_eq, mdel_eq, afind_aerase hn, ← mget_eq]
  by_cases hq : h q = k
  · rw [if_pos hq, if_pos hq]
  · rw [if_neg hq, if_neg hq]

theorem entries_cons (a : Nat × Chain δ) (r : Dests δ) : entries (a :: r) = a.2 ++ entries r :=
  List.flatMap_cons

theorem alookup_eq (t : Dests δ) (p : Pfx) : alookup t p = afind (entries t) p :=
  chainFind_eq _ p

theorem hash_mem_keys {h : Pfx → Nat} {t : Dests δ} (hw : WF h t) {p : Pfx}
    (hp : p ∈ (entries t).map Prod.fst) : h p ∈ t.map Prod.fst := by
  obtain ⟨e, he, rfl⟩ := List.mem_map.1 hp
  obtain ⟨kc, hkc, hekc⟩ := List.mem_flatMap.1 he
  exact List.mem_map.2 ⟨kc, hkc, ((hw.2 kc hkc).2.1 e hekc).symm⟩

theorem entries_nodup {h : Pfx → Nat} {t : Dests δ} (hw : WF h t) :
    ((entries t).map Prod.fst).Nodup := by
  induction t with
  | nil => exact List.nodup_nil
  | cons a r ih =>
    have hr := wf_tail hw
    have ha := hw.2 a List.mem_cons_self
    rw [entries_cons, List.map_append, List.nodup_append]
    refine ⟨ha.2.2, ih hr, fun x hx y hy hxy => ?_⟩
    -- a prefix in the head chain hashes to the head key, which no later bucket has
    obtain ⟨e, he, rfl⟩ := List.mem_map.1 hx
    apply (List.nodup_cons.1 hw.1).1
    rw [← ha.2.1 e he, hxy]
    exact hash_mem_keys hr hy

/-- the hash path (`Destinations.Get`) and the scan (`iterateAllDestinations`) see the same content -/
theorem get_eq_alookup {h : Pfx → Nat} {t : Dests δ} (hw : WF h t) (p : Pfx) :
    get h t p = alookup t p := by
  induction t with
  | nil => rfl
  | cons a r ih =>
    have hr := wf_tail hw
    obtain ⟨k, c⟩ := a
    have hc : ChainOK h k c := hw.2 (k, c) List.mem_cons_self
    rw [alookup_eq, entries_cons, afind_append]
    by_cases h0 : k = h p
    · have : afind (entries r) p = none :=
        (afind_eq_none_iff _ p).2 fun hm => (List.nodup_cons.1 hw.1).1 (h0 ▸ hash_mem_keys hr hm)
      rw [this, Option.or_none]
      exact get_of_mget_some (by rw [mget, if_pos h0]) rfl
    · have : afind c p = none := by
        refine (afind_eq_none_iff c p).2 fun hm => ?_
        obtain ⟨e, he, rfl⟩ := List.mem_map.1 hm
        exact h0 (hc.2.1 e he).symm
      rw [this, Option.none_or, ← alookup_eq, ← ih hr]
      unfold get
      rw [mget, if_neg h0]

theorem mem_entries_iff {h : Pfx → Nat} {t : Dests δ} (hw : WF h t) (p : Pfx) (d : δ) :
    (p, d) ∈ entries t ↔ alookup t p = some d :=
  (mem_iff_afind (entries_nodup hw) p d).trans (alookup_eq t p ▸ Iff.rfl)

/-- Replacing the bucket of `p` (content `c`, `[]` if there is none) by a chain that differs from
    it at `p` only changes `Get` at `p` only: prefixes with another hash are in other buckets. -/
theorem wf_get_mset {h : Pfx → Nat} {t : Dests δ} (hw : WF h t) {p : Pfx} {c c' : Chain δ}
    {v : Option δ} (hb : ∀ q, h q = h p → get h t q = afind c q) (hc : ChainOK h (h p) c')
    (hf : ∀ q, afind c' q = if q = p then v else afind c q) :
    WF h (mset t (h p) c') ∧
    ∀ q, get h (mset t (h p) c') q = if q = p then v else get h t q := by
  refine ⟨wf_mset hw hc, fun q => ?_⟩
  rw [get_mset, hf]
  by_cases hh : h q = h p
  · rw [if_pos hh, hb q hh]
  · rw [if_neg hh, if_neg (fun e => hh (congrArg h e))]

theorem wf_get_aset {h : Pfx → Nat} {t : Dests δ} (hw : WF h t) {p : Pfx} {c : Chain δ}
    (hb : ∀ q, h q = h p → get h t q = afind c q) (hk : ∀ e ∈ c, h e.1 = h p)
    (hn : (c.map Prod.fst).Nodup) (d : δ) :
    WF h (mset t (h p) (aset c p d)) ∧
    ∀ q, get h (mset t (h p) (aset c p d)) q = if q = p then some d else get h t q :=
  wf_get_mset hw hb (chainOK_aset hk hn rfl d) (afind_aset c p d)

theorem getOrCreate_spec {h : Pfx → Nat} {t : Dests δ} (hw : WF h t) (p : Pfx) (new : δ) :
    WF h (getOrCreate h t p new).1 ∧ (getOrCreate h t p new).2 = (get h t p).getD new ∧
    ∀ q, get h (getOrCreate h t p new).1 q =
      if q = p then some ((get h t p).getD new) else get h t q := by
  unfold getOrCreate
  cases hm : mget t (h p) with
  | none =>
    have hb : ∀ q, h q = h p → get h t q = afind [] q := fun q hq => get_of_mget_none hm hq
    obtain ⟨w, g⟩ := wf_get_aset hw hb nofun List.nodup_nil new
    rw [hb p rfl]
    exact ⟨w, rfl, g⟩
  | some c =>
    have hb : ∀ q, h q = h p → get h t q = afind c q := fun q hq => get_of_mget_some hm hq
    have hc := chainOK_of_mget hw hm
    rw [hb p rfl]
    dsimp only
    rw [chainFind_eq]
    cases hf : afind c p with
    | some d =>
      refine ⟨hw, rfl, fun q => ?_⟩
      by_cases hq : q = p
      · rw [if_pos hq, hq, hb p rfl, hf]; rfl
      · rw [if_neg hq]
    | none =>
      obtain ⟨w, g⟩ := wf_get_aset hw hb hc.2.1 hc.2.2 new
      rw [← aset_of_none hf new]
      exact ⟨w, rfl, g⟩

theorem writeBack_spec {h : Pfx → Nat} {t : Dests δ} (hw : WF h t) (p : Pfx) {d0 : δ}
    (hg : get h t p = some d0) (d : δ) :
    WF h (writeBack h t p d) ∧
    ∀ q, get h (writeBack h t p d) q = if q = p then some d else get h t q := by
  unfold writeBack
  cases hm : mget t (h p) with
  | none => rw [get_of_mget_none hm rfl] at hg; cases hg
  | some c =>
    have hb : ∀ q, h q = h p → get h t q = afind c q := fun q hq => get_of_mget_some hm hq
    have hc := chainOK_of_mget hw hm
    dsimp only
    rw [chainSet_eq ((hb p rfl).symm.trans hg) d]
    exact wf_get_aset hw hb hc.2.1 hc.2.2 d

theorem deleteDest_spec (O : DestOps δ ρ) {h : Pfx → Nat} {t : Dests δ} (hw : WF h t) (p : Pfx)
    {d0 : δ} (hg : get h t p = some d0) (d : δ) :
    WF h (deleteDest O h t p d) ∧
    ∀ q, get h (deleteDest O h t p d) q =
      if q = p then (if O.deletable d then none else some d0) else get h t q := by
  unfold deleteDest
  by_cases hd : O.deletable d = true
  · rw [if_pos hd, if_pos hd]
    cases hm : mget t (h p) with
    | none => rw [get_of_mget_none hm rfl] at hg; cases hg
    | some c =>
      have hb : ∀ q, h q = h p → get h t q = afind c q := fun q hq => get_of_mget_some hm hq
      have hc := chainOK_of_mget hw hm
      have hfe := afind_aerase hc.2.2 p
      simp only [chainFind_eq, (hb p rfl).symm.trans hg, chainErase_eq, List.isEmpty_iff]
      by_cases he : aerase c p = []
      · -- `p` was alone in its bucket: the bucket goes
        rw [if_pos he]
        refine ⟨wf_mdel hw _, fun q => ?_⟩
        rw [get_mdel h hw.1]
        by_cases hh : h q = h p
        · rw [if_pos hh, hb q hh, ← hfe q, he]; rfl
        · rw [if_neg hh, if_neg (fun e => hh (congrArg h e))]
      · rw [if_neg he]
        exact wf_get_mset hw hb (chainOK_aerase hc p he) hfe
  · rw [if_neg hd, if_neg hd]
    refine ⟨hw, fun q => ?_⟩
    by_cases hq : q = p
    · rw [if_pos hq, hq, hg]
    · rw [if_neg hq]

theorem update_spec (O : DestOps δ ρ) {h : Pfx → Nat} {t : Dests δ} (hw : WF h t) (p : Pfx) (r : ρ) :
    WF h (update O h t p r) ∧ ∀ q, get h (update O h t p r) q = aupdate O (get h t) p r q := by
  obtain ⟨g1, g2, g3⟩ := getOrCreate_spec hw p (O.fresh p)
  unfold update aupdate
  dsimp only
  rw [← g2] at g3 ⊢
  generalize getOrCreate h t p (O.fresh p) = gc at g1 g3 ⊢
  generalize O.step gc.2 r = d'
  -- `gc.1` holds `gc.2` at `p`; `Calculate` turns it into `d'`, written back in place
  obtain ⟨w1, w2⟩ := writeBack_spec g1 p ((g3 p).trans (if_pos rfl)) d'
  obtain ⟨d1, d2⟩ := deleteDest_spec O w1 p ((w2 p).trans (if_pos rfl)) d'
  cases hE : O.isEmpty d' with
  | true =>
    rw [if_pos rfl]
    refine ⟨d1, fun q => ?_⟩
    rw [d2, w2, g3, Bool.true_and]
    by_cases hq : q = p
    · rw [if_pos hq, if_pos hq]
    · rw [if_neg hq, if_neg hq, if_neg hq, if_neg hq]
  | false =>
    rw [if_neg Bool.false_ne_true]
    refine ⟨w1, fun q => ?_⟩
    rw [w2, g3, Bool.false_and, if_neg Bool.false_ne_true]
    by_cases hq : q = p
    · rw [if_pos hq, if_pos hq]
    · rw [if_neg hq, if_neg hq, if_neg hq]

theorem wf_update (O : DestOps δ ρ) {h : Pfx → Nat} {t : Dests δ} (hw : WF h t) (p : Pfx) (r : ρ) :
    WF h (update O h t p r) :=
  (update_spec O hw p r).1

theorem get_update (O : DestOps δ ρ) {h : Pfx → Nat} {t : Dests δ} (hw : WF h t) (p : Pfx) (r : ρ)
    (q : Pfx) : get h (update O h t p r) q = aupdate O (get h t) p r q :=
  (update_spec O hw p r).2 q

theorem insertUpdate_spec {h : Pfx → Nat} {t : Dests δ} (hw : WF h t) (e : Pfx × δ) :
    WF h (insertUpdate h t e).1 ∧
    ∀ q, get h (insertUpdate h t e).1 q = if q = e.1 then some e.2 else get h t q := by
  obtain ⟨p, d⟩ := e
  unfold insertUpdate
  dsimp only
  cases hm : mget t (h p) with
  | none => exact wf_get_aset hw (c := []) (fun q hq => get_of_mget_none hm hq) nofun List.nodup_nil d
  | some c =>
    have hc := chainOK_of_mget hw hm
    have hs := wf_get_aset hw (fun q hq => get_of_mget_some hm hq) hc.2.1 hc.2.2 d
    dsimp only
    rw [chainFind_eq]
    cases hf : afind c p with
    | some d0 => rw [chainSet_eq hf d]; exact hs
    | none => rw [← aset_of_none hf d]; exact hs

theorem wf_insertUpdate {h : Pfx → Nat} {t : Dests δ} (hw : WF h t) (e : Pfx × δ) :
    WF h (insertUpdate h t e).1 :=
  (insertUpdate_spec hw e).1

theorem get_insertUpdate {h : Pfx → Nat} {t : Dests δ} (hw : WF h t) (e : Pfx × δ) (q : Pfx) :
    get h (insertUpdate h t e).1 q = if q = e.1 then some e.2 else get h t q :=
  (insertUpdate_spec hw e).2 q

/-- `InsertUpdate` reports a collision exactly when the prefix is new and its bucket is occupied -/
theorem insertUpdate_collision {h : Pfx → Nat} {t : Dests δ} (hw : WF h t) (e : Pfx × δ) :
    (insertUpdate h t e).2 = true ↔
      get h t e.1 = none ∧ ∃ q, h q = h e.1 ∧ (get h t q).isSome = true := by
  obtain ⟨p, d⟩ := e
  unfold insertUpdate
  cases hm : mget t (h p) with
  | none =>
    refine ⟨nofun, fun ⟨_, q, hq, hs⟩ => ?_⟩
    rw [get_of_mget_none hm hq] at hs
    cases hs
  | some c =>
    have hc := chainOK_of_mget hw hm
    rw [get_of_mget_some hm rfl]
    dsimp only
    rw [chainFind_eq]
    cases hf : afind c p with
    | some d0 => exact ⟨nofun, fun ⟨h1, _⟩ => nomatch h1⟩
    | none =>
      -- the bucket is not empty: its first member is the occupant
      refine ⟨fun _ => ⟨rfl, ?_⟩, fun _ => rfl⟩
      obtain ⟨⟨q, dq⟩, hx⟩ := List.exists_mem_of_ne_nil c hc.1
      have hq : h q = h p := hc.2.1 _ hx
      refine ⟨q, hq, ?_⟩
      rw [get_of_mget_some hm hq, (mem_iff_afind hc.2.2 q dq).1 hx]
      rfl

theorem foldl_refines {α : Type} {h : Pfx → Nat} {f : Dests δ → α → Dests δ}
    {g : AMap δ → α → AMap δ}
    (hf : ∀ t a, WF h t → WF h (f t a) ∧ ∀ q, get h (f t a) q = g (get h t) a q)
    (l : List α) (t0 : Dests δ) (hw : WF h t0) :
    WF h (l.foldl f t0) ∧ get h (l.foldl f t0) = l.foldl g (get h t0) := by
  induction l generalizing t0 with
  | nil => exact ⟨hw, rfl⟩
  | cons a r ih =>
    rw [List.foldl_cons, List.foldl_cons, ← funext (hf t0 a hw).2]
    exact ih _ (hf t0 a hw).1

theorem run_refines (O : DestOps δ ρ) (h : Pfx → Nat) (ops : List (Pfx × ρ)) :
    WF h (run O h ops) ∧ get h (run O h ops) = arun O ops :=
  foldl_refines (α := Pfx × ρ) (f := fun t o => update O h t o.1 o.2) (g := fun m o => aupdate O m o.1 o.2)
    (fun _ o hw => update_spec O hw o.1 o.2) ops [] (wf_nil h)

theorem run_wf (O : DestOps δ ρ) (h : Pfx → Nat) (ops : List (Pfx × ρ)) : WF h (run O h ops) :=
  (run_refines O h ops).1

theorem run_get (O : DestOps δ ρ) (h : Pfx → Nat) (ops : List (Pfx × ρ)) (p : Pfx) :
    get h (run O h ops) p = arun O ops p :=
  congrFun (run_refines O h ops).2 p

theorem fromList_refines (h : Pfx → Nat) (l : List (Pfx × δ)) :
    WF h (fromList h l) ∧ get h (fromList h l) = afromList l :=
  foldl_refines (α := Pfx × δ) (f := fun t e => (insertUpdate h t e).1)
    (g := fun m e q => if q = e.1 then some e.2 else m q)
    (fun _ e hw => insertUpdate_spec hw e) l [] (wf_nil h)

theorem fromList_wf (h : Pfx → Nat) (l : List (Pfx × δ)) : WF h (fromList h l) :=
  (fromList_refines h l).1

theorem fromList_get (h : Pfx → Nat) (l : List (Pfx × δ)) (p : Pfx) :
    get h (fromList h l) p = afromList l p :=
  congrFun (fromList_refines h l).2 p

end Tbl
