/-
  C15, import side at the level of the abstract Loc-RIB content (`BestPath.spec`): replaying the
  accepted Adj-RIB-In through the current import policy (softResetIn) after ANY history in which
  every event was evaluated under whatever policy was in force when it arrived, yields the same
  content as the history evaluated under the current policy throughout.
-/
import Lemmas.BestPathHist
import Model.SoftResetEv
namespace SoftResetIn
open BestPath

/-- the accepted Adj-RIB-In entries for the destination: latest un-withdrawn announcement per key -/
def adjOf (evs : List Ev) : List Cand := spec (evs.map rawOp)

/-- the Loc-RIB operations of a history whose events were each evaluated under their own policy -/
def hist (evs : List (Ev × (Cand → Option Cand))) : List Op := evs.map (fun p => opOf p.2 p.1)

/-- softResetIn: every Adj-RIB-In entry goes through propagateUpdate again -/
def softOps (f : Cand → Option Cand) (A : List Cand) : List Op := A.map (fun c => opOf f (.ann c))

theorem sameKey_refl (a : Cand) : sameKey a a = true := by
  simp only [sameKey, Src.equal, beq_self_eq_true, Bool.and_self]

theorem sameKey_left {f : Cand → Option Cand} (hk : KeyPres f) {c c' : Cand} (h : f c = some c')
    (y : Cand) : sameKey c' y = sameKey c y := by
  obtain ⟨h1, h2⟩ := hk c c' h
  unfold sameKey
  rw [h1, h2]

theorem sameKey_right {f : Cand → Option Cand} (hk : KeyPres f) {c c' : Cand} (h : f c = some c')
    (y : Cand) : sameKey y c' = sameKey y c := by
  rw [sameKey_symm y c', sameKey_symm y c, sameKey_left hk h]

/-! ### one step, in uniform shape -/

theorem specStep_wd (S : List Cand) (c : Cand) :
    specStep S (.wd c) = S.filter (fun y => !sameKey c y) := by
  simp only [specStep]
  apply List.filter_congr
  intro y _
  rw [sameKey_symm]

theorem step_ann {f : Cand → Option Cand} (hk : KeyPres f) (S : List Cand) (c : Cand) :
    specStep S (opOf f (.ann c)) = (f c).toList ++ S.filter (fun y => !sameKey c y) := by
  cases h : f c with
  | none =>
    simp only [opOf, h, Option.toList, List.nil_append]
    exact specStep_wd S c
  | some c' =>
    simp only [opOf, h, specStep, Option.toList, List.singleton_append]
    congr 1
    apply List.filter_congr
    intro y _
    rw [sameKey_left hk h]

theorem step_wd (f : Cand → Option Cand) (S : List Cand) (c : Cand) :
    specStep S (opOf f (.wd c)) = S.filter (fun y => !sameKey c y) :=
  specStep_wd S c

theorem raw_ann (A : List Cand) (c : Cand) :
    specStep A (rawOp (.ann c)) = c :: A.filter (fun y => !sameKey c y) := rfl

theorem raw_wd (A : List Cand) (c : Cand) :
    specStep A (rawOp (.wd c)) = A.filter (fun y => !sameKey c y) :=
  specStep_wd A c

/-! ### the policy image of the Adj-RIB-In tracks the fresh evaluation -/

theorem filter_filterMap_key {f : Cand → Option Cand} (hk : KeyPres f) (c : Cand) (A : List Cand) :
    (A.filterMap f).filter (fun y => !sameKey c y) =
      (A.filter (fun y => !sameKey c y)).filterMap f := by
  rw [List.filter_filterMap, List.filterMap_filter]
  congr 1
  funext a
  cases h : f a with
  | none => simp
  | some a' => simp [Option.filter, sameKey_right hk h c]

theorem sim_step {f : Cand → Option Cand} (hk : KeyPres f) (A : List Cand) (e : Ev) :
    specStep (A.filterMap f) (opOf f e) = (specStep A (rawOp e)).filterMap f := by
  cases e with
  | ann c =>
    rw [step_ann hk, raw_ann, filter_filterMap_key hk, List.filterMap_cons]
    cases h : f c <;> simp
  | wd c =>
    rw [step_wd, raw_wd, filter_filterMap_key hk]

/-- fresh evaluation under `f` = policy image of the Adj-RIB-In -/
theorem fresh_eq {f : Cand → Option Cand} (hk : KeyPres f) (E : List Ev) :
    spec (E.map (opOf f)) = (adjOf E).filterMap f := by
  unfold adjOf spec
  rw [List.foldl_map, List.foldl_map]
  exact List.foldl_hom (List.filterMap f) (g₁ := fun A e => specStep A (rawOp e))
    (g₂ := fun S e => specStep S (opOf f e)) (init := []) (sim_step hk)

/-! ### every Loc-RIB entry has its key in the Adj-RIB-In -/

def Covered (S A : List Cand) : Prop := ∀ x ∈ S, ∃ a ∈ A, sameKey a x = true

theorem covered_filter {S A : List Cand} (h : Covered S A) (c : Cand) :
    Covered (S.filter (fun y => !sameKey c y)) (A.filter (fun y => !sameKey c y)) := by
  intro x hx
  rw [List.mem_filter] at hx
  obtain ⟨hxS, hcx⟩ := hx
  obtain ⟨a, haA, hax⟩ := h x hxS
  refine ⟨a, ?_, hax⟩
  rw [List.mem_filter]
  refine ⟨haA, ?_⟩
  cases hca : sameKey c a
  · rfl
  · have : sameKey c x = true := sameKey_trans c a x hca hax
    simp [this] at hcx

theorem nodupKey_raw {A : List Cand} (h : NodupKey A) (e : Ev) :
    NodupKey (specStep A (rawOp e)) := by
  cases e with
  | ann c =>
    rw [raw_ann]
    unfold NodupKey
    rw [List.pairwise_cons]
    refine ⟨?_, nodupKey_filter A _ h⟩
    intro y hy
    have := (List.mem_filter.mp hy).2
    simpa using this
  | wd c =>
    rw [raw_wd]
    exact nodupKey_filter A _ h

theorem covered_step {f : Cand → Option Cand} (hk : KeyPres f) {S A : List Cand}
    (h : Covered S A) (e : Ev) : Covered (specStep S (opOf f e)) (specStep A (rawOp e)) := by
  cases e with
  | ann c =>
    rw [step_ann hk, raw_ann]
    intro x hx
    rw [List.mem_append] at hx
    rcases hx with hx | hx
    · refine ⟨c, List.mem_cons_self, ?_⟩
      rw [sameKey_right hk (Option.mem_toList.mp hx)]
      exact sameKey_refl c
    · obtain ⟨a, ha, hax⟩ := covered_filter h c x hx
      exact ⟨a, List.mem_cons_of_mem _ ha, hax⟩
  | wd c =>
    rw [step_wd, raw_wd]
    exact covered_filter h c

theorem inv_fold (evs : List (Ev × (Cand → Option Cand))) (hk : ∀ p ∈ evs, KeyPres p.2) :
    ∀ S A : List Cand, NodupKey A → Covered S A →
      NodupKey (((evs.map (·.1)).map rawOp).foldl specStep A) ∧
        Covered ((hist evs).foldl specStep S) (((evs.map (·.1)).map rawOp).foldl specStep A) := by
  induction evs with
  | nil => intro S A hn hc; exact ⟨hn, hc⟩
  | cons p evs ih =>
    intro S A hn hc
    simp only [hist, List.map_cons, List.foldl_cons]
    have hkp : KeyPres p.2 := hk p List.mem_cons_self
    have hk' : ∀ q ∈ evs, KeyPres q.2 := fun q hq => hk q (List.mem_cons_of_mem _ hq)
    exact ih hk' _ _ (nodupKey_raw hn p.1) (covered_step hkp hc p.1)

theorem inv_hist (evs : List (Ev × (Cand → Option Cand))) (hk : ∀ p ∈ evs, KeyPres p.2) :
    NodupKey (adjOf (evs.map (·.1))) ∧ Covered (spec (hist evs)) (adjOf (evs.map (·.1))) :=
  inv_fold evs hk [] [] List.Pairwise.nil (fun _ h => by simp at h)

/-! ### what a soft reset does to an arbitrary content -/

theorem soft_fold {f : Cand → Option Cand} (hk : KeyPres f) (B : List Cand) :
    ∀ S : List Cand, NodupKey B →
      (softOps f B).foldl specStep S =
        B.reverse.filterMap f ++ S.filter (fun x => !B.any (fun b => sameKey b x)) := by
  induction B with
  | nil =>
    intro S _
    simp only [softOps, List.map_nil, List.foldl_nil, List.reverse_nil, List.filterMap_nil,
      List.nil_append, List.any_nil, Bool.not_false]
    symm
    rw [List.filter_eq_self]
    intro _ _
    rfl
  | cons b B ih =>
    intro S hn
    obtain ⟨hb, hn'⟩ := List.pairwise_cons.mp hn
    have hsoft : softOps f (b :: B) = opOf f (.ann b) :: softOps f B := rfl
    rw [hsoft, List.foldl_cons, step_ann hk, ih _ hn', List.filter_append, List.reverse_cons,
      List.filterMap_append, List.append_assoc]
    congr 2
    · -- what `f b` installs has the key of `b`, which no other member of `B` has
      cases hfb : f b with
      | none => simp [hfb]
      | some c' =>
        have : B.any (fun y => sameKey y c') = false := by
          rw [List.any_eq_false]
          intro y hy
          rw [sameKey_right hk hfb, sameKey_symm, hb y hy]
          simp
        simp [hfb, this]
    · rw [List.filter_filter]
      apply List.filter_congr
      intro x _
      simp [List.any_cons, Bool.and_comm]

theorem soft_covered {f : Cand → Option Cand} (hk : KeyPres f) (A S : List Cand)
    (hn : NodupKey A) (hc : Covered S A) :
    (softOps f A).foldl specStep S = A.reverse.filterMap f := by
  rw [soft_fold hk A S hn]
  have : S.filter (fun x => !A.any (fun b => sameKey b x)) = [] := by
    rw [List.filter_eq_nil_iff]
    intro x hx
    obtain ⟨a, ha, hax⟩ := hc x hx
    have : A.any (fun b => sameKey b x) = true := List.any_eq_true.mpr ⟨a, ha, hax⟩
    simp [this]
  rw [this, List.append_nil]

theorem covered_image {f : Cand → Option Cand} (hk : KeyPres f) (A : List Cand) :
    Covered (A.reverse.filterMap f) A := by
  intro x hx
  rw [List.mem_filterMap] at hx
  obtain ⟨a, ha, hfa⟩ := hx
  refine ⟨a, List.mem_reverse.mp ha, ?_⟩
  rw [sameKey_right hk hfa]
  exact sameKey_refl a

theorem spec_append (a b : List Op) : spec (a ++ b) = b.foldl specStep (spec a) :=
  List.foldl_append ..

theorem nodupKey_perm {l l' : List Cand} (h : NodupKey l) (hp : l.Perm l') : NodupKey l' := by
  unfold NodupKey at *
  exact h.perm hp (fun {x y} hxy => by rw [sameKey_symm]; exact hxy)

/-- content after a history and a replay of its Adj-RIB-In content `B`, visited in any order -/
theorem spec_soft_eq (f1 : Cand → Option Cand) (evs : List (Ev × (Cand → Option Cand)))
    (hk1 : KeyPres f1) (hk : ∀ p ∈ evs, KeyPres p.2) (B : List Cand)
    (hB : B.Perm (adjOf (evs.map (·.1)))) :
    spec (hist evs ++ softOps f1 B) = B.reverse.filterMap f1 := by
  obtain ⟨hn, hc⟩ := inv_hist evs hk
  rw [spec_append]
  refine soft_covered hk1 B _ (nodupKey_perm hn hB.symm) fun x hx => ?_
  obtain ⟨a, ha, hax⟩ := hc x hx
  exact ⟨a, hB.symm.subset ha, hax⟩

/-- after the replay under `f1` the content is that of ANY history `evs2` with the same
    Adj-RIB-In content, evaluated under `f1` throughout: the image of that content under `f1` -/
theorem spec_soft_perm (f1 : Cand → Option Cand) (evs evs2 : List (Ev × (Cand → Option Cand)))
    (hk1 : KeyPres f1) (hk : ∀ p ∈ evs, KeyPres p.2) (B : List Cand)
    (hB : B.Perm (adjOf (evs.map (·.1))))
    (hA : (adjOf (evs2.map (·.1))).Perm (adjOf (evs.map (·.1)))) :
    (spec (hist evs ++ softOps f1 B)).Perm (spec ((evs2.map (·.1)).map (opOf f1))) := by
  rw [spec_soft_eq f1 evs hk1 hk B hB, fresh_eq hk1]
  exact ((List.reverse_perm B).trans (hB.trans hA.symm)).filterMap f1

/-- content after history + soft reset in = content of the same events under the current policy -/
theorem spec_soft_eq_fresh (f1 : Cand → Option Cand) (evs : List (Ev × (Cand → Option Cand)))
    (hk1 : KeyPres f1) (hk : ∀ p ∈ evs, KeyPres p.2) :
    (spec (hist evs ++ softOps f1 (adjOf (evs.map (·.1))))).Perm
      (spec ((evs.map (·.1)).map (opOf f1))) :=
  spec_soft_perm f1 evs evs hk1 hk _ (List.Perm.refl _) (List.Perm.refl _)

/-- a second soft reset in changes nothing -/
theorem spec_soft_idem (f1 : Cand → Option Cand) (evs : List (Ev × (Cand → Option Cand)))
    (hk1 : KeyPres f1) (hk : ∀ p ∈ evs, KeyPres p.2) :
    (spec (hist evs ++ softOps f1 (adjOf (evs.map (·.1))) ++ softOps f1 (adjOf (evs.map (·.1))))).Perm
      (spec (hist evs ++ softOps f1 (adjOf (evs.map (·.1))))) := by
  obtain ⟨hn, _⟩ := inv_hist evs hk
  rw [spec_append, spec_soft_eq f1 evs hk1 hk _ (List.Perm.refl _),
    soft_covered hk1 _ _ hn (covered_image hk1 _)]

/-- **soft reset in, one destination, against a second history.** `evs` is the history of the
    speaker that is reset (each event with the import function in force when it arrived), `B` its
    Adj-RIB-In content in the order the replay visits it, `evs2` ANY history with the same
    Adj-RIB-In content up to order. After the replay under `f1` the Loc-RIB path list is that of
    `evs2` evaluated under `f1` throughout: both have the image of the content under `f1` as their
    live candidates, and without ties the path list is a function of the live candidates. -/
theorem soft_in_run_eq (o : Opts) (f1 : Cand → Option Cand)
    (evs evs2 : List (Ev × (Cand → Option Cand))) (hk1 : KeyPres f1) (hk : ∀ p ∈ evs, KeyPres p.2)
    (B : List Cand) (hB : B.Perm (adjOf (evs.map (·.1))))
    (hA : (adjOf (evs2.map (·.1))).Perm (adjOf (evs.map (·.1))))
    (wf : SetWF o (opCands ((evs2.map (·.1)).map (opOf f1)) ++ opCands (hist evs ++ softOps f1 B)))
    (distinct : (spec ((evs2.map (·.1)).map (opOf f1))).Pairwise (fun a b => key o a ≠ key o b)) :
    BestPath.run o (hist evs ++ softOps f1 B) = BestPath.run o ((evs2.map (·.1)).map (opOf f1)) :=
  (run_eq_of_spec_perm o (wf.sub fun _ h => List.mem_append_left _ h)
    (wf.sub fun _ h => List.mem_append_right _ h) distinct
    (spec_soft_perm f1 evs evs2 hk1 hk B hB hA).symm).symm

end SoftResetIn
