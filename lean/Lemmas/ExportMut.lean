/-
  Frame / effect lemmas for the path mutators of Model/Export.lean: what each one does to the
  per-type view (getAttr), to the receiver node's `dels`, and the fields it leaves alone.
-/
import Lemmas.ExportOverlay
namespace Export

/-- `q` was obtained from `p` by writing to the receiver node only -/
structure SameNode (p q : Path) : Prop where
  parents  : q.parents = p.parents
  src      : q.src = p.src
  family   : q.family = p.family
  withdraw : q.withdraw = p.withdraw
  nlri     : q.nlri = p.nlri

theorem SameNode.refl (p : Path) : SameNode p p := ⟨rfl, rfl, rfl, rfl, rfl⟩
theorem SameNode.trans {p q r : Path} (h1 : SameNode p q) (h2 : SameNode q r) : SameNode p r :=
  ⟨h2.parents.trans h1.parents, h2.src.trans h1.src, h2.family.trans h1.family,
   h2.withdraw.trans h1.withdraw, h2.nlri.trans h1.nlri⟩
theorem sameNode_setAttr (p : Path) (a : Attr) : SameNode p (setAttr p a) := ⟨rfl, rfl, rfl, rfl, rfl⟩
theorem sameNode_delAttr (p : Path) (t : Nat) : SameNode p (delAttr p t) := ⟨rfl, rfl, rfl, rfl, rfl⟩

theorem isLocal_congr {p q : Path} (h : SameNode p q) : isLocal q = isLocal p := by
  rw [isLocal, h.src]; rfl

@[simp] theorem dels_setAttr (p : Path) (a : Attr) : (setAttr p a).leaf.dels = p.leaf.dels := rfl
@[simp] theorem dels_delAttr (p : Path) (t : Nat) : (delAttr p t).leaf.dels = p.leaf.dels ++ [t] := rfl
@[simp] theorem dels_clone (p : Path) (w : Bool) : (clone p w).leaf.dels = [] := rfl

/-- The frame relation: `q` is `p` after writes to the receiver node that concern only the attribute
    types in `fp`.  `live` is there because getPathAttr looks at `dels` first: a later setPathAttr
    of a type deleted in the receiver node would not show. -/
structure Touches (fp : List Nat) (p q : Path) : Prop where
  same  : SameNode p q
  frame : ∀ t, t ∉ fp → getAttr q t = getAttr p t
  live  : ∀ t, t ∉ fp → t ∉ p.leaf.dels → t ∉ q.leaf.dels

theorem Touches.refl (fp : List Nat) (p : Path) : Touches fp p p :=
  ⟨SameNode.refl p, fun _ _ => rfl, fun _ _ h => h⟩

theorem Touches.trans {fp : List Nat} {p q r : Path} (h1 : Touches fp p q) (h2 : Touches fp q r) :
    Touches fp p r :=
  ⟨h1.same.trans h2.same, fun t ht => (h2.frame t ht).trans (h1.frame t ht),
   fun t ht h => h2.live t ht (h1.live t ht h)⟩

theorem Touches.mono {fp fp' : List Nat} {p q : Path} (h : Touches fp p q) (hs : ∀ t ∈ fp, t ∈ fp') :
    Touches fp' p q :=
  ⟨h.same, fun t ht => h.frame t (fun hh => ht (hs t hh)), fun t ht => h.live t (fun hh => ht (hs t hh))⟩

theorem touches_setAttr {fp : List Nat} (p : Path) {a : Attr} (h : a.typ ∈ fp) : Touches fp p (setAttr p a) :=
  ⟨sameNode_setAttr p a, fun t ht => by rw [getAttr_setAttr, if_neg (fun e : t = a.typ => ht (e ▸ h))], fun _ _ hd => hd⟩

theorem touches_delAttr {fp : List Nat} (p : Path) {d : Nat} (h : d ∈ fp) : Touches fp p (delAttr p d) := by
  refine ⟨sameNode_delAttr p d, fun t ht => by rw [getAttr_delAttr, if_neg (fun e : t = d => ht (e ▸ h))], ?_⟩
  intro t ht hd hm
  rcases List.mem_append.1 hm with h' | h'
  · exact hd h'
  · exact ht (List.mem_singleton.1 h' ▸ h)

theorem getAsPath_setAttr_asPath (p : Path) (segs : List Seg) (h : tAS_PATH ∉ p.leaf.dels) :
    getAsPath (setAttr p (mkAsPath segs)) = some segs := by
  rw [getAsPath, getAttr_setAttr_self p (t := tAS_PATH) rfl h]; rfl

theorem getAsPath_congr {p q : Path} (h : getAttr q tAS_PATH = getAttr p tAS_PATH) :
    getAsPath q = getAsPath p := by rw [getAsPath, h]; rfl

theorem touches_setNextHopAttr {fp : List Nat} (p : Path) (nh : Addr) (h : tNEXT_HOP ∈ fp) :
    Touches fp p (setNextHopAttr p nh) := by
  unfold setNextHopAttr; split
  · exact touches_setAttr p h
  · exact Touches.refl fp p

theorem touches_setMpNexthop {fp : List Nat} (p : Path) (nh : Addr) (h : tMP_REACH ∈ fp) :
    Touches fp p (setMpNexthop p nh) := by
  unfold setMpNexthop; split
  · exact touches_setAttr p h
  · exact Touches.refl fp p

theorem touches_setNexthop {fp : List Nat} (p : Path) (nh : Addr) (h3 : tNEXT_HOP ∈ fp) (h14 : tMP_REACH ∈ fp) :
    Touches fp p (setNexthop p nh) := by
  unfold setNexthop
  split
  · exact (touches_delAttr p h3).trans (touches_setAttr _ h14)
  · exact (touches_setNextHopAttr p nh h3).trans (touches_setMpNexthop _ nh h14)

/-- the segment arithmetic of PrependAsn on the AS_PATH value -/
def prependSegs (asn repeatN : Nat) (confed : Bool) (segs0 : List Seg) : List Seg :=
  let segType := if confed then 3 else 2
  let asns := List.replicate repeatN asn
  let r : List Seg × List Nat :=
    match segs0 with
    | s :: rest =>
      if s.typ == segType then
        let rep := if repeatN + s.as.length > 255 then 255 - s.as.length else repeatN
        (({ typ := segType, as := asns.take rep ++ s.as } : Seg) :: rest, asns.drop rep)
      else (segs0, asns)
    | [] => (segs0, asns)
  if r.2.length > 0 then ({ typ := segType, as := r.2 } : Seg) :: r.1 else r.1

theorem prependAsn_eq (p : Path) (asn n : Nat) (confed : Bool) :
    prependAsn p asn n confed = setAttr p (mkAsPath (prependSegs asn n confed ((getAsPath p).getD []))) := by
  unfold prependAsn prependSegs
  cases h : (getAsPath p).getD [] with
  | nil => rfl
  | cons s rest => rfl

theorem touches_prependAsn {fp : List Nat} (p : Path) (asn n : Nat) (confed : Bool) (h : tAS_PATH ∈ fp) :
    Touches fp p (prependAsn p asn n confed) := by
  rw [prependAsn_eq]; exact touches_setAttr p h

@[simp] theorem dels_prependAsn (p : Path) (asn n : Nat) (confed : Bool) :
    (prependAsn p asn n confed).leaf.dels = p.leaf.dels := by
  rw [prependAsn_eq]; rfl

theorem getAsPath_prependAsn (p : Path) (asn n : Nat) (confed : Bool) (h : tAS_PATH ∉ p.leaf.dels) :
    getAsPath (prependAsn p asn n confed) = some (prependSegs asn n confed ((getAsPath p).getD [])) := by
  rw [prependAsn_eq]; exact getAsPath_setAttr_asPath _ _ h

theorem touches_removePrivateAS {fp : List Nat} (p : Path) (l o : Nat) (h : tAS_PATH ∈ fp) :
    Touches fp p (removePrivateAS p l o) := by
  unfold removePrivateAS
  split
  · exact Touches.refl fp p
  · split
    · exact touches_setAttr p h
    · exact Touches.refl fp p

@[simp] theorem dels_removePrivateAS (p : Path) (l o : Nat) :
    (removePrivateAS p l o).leaf.dels = p.leaf.dels := by
  unfold removePrivateAS
  split
  · rfl
  · split <;> rfl

/-- RemovePrivateAS on the AS_PATH value -/
def rmPrivOpt (localAS option : Nat) (segs : List Seg) : List Seg :=
  if option == 1 || option == 2 then rmPrivSegs localAS (option == 2) segs else segs

theorem getAsPath_removePrivateAS (p : Path) (l o : Nat) (h : tAS_PATH ∉ p.leaf.dels) :
    getAsPath (removePrivateAS p l o) = (getAsPath p).map (rmPrivOpt l o) := by
  unfold removePrivateAS rmPrivOpt
  cases hg : getAsPath p with
  | none => exact hg
  | some segs =>
    simp only [Option.map_some]
    split
    · exact getAsPath_setAttr_asPath _ _ h
    · exact hg

theorem touches_removeConfedAs {fp : List Nat} (p : Path) (h : tAS_PATH ∈ fp) : Touches fp p (removeConfedAs p) := by
  unfold removeConfedAs
  split
  · exact Touches.refl fp p
  · exact touches_setAttr p h

theorem getAsPath_removeConfedAs (p : Path) (h : tAS_PATH ∉ p.leaf.dels) :
    getAsPath (removeConfedAs p) = (getAsPath p).map dropConfed := by
  unfold removeConfedAs
  cases hg : getAsPath p with
  | none => exact hg
  | some segs => exact getAsPath_setAttr_asPath _ _ h

theorem touches_removeLocalPref {fp : List Nat} (p : Path) (h : tLOCAL_PREF ∈ fp) :
    Touches fp p (removeLocalPref p) := by
  unfold removeLocalPref
  split
  · exact touches_delAttr p h
  · exact Touches.refl fp p

theorem getAttr_removeLocalPref (p : Path) : getAttr (removeLocalPref p) tLOCAL_PREF = none := by
  unfold removeLocalPref
  split
  · exact (getAttr_delAttr p _ _).trans (if_pos rfl)
  · assumption

/-- whether one round of the first loop of UpdatePathAttrs (`stripStep`) deletes the type of `a` -/
def strips (peer : Peer) (a : Attr) : Bool :=
  if known a.typ then
    (a.typ == tCLUSTER_LIST || a.typ == tORIGINATOR_ID) && (peer.peerType != 0 || !peer.rrClient)
  else !transitive a.flags

theorem strips_known {peer : Peer} {a : Attr} (hk : known a.typ = true) :
    strips peer a = true ↔
      (a.typ = tCLUSTER_LIST ∨ a.typ = tORIGINATOR_ID) ∧ (peer.peerType ≠ 0 ∨ peer.rrClient = false) := by
  rw [strips, if_pos hk]
  simp only [Bool.and_eq_true, Bool.or_eq_true, beq_iff_eq, bne_iff_ne, Bool.not_eq_true']

theorem strips_unknown {peer : Peer} {a : Attr} (hk : known a.typ = false) :
    strips peer a = !transitive a.flags := by
  rw [strips, hk]; rfl

theorem stripStep_eq (peer : Peer) (p : Path) (a : Attr) :
    stripStep peer p a = if strips peer a then delAttr p a.typ else p := by
  unfold stripStep strips
  cases known a.typ
  · rfl
  · generalize (a.typ == tCLUSTER_LIST || a.typ == tORIGINATOR_ID) = c1
    generalize (peer.peerType != 0 || !peer.rrClient) = c2
    cases c1 <;> cases c2 <;> rfl

/-- the types the first loop deletes, in order -/
def stripDels (peer : Peer) (l : List Attr) : List Nat := (l.filter (strips peer)).map (·.typ)

theorem mem_stripDels_iff {peer : Peer} {l : List Attr} {t : Nat} :
    t ∈ stripDels peer l ↔ ∃ a ∈ l, strips peer a = true ∧ a.typ = t := by
  simp only [stripDels, List.mem_map, List.mem_filter, and_assoc]

theorem stripDels_cons (peer : Peer) (a : Attr) (rest : List Attr) :
    stripDels peer (a :: rest) =
      if strips peer a then a.typ :: stripDels peer rest else stripDels peer rest := by
  simp only [stripDels, List.filter_cons]
  split <;> rfl

theorem stripFold_eq (peer : Peer) (l : List Attr) (p : Path) :
    l.foldl (stripStep peer) p =
      { p with leaf := { p.leaf with dels := p.leaf.dels ++ stripDels peer l } } := by
  induction l generalizing p with
  | nil => simp only [List.foldl_nil, stripDels, List.filter_nil, List.map_nil, List.append_nil]
  | cons a rest ih =>
    rw [List.foldl_cons, ih, stripStep_eq, stripDels_cons]
    split
    · simp only [delAttr, List.append_assoc, List.singleton_append]
    · rfl

/-- the state after Clone + the first loop -/
def stripped (peer : Peer) (p : Path) : Path :=
  (getAttrs (clone p p.withdraw)).foldl (stripStep peer) (clone p p.withdraw)

theorem getAttrs_clone (p : Path) (w : Bool) : ∀ t, findTyp t (getAttrs (clone p w)) = findTyp t (getAttrs p) := by
  intro t; rw [findTyp_getAttrs, findTyp_getAttrs, getAttr_clone]

theorem stripped_eq (peer : Peer) (p : Path) :
    stripped peer p =
      { p with leaf := ⟨[], stripDels peer (getAttrs (clone p p.withdraw))⟩, parents := p.leaf :: p.parents } := by
  rw [stripped, stripFold_eq]; rfl

theorem stripped_dels (peer : Peer) (p : Path) :
    (stripped peer p).leaf.dels = stripDels peer (getAttrs (clone p p.withdraw)) := by
  rw [stripped_eq]

theorem getAttr_stripped (peer : Peer) (p : Path) (t : Nat) :
    getAttr (stripped peer p) t =
      if t ∈ stripDels peer (getAttrs (clone p p.withdraw)) then none else getAttr p t := by
  rw [stripped_eq, getAttr_eq]; rfl

theorem not_mem_stripDels {peer : Peer} {l : List Attr} {t : Nat} (hk : known t = true)
    (h : (t ≠ tCLUSTER_LIST ∧ t ≠ tORIGINATOR_ID) ∨ (peer.peerType = 0 ∧ peer.rrClient = true)) :
    t ∉ stripDels peer l := by
  intro hm
  obtain ⟨a, _, hs, rfl⟩ := mem_stripDels_iff.1 hm
  rw [strips_known hk] at hs
  rcases h with h | h
  · exact hs.1.elim h.1 h.2
  · exact hs.2.elim (fun e => e h.1) (fun e => Bool.noConfusion (h.2.symm.trans e))

theorem stripped_keeps (peer : Peer) (p : Path) {t : Nat} (hk : known t = true)
    (h : (t ≠ tCLUSTER_LIST ∧ t ≠ tORIGINATOR_ID) ∨ (peer.peerType = 0 ∧ peer.rrClient = true)) :
    getAttr (stripped peer p) t = getAttr p t ∧ t ∉ (stripped peer p).leaf.dels := by
  rw [getAttr_stripped, stripped_dels, if_neg (not_mem_stripDels hk h)]
  exact ⟨rfl, not_mem_stripDels hk h⟩

theorem stripped_drops (peer : Peer) (p : Path) {t : Nat} {a : Attr} (hg : getAttr p t = some a)
    (hs : strips peer a = true) : t ∈ (stripped peer p).leaf.dels := by
  rw [stripped_dels]
  exact mem_stripDels_iff.2
    ⟨a, mem_getAttrs_of_getAttr ((getAttr_clone p p.withdraw t).trans hg), hs, getAttr_some_typ hg⟩

theorem getAttr_stripped_rr_none (peer : Peer) (p : Path) {t : Nat}
    (hc : t = tCLUSTER_LIST ∨ t = tORIGINATOR_ID)
    (hp : peer.peerType ≠ 0 ∨ peer.rrClient = false) : getAttr (stripped peer p) t = none := by
  cases hg : getAttr p t with
  | none => rw [getAttr_stripped, hg, ite_self]
  | some a =>
    rw [← getAttr_some_typ hg] at hc
    have hk : known a.typ = true := by rcases hc with e | e <;> rw [e] <;> rfl
    exact getAttr_of_del _ _ (stripped_drops peer p hg ((strips_known hk).2 ⟨hc, hp⟩))

end Export
