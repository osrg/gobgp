import Lemmas.ErrSpec
/- C06: the session-level case analysis -/
namespace ErrH

theorem finish_rank (h : Handling) (l : List AttrObs) :
    (finish h l).rank = if aggErr l then 4 else min h.rank 2 := by
  unfold finish
  split
  · rfl
  · cases h <;> rfl

theorem finish_list (h : Handling) (l' l : List AttrObs)
    (hf : finish h l' = .install l ∨ finish h l' = .discardAttrs l) : l' = l := by
  unfold finish at hf
  split at hf
  · simp at hf
  · cases h <;> simp at hf <;> exact hf

theorem handlingError_revised (c : Cfg) (hr : c.revised = true) (e : MErr) :
    handlingError c e = if 3 ≤ e.h.rank then .reset else e.h := by
  unfold handlingError
  rw [if_pos hr]
  cases e.h <;> rfl

/-- what `sessionAction` does once ValidateUpdateMsg has returned `v`, `dh` being the handling of
    the decoder's error -/
def validated (c : Cfg) (dh : Handling) : Option MErr × List AttrObs → Action
  | (none, l) => finish dh l
  | (some ve, l) =>
    let vh := handlingError c ve
    if vh == .reset then .reset ve.code ve.sub
    else finish (if vh.rank > dh.rank then vh else dh) l

theorem validated_revised (c : Cfg) (hr : c.revised = true) (dh : Handling)
    (v : Option MErr × List AttrObs) :
    (3 ≤ rk v.1 ∧ (validated c dh v).rank = 4) ∨
    (rk v.1 ≤ 2 ∧ ∃ h, h.rank = max dh.rank (rk v.1) ∧ validated c dh v = finish h v.2) := by
  obtain ⟨ve, l⟩ := v
  cases ve with
  | none => exact .inr ⟨Nat.zero_le 2, dh, (Nat.max_zero _).symm, rfl⟩
  | some e =>
    simp only [validated, handlingError_revised c hr e, rk]
    by_cases h3 : 3 ≤ e.h.rank
    · exact .inl ⟨h3, by rw [if_pos h3]; rfl⟩
    · have hne : (e.h == Handling.reset) = false := by
        revert h3
        cases e.h <;> decide
      refine .inr ⟨by omega, if e.h.rank > dh.rank then e.h else dh, ?_, ?_⟩
      · split <;> omega
      · rw [if_neg h3, hne]; rfl

/-- recvMessageloop with RFC 7606 handling enabled.  Second case: after a treat-as-withdraw class
    decode error ValidateUpdateMsg does not run. -/
theorem sessionAction_revised (c : Cfg) (hr : c.revised = true) (m : AMsg) :
    let d := decode m
    let v := validate c d.attrs d.wd d.nlri
    (3 ≤ rk d.err ∧ (sessionAction c m).rank = 4) ∨
    (rk d.err = 2 ∧ sessionAction c m = finish .withdraw d.attrs) ∨
    (rk d.err ≤ 1 ∧ 3 ≤ rk v.1 ∧ (sessionAction c m).rank = 4) ∨
    (rk d.err ≤ 1 ∧ rk v.1 ≤ 2 ∧
      ∃ h, h.rank = max (rk d.err) (rk v.1) ∧ sessionAction c m = finish h v.2) := by
  unfold sessionAction
  generalize decode m = d
  obtain ⟨err, attrs, wd, nlri⟩ := d
  dsimp only
  generalize validate c attrs wd nlri = v
  -- the last alternative of the `match` in `sessionAction` is `validated c dh v`
  have tail (dh : Handling) (h1 : dh.rank ≤ 1) :=
    (validated_revised c hr dh v).imp (And.intro h1) (And.intro h1)
  cases err with
  | none => exact .inr (.inr (tail .none (Nat.zero_le 1)))
  | some e =>
    obtain ⟨code, sub, h⟩ := e
    have hE (h : Handling) : handlingError c ⟨code, sub, h⟩ = if 3 ≤ h.rank then .reset else h :=
      handlingError_revised c hr _
    cases h <;> simp only [hE, Handling.rank, Nat.reduceLeDiff, ↓reduceIte]
    case none => exact .inr (.inr (tail .none (Nat.zero_le 1)))
    case discard => exact .inr (.inr (tail .discard (Nat.le_refl 1)))
    case withdraw => exact .inr (.inl ⟨rfl, trivial⟩)
    case afisafi => exact .inl ⟨Nat.le_refl 3, rfl⟩
    case reset => exact .inl ⟨Nat.le_succ 3, rfl⟩

theorem sessionAction_sound (c : Cfg) (hr : c.revised = true) (m : AMsg)
    (hp : m.pre = none) (hn : m.nlriErr = none) :
    let D := maxRk (decodeFaults m)
    let V := maxRk (semAll c (good m.items) m.wd m.nlri)
    (3 ≤ D ∧ (sessionAction c m).rank = 4) ∨
    (D = 2 ∧ sessionAction c m = finish .withdraw (m.items.filter kept)) ∨
    (D ≤ 1 ∧ 3 ≤ V ∧ (sessionAction c m).rank = 4) ∨
    (D ≤ 1 ∧ V ≤ 2 ∧
      ∃ h, h.rank = max D V ∧ sessionAction c m = finish h (firsts (good m.items) [])) := by
  have key := sessionAction_revised c hr m
  simp only [decode_rk m hp hn] at key
  rcases key with ⟨h3, h4⟩ | ⟨h2, ha⟩ | ⟨h1, hV, h4⟩ | ⟨h1, hV, h, hh, ha⟩
  · exact .inl ⟨h3, h4⟩
  · exact .inr (.inl ⟨h2, by rw [ha, decode_eq m hp hn]⟩)
  · simp only [decode_good m hp hn h1, validate_rk] at hV
    exact .inr (.inr (.inl ⟨h1, hV, h4⟩))
  · simp only [decode_good m hp hn h1, validate_rk] at hV hh ha
    rw [validate_snd c _ _ _ (by rw [validate_rk]; omega)] at ha
    exact .inr (.inr (.inr ⟨h1, hV, h, hh, ha⟩))

theorem sessionAction_fatal (c : Cfg) (m : AMsg) (h : ¬(m.pre = none ∧ m.nlriErr = none)) :
    ∃ code sub, sessionAction c m = .reset code sub := by
  obtain ⟨x, y, he⟩ := decode_fatal m h
  refine ⟨x, y, ?_⟩
  unfold sessionAction
  simp only [he, handlingError, MErr.fatal]
  cases c.revised <;> rfl

theorem processMessage_cases (taw : Bool) (l : List AttrObs) (wd nlri : Nat) :
    isEOR l wd nlri = true ∨
    ((processMessage taw l wd nlri).announced = (if taw then 0 else nlri + lastNpfx l 14) ∧
     (processMessage taw l wd nlri).withdrawn =
      (if taw then nlri + lastNpfx l 14 + (wd + lastNpfx l 15) else wd + lastNpfx l 15)) := by
  unfold processMessage
  cases isEOR l wd nlri
  · exact .inr (by cases taw <;> exact ⟨rfl, rfl⟩)
  · exact .inl rfl

theorem sessionRun_append (c : Cfg) (history rest : List AMsg)
    (h : ∀ x ∈ history, (sessionAction c x).isReset = false) :
    sessionRun c (history ++ rest) = history.map (sessionAction c) ++ sessionRun c rest := by
  induction history with
  | nil => rfl
  | cons x l ih =>
    simp only [List.cons_append, sessionRun, h x List.mem_cons_self, Bool.false_eq_true, ↓reduceIte,
      List.map_cons, ih fun y hy => h y (List.mem_cons_of_mem x hy)]

end ErrH
