import Lemmas.PackFlat
/-! Sizes: every packed message is well-shaped and fits the limit or carries one route (`pack_good`). -/
namespace Pack

/-- shape facts the packers guarantee: MP_UNREACH / MP_REACH messages of IPv4 unicast only for the
    RFC 5549 case -/
def MsgOK : Msg → Prop
  | .wd4 _ => True
  | .ann4 _ nh _ => nhIs4 nh = true
  | .unreach f _ => f ≠ 0
  | .reach f _ nh _ => f ≠ 0 ∨ nhIs4 nh = false
  | .eor _ => True

theorem hdr_le (a : Nat) : hdr a ≤ 4 := by unfold hdr; split <;> decide
theorem hdr_ge (a : Nat) : 3 ≤ hdr a := by unfold hdr; split <;> decide

theorem hdr_mono {a b : Nat} (h : a ≤ b) : hdr a ≤ hdr b := by
  by_cases ha : a > 255
  · rw [hdr, hdr, if_pos ha, if_pos (Nat.lt_of_lt_of_le ha h)]
    exact Nat.le_refl 4
  · rw [hdr, if_neg ha]
    exact hdr_ge b

theorem le_limit (o : Opts) : 4096 ≤ limit o := by
  unfold limit; split <;> decide

theorem sumLen_single_le (o : Opts) (f : Nat) : ∀ {ns : List Nlri} {n : Nlri}, n ∈ ns →
    sumLen o f [n] ≤ sumLen o f ns
  | x :: r, n, h => by
    rw [sumLen_cons]
    rcases List.mem_cons.mp h with rfl | hm
    · exact Nat.add_le_add_left (Nat.zero_le _) _
    · exact Nat.le_trans (sumLen_single_le o f hm) (Nat.le_add_left _ _)

theorem sumLen_le_mul (o : Opts) (f B : Nat) : ∀ (ns : List Nlri), (∀ n ∈ ns, entryLen o f n ≤ B) →
    sumLen o f ns ≤ ns.length * B := by
  intro ns
  induction ns with
  | nil => intro _; exact Nat.zero_le _
  | cons x r ih =>
    intro h
    have h1 := h x List.mem_cons_self
    have h2 := ih (fun n hn => h n (List.mem_cons_of_mem _ hn))
    rw [sumLen_cons, List.length_cons, Nat.succ_mul, Nat.add_comm]
    exact Nat.add_le_add h2 h1

theorem aloneMsg_wd4 (n : Nlri) : aloneMsg ⟨0, n, none⟩ = .wd4 [n] := rfl

theorem aloneMsg_ann4 (a : Attrs) (nh : Option NH) (n : Nlri) (h : nhIs4 nh = true) :
    aloneMsg ⟨0, n, some ⟨a, nh⟩⟩ = .ann4 a nh [n] :=
  if_pos ⟨rfl, h⟩

theorem aloneMsg_unreach (f : Nat) (n : Nlri) (h : f ≠ 0) : aloneMsg ⟨f, n, none⟩ = .unreach f [n] :=
  if_neg h

theorem aloneMsg_reach (f : Nat) (a : Attrs) (nh : Option NH) (n : Nlri)
    (h : f ≠ 0 ∨ nhIs4 nh = false) : aloneMsg ⟨f, n, some ⟨a, nh⟩⟩ = .reach f a nh [n] :=
  if_neg (fun ⟨h0, h4⟩ => h.elim (fun hf => hf h0) (fun hf => Bool.noConfusion (hf.symm.trans h4)))

theorem alone_le (o : Opts) (m : Msg) (hm : MsgOK m) (c : Change) (hc : c ∈ flat m) :
    size o (aloneMsg c) ≤ size o m := by
  cases m with
  | wd4 ns =>
    obtain ⟨n, hn, rfl⟩ := List.mem_map.mp hc
    exact Nat.add_le_add_left (sumLen_single_le o 0 hn) 23
  | ann4 a nh ns =>
    obtain ⟨n, hn, rfl⟩ := List.mem_map.mp hc
    rw [aloneMsg_ann4 a nh n hm]
    exact Nat.add_le_add_left (sumLen_single_le o 0 hn) _
  | unreach f ns =>
    obtain ⟨n, hn, rfl⟩ := List.mem_map.mp hc
    rw [aloneMsg_unreach f n hm]
    have h1 := sumLen_single_le o f hn
    exact Nat.add_le_add
      (Nat.add_le_add_right (Nat.add_le_add_left (hdr_mono (Nat.add_le_add_left h1 3)) 23) 3) h1
  | reach f a nh ns =>
    obtain ⟨n, hn, rfl⟩ := List.mem_map.mp hc
    rw [aloneMsg_reach f a nh n hm]
    have h1 := sumLen_single_le o f hn
    exact Nat.add_le_add (Nat.add_le_add_right (Nat.add_le_add_right
      (Nat.add_le_add_left (hdr_mono (Nat.add_le_add_left h1 _)) _) 5) _) h1
  | eor f => cases hc

theorem single_alone (m : Msg) (hm : MsgOK m) (c : Change) (hc : flat m = [c]) : m = aloneMsg c := by
  cases m with
  | wd4 ns =>
    obtain ⟨n, rfl, rfl⟩ := List.map_eq_singleton_iff.mp hc
    exact (aloneMsg_wd4 n).symm
  | ann4 a nh ns =>
    obtain ⟨n, rfl, rfl⟩ := List.map_eq_singleton_iff.mp hc
    exact (aloneMsg_ann4 a nh n hm).symm
  | unreach f ns =>
    obtain ⟨n, rfl, rfl⟩ := List.map_eq_singleton_iff.mp hc
    exact (aloneMsg_unreach f n hm).symm
  | reach f a nh ns =>
    obtain ⟨n, rfl, rfl⟩ := List.map_eq_singleton_iff.mp hc
    exact (aloneMsg_reach f a nh n hm).symm
  | eor f => cases hc

/-- `maxN` in numbers: `n` entries of at most `B` octets after `A` fixed ones, limit `L` -/
theorem count_budget {L A B n s : Nat} (hn : n ≤ max 1 ((L - A) / B)) (hs : s ≤ n * B) :
    A + s ≤ L ∨ n ≤ 1 := by
  rcases Nat.le_total ((L - A) / B) 1 with hq | hq
  · exact Or.inr (Nat.max_eq_left hq ▸ hn)
  · left
    rw [Nat.max_eq_right hq] at hn
    -- the quotient is positive, so `L - A` is not a truncated difference
    obtain ⟨hB, hBL⟩ := Nat.div_pos_iff.mp hq
    have hA : A ≤ L := Nat.le_of_lt (Nat.lt_of_sub_pos (Nat.lt_of_lt_of_le hB hBL))
    exact Nat.add_le_of_le_sub' hA (Nat.le_trans hs
      (Nat.le_trans (Nat.mul_le_mul_right B hn) (Nat.div_mul_le_self _ _)))

/-- IPv4 prefixes are at most /32, so an NLRI entry takes at most 5 (+4) octets -/
theorem entry_v4_le (o : Opts) (n : Nlri) (h : n.bits ≤ 32) : entryLen o 0 n ≤ 5 + ap o 0 :=
  Nat.add_le_add_right (Nat.add_le_add_left (Nat.div_le_div_right (c := 8) (Nat.add_le_add_right h 7)) 1) _

/-- a chunk of packerV4 (after `alen` octets of attributes) either fits or is a single NLRI -/
theorem chunkN_good (o : Opts) (alen fuel : Nat) (l c : List Nlri) (hl : l.length ≤ fuel)
    (hb : ∀ n ∈ l, n.bits ≤ 32) (hc : c ∈ chunkN (maxN o alen) fuel l) :
    23 + alen + sumLen o 0 c ≤ limit o ∨ c.length = 1 := by
  obtain ⟨h1, h2⟩ := chunkN_mem _ (one_le_maxN o alen) _ _ c hc
  have h3 := mem_of_mem_flatten_eq (chunkN_flatten _ (one_le_maxN o alen) _ _ hl) hc
  have hs := sumLen_le_mul o 0 (5 + ap o 0) c (fun n hn => entry_v4_le o n (hb n (h3 n hn)))
  exact (count_budget h1 hs).imp_right (fun h => Nat.le_antisymm h (List.length_pos_iff.mpr h2))

theorem size_unreach_le (o : Opts) (f : Nat) (ns : List Nlri) :
    size o (.unreach f ns) ≤ 30 + sumLen o f ns :=
  Nat.add_le_add_right (Nat.add_le_add_right (Nat.add_le_add_left (hdr_le _) 23) 3) _

theorem size_reach_le (o : Opts) (f : Nat) (a : Attrs) (nh : Option NH) (sample : Nlri)
    (ns : List Nlri) (hnh : nhLen nh ≤ nhCLen nh) :
    size o (.reach f a nh ns) ≤ baseReach f a nh sample + sumLen o f ns := by
  have := hdr_le (5 + nhLen nh + sumLen o f ns)
  have := hdr_ge (5 + nhCLen nh + nlriLen f sample)
  simp only [size, baseReach]
  omega

def Good (o : Opts) (m : Msg) : Prop := MsgOK m ∧ (size o m ≤ limit o ∨ (flat m).length = 1)

theorem eor_good (o : Opts) (f : Nat) : Good o (.eor f) :=
  ⟨trivial, Or.inl (Nat.le_trans (show (if f = 0 then 23 else 29) ≤ 4096 by split <;> decide) (le_limit o))⟩

theorem wdOf_eq_some {p : Path} {n : Nlri} (h : wdOf p = some n) : p.c.n = n := by
  unfold wdOf at h
  split at h
  · exact Option.some.inj h
  · cases h

theorem annOf_eq_some {p : Path} {a : Ann} (h : annOf p = some a) :
    p.c.n = a.n ∧ p.c.act = some a.r := by
  unfold annOf at h
  split at h
  · cases h
  · next r hr => cases h; exact ⟨rfl, hr⟩

theorem packV4_good (o : Opts) (ps : List Path) (e : Bool) (hb : ∀ p ∈ ps, p.c.n.bits ≤ 32)
    (m : Msg) (hm : m ∈ packV4 o ps e) : Good o m := by
  unfold packV4 at hm
  simp only [List.mem_append] at hm
  rcases hm with ((hm | hm) | hm) | hm
  · -- withdrawals
    obtain ⟨c, hc, rfl⟩ := List.mem_map.mp hm
    refine ⟨trivial, (chunkN_good o 0 _ _ c (Nat.le_refl _) (fun n hn => ?_) hc).imp_right
      (List.length_map _).trans⟩
    obtain ⟨p, hp, e⟩ := List.mem_filterMap.mp hn
    exact wdOf_eq_some e ▸ hb p hp
  · -- cages
    obtain ⟨g, hg, hm⟩ := List.mem_flatMap.mp hm
    obtain ⟨c, hc, rfl⟩ := List.mem_map.mp hm
    obtain ⟨hne, hk⟩ := groupBy_key _ _ _ g hg
    have h4 : nhIs4 g.1.2.2.1 = true := by
      obtain ⟨a0, ha0⟩ := List.exists_mem_of_ne_nil _ hne
      obtain ⟨hkey, hmem⟩ := hk a0 ha0
      have hnh : a0.r.nh = g.1.2.2.1 := congrArg (·.2.2.1) hkey
      exact hnh ▸ (List.mem_filter.mp hmem).2
    refine ⟨h4, (chunkN_good o _ _ _ c (Nat.le_of_eq (List.length_map _)) (fun n hn => ?_) hc).imp
      (fun h => ?_) (List.length_map _).trans⟩
    · obtain ⟨a, ha, rfl⟩ := List.mem_map.mp hn
      obtain ⟨p, hp, e⟩ := List.mem_filterMap.mp (List.mem_filter.mp (hk a ha).2).1
      exact (annOf_eq_some e).1 ▸ hb p hp
    · rw [← Nat.add_assoc] at h
      exact h
  · -- RFC 5549
    obtain ⟨a, ha, rfl⟩ := List.mem_map.mp hm
    have h4 := (List.mem_filter.mp ha).2
    exact ⟨Or.inr ((Bool.not_eq_true' _).mp h4), Or.inr rfl⟩
  · rw [(mem_eorMsg.mp hm).2]
    exact eor_good o 0

theorem packMP_good (o : Opts) (f : Nat) (hf : f ≠ 0) (ps : List Path) (e : Bool)
    (hnh : ∀ p ∈ ps, ∀ r, p.c.act = some r → nhLen r.nh ≤ nhCLen r.nh)
    (m : Msg) (hm : m ∈ packMP o f ps e) : Good o m := by
  unfold packMP at hm
  simp only [List.mem_append] at hm
  rcases hm with (hm | hm) | hm
  · obtain ⟨c, hc, rfl⟩ := List.mem_map.mp hm
    exact ⟨hf, (splitMP_mem o f 30 _ c hc).2.symm.imp (Nat.le_trans (size_unreach_le o f c))
      (List.length_map _).trans⟩
  · obtain ⟨g, hg, hm⟩ := List.mem_flatMap.mp hm
    obtain ⟨_, hk⟩ := groupBy_key _ _ _ g hg
    obtain ⟨k, xs⟩ := g
    cases xs with
    | nil => cases hm
    | cons a0 rest =>
      dsimp only at hm
      obtain ⟨c, hc, rfl⟩ := List.mem_map.mp hm
      have hnhk : nhLen k.2 ≤ nhCLen k.2 := by
        obtain ⟨hkey, hmem⟩ := hk a0 List.mem_cons_self
        obtain ⟨p, hp, e⟩ := List.mem_filterMap.mp hmem
        have hk2 : a0.r.nh = k.2 := congrArg Prod.snd hkey
        exact hk2 ▸ hnh p hp a0.r (annOf_eq_some e).2
      exact ⟨Or.inl hf, (splitMP_mem o f _ _ c hc).2.symm.imp
        (Nat.le_trans (size_reach_le o f k.1 k.2 a0.n c hnhk)) (List.length_map _).trans⟩
  · rw [(mem_eorMsg.mp hm).2]
    exact eor_good o f

/-- IPv4 prefixes are at most /32; the next-hop length NewPathAttributeMpReachNLRI declares is
    not smaller than the one Serialize writes -/
def SizesOK (is : List Item) : Prop :=
  ∀ c ∈ changes is, (c.fam = 0 → c.n.bits ≤ 32) ∧ (∀ r, c.act = some r → nhLen r.nh ≤ nhCLen r.nh)

instance (is : List Item) : Decidable (SizesOK is) :=
  inferInstanceAs (Decidable (∀ c ∈ changes is,
    (c.fam = 0 → c.n.bits ≤ 32) ∧ (∀ r ∈ c.act, nhLen r.nh ≤ nhCLen r.nh)))

theorem pack_good (o : Opts) (is : List Item) (hs : SizesOK is) (m : Msg) (hm : m ∈ pack o is) :
    Good o m := by
  unfold pack at hm
  obtain ⟨g, hg, hm⟩ := List.mem_flatMap.mp hm
  obtain ⟨_, hk⟩ := groupBy_key _ _ _ g hg
  have hp : ∀ p ∈ g.2.filterMap pathOf, p.c.fam = g.1 ∧ p.c ∈ changes is := fun p hp =>
    have ⟨h1, h2⟩ := hk _ (mem_filterMap_pathOf.mp hp)
    ⟨h1, changes_dedup_sub o (mem_changes.mpr ⟨p, h2, rfl⟩)⟩
  unfold packFam at hm
  split at hm
  · next h0 =>
    exact packV4_good o _ _ (fun p hpp => (hs _ (hp p hpp).2).1 ((hp p hpp).1.trans h0)) m hm
  · next h0 =>
    exact packMP_good o g.1 h0 _ _ (fun p hpp => (hs _ (hp p hpp).2).2) m hm

theorem fitsAlone_eq_fits (o : Opts) (is : List Item) (hs : SizesOK is) (m : Msg) (hm : m ∈ pack o is)
    (c : Change) (hc : c ∈ flat m) : fitsAlone o c = fits o m := by
  obtain ⟨hok, h⟩ := pack_good o is hs m hm
  by_cases hf : size o m ≤ limit o
  · rw [fitsAlone, fits, fits, decide_eq_true hf,
      decide_eq_true (Nat.le_trans (alone_le o m hok c hc) hf)]
  · obtain ⟨d, hd⟩ := List.length_eq_one_iff.mp (h.resolve_left hf)
    obtain rfl : c = d := List.mem_singleton.mp (hd ▸ hc)
    rw [fitsAlone, ← single_alone m hok c hd]

theorem filter_flatMap_const {α β : Type} (f : α → List β) (p : α → Bool) (q : β → Bool) :
    ∀ (l : List α), (∀ a ∈ l, ∀ b ∈ f a, q b = p a) →
      (l.filter p).flatMap f = (l.flatMap f).filter q := by
  intro l
  induction l with
  | nil => intro _; rfl
  | cons a r ih =>
    intro h
    have ha := h a List.mem_cons_self
    rw [List.flatMap_cons, List.filter_append, ← ih (fun x hx => h x (List.mem_cons_of_mem _ hx))]
    cases hp : p a with
    | true =>
      rw [List.filter_cons_of_pos hp, List.flatMap_cons,
        (List.filter_eq_self (l := f a)).mpr (fun b hb => (ha b hb).trans hp)]
    | false =>
      rw [List.filter_cons_of_neg (by rw [hp]; decide),
        (List.filter_eq_nil_iff (l := f a)).mpr (fun b hb => by rw [ha b hb, hp]; decide),
        List.nil_append]

/-- `t = id`: the messages written and the routes they carry; `t = not`: those skipped -/
theorem flat_filter_pack (o : Opts) (is : List Item) (hs : SizesOK is) (t : Bool → Bool) :
    (((pack o is).filter (fun m => t (fits o m))).flatMap flat).Perm
      ((changes (dedup o is)).filter (fun c => t (fitsAlone o c))) := by
  rw [filter_flatMap_const flat _ (fun c => t (fitsAlone o c)) _
    (fun m hm c hc => congrArg t (fitsAlone_eq_fits o is hs m hm c hc))]
  exact (flat_pack o is).filter _

end Pack
