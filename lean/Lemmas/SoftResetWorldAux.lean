/-
  For the whole-speaker C15 theorems (Lemmas/SoftResetWorld.lean): list lemmas about the in-place
  Adj-RIB-In update, partitions and the peer lookup.
-/
import Model.SoftResetWorld
import Lemmas.SoftResetIn
namespace SoftResetWorld
open BestPath World SoftReset SoftResetIn

theorem replace_id (l : List Cand) (c : Cand) (h : ∀ y ∈ l, sameKey c y = true → y = c) :
    l.map (fun y => if sameKey c y then c else y) = l := by
  refine (List.map_congr_left fun y hy => ?_).trans (List.map_id l)
  split
  · exact (h y hy ‹_›).symm
  · rfl

theorem filter_none (l : List Cand) (c : Cand) (h : ∀ y ∈ l, sameKey c y = false) :
    l.filter (fun y => !sameKey c y) = l := by
  rw [List.filter_eq_self]
  intro y hy
  simp [h y hy]

theorem replace_perm (l : List Cand) (c : Cand) (hn : NodupKey l)
    (hany : l.any (fun y => sameKey c y) = true) :
    (l.map (fun y => if sameKey c y then c else y)).Perm (c :: l.filter (fun y => !sameKey c y)) := by
  induction l with
  | nil => simp at hany
  | cons y rest ih =>
    cases hcy : sameKey c y
    · have hany' : rest.any (fun y => sameKey c y) = true := by
        rw [List.any_cons, hcy, Bool.false_or] at hany
        exact hany
      have h := ih (List.pairwise_cons.mp hn).2 hany'
      simp only [List.map_cons, hcy, Bool.false_eq_true, if_false, List.filter_cons,
        Bool.not_false, if_true]
      exact (h.cons y).trans (List.Perm.swap c y _)
    · -- `y` is the one entry with the key of `c`
      have hno := hn.unique hcy
      simp only [List.map_cons, hcy, if_true, List.filter_cons, Bool.not_true,
        Bool.false_eq_true, if_false]
      rw [replace_id rest c (fun z hz e => by rw [hno z hz] at e; cases e), filter_none rest c hno]

theorem any_false_none (l : List Cand) (c : Cand) (h : ¬ (l.any (fun y => sameKey c y) = true)) :
    ∀ y ∈ l, sameKey c y = false := by
  intro y hy
  cases hcy : sameKey c y
  · rfl
  · exfalso
    apply h
    rw [List.any_eq_true]
    exact ⟨y, hy, hcy⟩

theorem adjInPlace_ann (l : List Cand) (c : Cand) :
    adjInPlace l (.ann c) = if l.any (fun y => sameKey c y) then
      l.map (fun y => if sameKey c y then c else y) else l ++ [c] := rfl

theorem adjInPlace_wd (l : List Cand) (c : Cand) :
    adjInPlace l (.wd c) = l.filter (fun y => !sameKey c y) := rfl

theorem adjInPlace_perm_self (l : List Cand) (ev : Ev) (hn : NodupKey l) :
    (adjInPlace l ev).Perm (specStep l (rawOp ev)) := by
  cases ev with
  | ann c =>
    rw [raw_ann, adjInPlace_ann]
    by_cases hany : l.any (fun y => sameKey c y) = true
    · rw [if_pos hany]
      exact replace_perm l c hn hany
    · rw [if_neg hany, filter_none l c (any_false_none l c hany)]
      exact List.perm_append_singleton c l
  | wd c =>
    rw [raw_wd, adjInPlace_wd]

theorem specStep_perm {l S : List Cand} (hp : l.Perm S) (op : Op) :
    (specStep l op).Perm (specStep S op) := by
  cases op with
  | ann c => exact (hp.filter _).cons c
  | wd c => exact hp.filter _

/-- the in-place Adj-RIB-In update refines the abstract content step -/
theorem adjInPlace_perm (l S : List Cand) (ev : Ev) (hn : NodupKey l) (hp : l.Perm S) :
    (adjInPlace l ev).Perm (specStep S (rawOp ev)) :=
  (adjInPlace_perm_self l ev hn).trans (specStep_perm hp _)

theorem adjInPlace_nodup (l : List Cand) (ev : Ev) (hn : NodupKey l) : NodupKey (adjInPlace l ev) :=
  nodupKey_perm (nodupKey_raw hn ev) (adjInPlace_perm_self l ev hn).symm

theorem adjInPlace_replay (l : List Cand) (c : Cand) (hn : NodupKey l) (hc : c ∈ l) :
    adjInPlace l (.ann c) = l := by
  rw [adjInPlace_ann]
  have hany : l.any (fun y => sameKey c y) = true := by
    rw [List.any_eq_true]
    exact ⟨c, hc, sameKey_refl c⟩
  rw [if_pos hany]
  exact replace_id l c (fun y hy hcy => (NodupKey.inj hn hc hy hcy).symm)

theorem implicitWithdraw_sublist (l : List Cand) (x : Cand) : (implicitWithdraw l x).Sublist l := by
  induction l with
  | nil => exact List.Sublist.refl _
  | cons y rest ih =>
    unfold implicitWithdraw
    by_cases h : sameKey x y = true
    · rw [if_pos h]
      exact List.sublist_cons_self y rest
    · rw [if_neg h]
      exact ih.cons_cons y

theorem explicitWithdraw_sublist (l : List Cand) (x : Cand) : (explicitWithdraw l x).Sublist l := by
  induction l with
  | nil => exact List.Sublist.refl _
  | cons y rest ih =>
    unfold explicitWithdraw
    by_cases h : (sameKey y x && !(rest.any (fun z => sameKey z x))) = true
    · rw [if_pos h]
      exact List.sublist_cons_self y rest
    · rw [if_neg h]
      exact ih.cons_cons y

theorem mem_calcStep (o : Opts) (l : List Cand) (op : Op) (c : Cand) (h : c ∈ calcStep o l op) :
    c ∈ l ∨ op = .ann c := by
  cases op with
  | ann x =>
    simp only [calcStep] at h
    have h' := (insertSort_perm o (implicitWithdraw l x) x).subset h
    rw [List.mem_cons] at h'
    rcases h' with rfl | h'
    · exact Or.inr rfl
    · exact Or.inl ((implicitWithdraw_sublist l x).subset h')
  | wd x =>
    simp only [calcStep] at h
    exact Or.inl ((explicitWithdraw_sublist l x).subset h)

theorem flatMap_congr' {α β : Type} (xs : List β) (f g : β → List α) (h : ∀ x ∈ xs, f x = g x) :
    xs.flatMap f = xs.flatMap g := by
  induction xs with
  | nil => rfl
  | cons x xs ih =>
    rw [List.flatMap_cons, List.flatMap_cons, h x List.mem_cons_self,
      ih (fun y hy => h y (List.mem_cons_of_mem _ hy))]

/-- splitting a list by pairwise exclusive, jointly exhaustive predicates and concatenating the
    parts gives a permutation of the list -/
theorem flatMap_filter_perm {α β : Type} (xs : List β) (l : List α) (p : β → α → Bool)
    (hex : ∀ a ∈ l, ∃ x ∈ xs, p x a = true)
    (huniq : xs.Pairwise (fun x y => ∀ a ∈ l, ¬(p x a = true ∧ p y a = true))) :
    (xs.flatMap (fun x => l.filter (p x))).Perm l := by
  induction xs generalizing l with
  | nil =>
    cases l with
    | nil => exact List.Perm.refl _
    | cons a l =>
      obtain ⟨x, hx, _⟩ := hex a List.mem_cons_self
      cases hx
  | cons x xs ih =>
    rw [List.pairwise_cons] at huniq
    obtain ⟨hhead, htail⟩ := huniq
    rw [List.flatMap_cons]
    have hcongr : xs.flatMap (fun y => l.filter (p y)) =
        xs.flatMap (fun y => (l.filter (fun a => !p x a)).filter (p y)) := by
      apply flatMap_congr'
      intro y hy
      rw [List.filter_filter]
      apply List.filter_congr
      intro a ha
      cases hya : p y a
      · simp
      · cases hxa : p x a
        · simp
        · exact absurd ⟨hxa, hya⟩ (hhead y hy a ha)
    rw [hcongr]
    have hex' : ∀ a ∈ l.filter (fun a => !p x a), ∃ z ∈ xs, p z a = true := by
      intro a ha
      rw [List.mem_filter] at ha
      obtain ⟨hal, hxa⟩ := ha
      obtain ⟨z, hz, hza⟩ := hex a hal
      rw [List.mem_cons] at hz
      rcases hz with rfl | hz
      · rw [hza] at hxa
        cases hxa
      · exact ⟨z, hz, hza⟩
    have huniq' : xs.Pairwise (fun y z => ∀ a ∈ l.filter (fun a => !p x a),
        ¬(p y a = true ∧ p z a = true)) :=
      htail.imp (fun {y z} h a ha => h a (List.mem_filter.mp ha).1)
    exact ((ih _ hex' huniq').append_left _).trans (List.filter_append_perm (p x) l)

theorem cfg?_some {k : Ctx} {i : Nat} {t : PeerCfg} (h : k.cfg? i = some t) : t ∈ k.cfgs ∧ t.idx = i := by
  unfold Ctx.cfg? at h
  refine ⟨List.mem_of_find?_eq_some h, ?_⟩
  have := List.find?_some h
  simpa using this

theorem find?_idx_of_mem (l : List PeerCfg) (hd : l.Pairwise (fun a b => a.idx ≠ b.idx))
    (x : PeerCfg) (hx : x ∈ l) : l.find? (·.idx == x.idx) = some x := by
  induction l with
  | nil => cases hx
  | cons y rest ih =>
    rw [List.pairwise_cons] at hd
    rw [List.mem_cons] at hx
    rcases hx with rfl | hx
    · simp
    · have hne : (y.idx == x.idx) = false := by
        simpa using hd.1 x hx
      rw [List.find?_cons, hne]
      exact ih hd.2 hx

theorem cfg?_of_mem (k : Ctx) (hd : k.cfgs.Pairwise (fun a b => a.idx ≠ b.idx)) (x : PeerCfg)
    (hx : x ∈ k.cfgs) : k.cfg? x.idx = some x :=
  find?_idx_of_mem k.cfgs hd x hx

theorem filterMap_congr' {α β : Type} (l : List α) (f g : α → Option β)
    (h : ∀ x ∈ l, f x = g x) : l.filterMap f = l.filterMap g := by
  induction l with
  | nil => rfl
  | cons x l ih =>
    rw [List.filterMap_cons, List.filterMap_cons, h x List.mem_cons_self,
      ih (fun y hy => h y (List.mem_cons_of_mem _ hy))]

theorem filterMap_cfg?_idxs (k : Ctx) (hd : k.cfgs.Pairwise (fun a b => a.idx ≠ b.idx)) :
    (k.cfgs.map (·.idx)).filterMap k.cfg? = k.cfgs := by
  rw [List.filterMap_map]
  have : k.cfgs.filterMap (k.cfg? ∘ fun x => x.idx) = k.cfgs.filterMap some :=
    filterMap_congr' k.cfgs _ _ (fun x hx => cfg?_of_mem k hd x hx)
  rw [this, List.filterMap_some]

end SoftResetWorld
