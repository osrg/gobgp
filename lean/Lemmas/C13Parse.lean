/-
C13 — lexer / parser lemmas: what the parser makes of the pattern shapes the compiler recognises.
-/
import Model.Regex
namespace Regex

/-- digits and the colon -/
def Plain (c : Nat) : Prop := 48 ≤ c ∧ c ≤ 58

theorem stepNormal_plain {c : Nat} (h : Plain c) : stepNormal c = .ok (.normal, [.atom (lit c)]) := by
  obtain ⟨h1, h2⟩ := h
  rw [stepNormal]
  -- none of the twelve special characters tested first lies in 48..58, nor do `]` and `}`
  iterate 12 rw [if_neg (by omega)]
  rw [if_neg, if_pos]
  · simp only [isPrint, Bool.and_eq_true, decide_eq_true_eq]
    omega
  · simp only [Bool.or_eq_true, decide_eq_true_eq]
    omega

theorem lexGo_cons_ok {m : Mode} {c : Nat} {cs : List Nat} {tks : List Tok}
    (h : lexGo m (c :: cs) = .ok tks) :
    ∃ m' ts rest, stepM m c = .ok (m', ts) ∧ lexGo m' cs = .ok rest ∧ tks = ts ++ rest := by
  simp only [lexGo] at h
  split at h
  · next m' ts hs =>
    split at h
    · next rest hr =>
      cases h
      exact ⟨m', ts, rest, hs, hr, rfl⟩
    · cases h
    · cases h
  · cases h
  · cases h

theorem lexGo_ok_cons {m m' : Mode} {c : Nat} {cs : List Nat} {ts tks : List Tok}
    (hs : stepM m c = .ok (m', ts)) (h : lexGo m (c :: cs) = .ok tks) :
    ∃ rest, lexGo m' cs = .ok rest ∧ tks = ts ++ rest := by
  obtain ⟨_, _, rest, hs', hr, e⟩ := lexGo_cons_ok h
  rw [hs] at hs'
  cases hs'
  exact ⟨rest, hr, e⟩

/-- run the lexer over a prefix: final mode and the tokens that came out -/
def lexRun : Mode → List Nat → Res (Mode × List Tok)
  | m, [] => .ok (m, [])
  | m, c :: cs =>
    match stepM m c with
    | .ok (m', ts) =>
      match lexRun m' cs with
      | .ok (m'', ts') => .ok (m'', ts ++ ts')
      | .err => .err
      | .nofrag => .nofrag
    | .err => .err
    | .nofrag => .nofrag

theorem lexGo_run : ∀ (p : List Nat) {m m' : Mode} {ts tks : List Tok} {cs : List Nat},
    lexRun m p = .ok (m', ts) → lexGo m (p ++ cs) = .ok tks →
    ∃ rest, lexGo m' cs = .ok rest ∧ tks = ts ++ rest
  | [], _, _, _, tks, _, h1, h2 => by
    cases h1
    exact ⟨tks, h2, rfl⟩
  | c :: p, _, _, _, _, _, h1, h2 => by
    obtain ⟨m1, t1, r1, hs, g1, rfl⟩ := lexGo_cons_ok h2
    simp only [lexRun, hs] at h1
    split at h1
    · next m2 t2 hr =>
      cases h1
      obtain ⟨r2, g2, rfl⟩ := lexGo_run p hr g1
      exact ⟨r2, g2, (List.append_assoc ..).symm⟩
    · cases h1
    · cases h1

theorem lexGo_cons_of {m m' : Mode} {c : Nat} {cs : List Nat} {ts rest : List Tok}
    (hs : stepM m c = .ok (m', ts)) (h : lexGo m' cs = .ok rest) :
    lexGo m (c :: cs) = .ok (ts ++ rest) := by
  simp [lexGo, hs, h]

theorem lexGo_map {f : Nat → Tok} {w cs : List Nat} {tks : List Tok}
    (hw : ∀ c ∈ w, stepM .normal c = .ok (.normal, [f c])) (h : lexGo .normal (w ++ cs) = .ok tks) :
    ∃ rest, lexGo .normal cs = .ok rest ∧ tks = w.map f ++ rest := by
  induction w generalizing tks with
  | nil => exact ⟨tks, h, rfl⟩
  | cons c w ih =>
    obtain ⟨r1, h1, rfl⟩ := lexGo_ok_cons (hw c List.mem_cons_self) h
    obtain ⟨r2, h2, rfl⟩ := ih (fun c hc => hw c (List.mem_cons_of_mem _ hc)) h1
    exact ⟨r2, h2, rfl⟩

theorem lexGo_plain {w cs : List Nat} {tks : List Tok} (hw : ∀ c ∈ w, Plain c)
    (h : lexGo .normal (w ++ cs) = .ok tks) :
    ∃ rest, lexGo .normal cs = .ok rest ∧ tks = w.map (fun c => Tok.atom (lit c)) ++ rest :=
  lexGo_map (fun c hc => stepNormal_plain (hw c hc)) h

theorem prun_atoms (st : List Frame) (al : Option R) (cur : List R) (jr : Bool) (rs : List R) (tks : List Tok) :
    prun ⟨st, ⟨al, cur⟩, jr⟩ (rs.map .atom ++ tks) =
      prun ⟨st, ⟨al, rs.reverse ++ cur⟩, jr && rs.isEmpty⟩ tks := by
  induction rs generalizing cur jr with
  | nil => simp
  | cons r rs ih =>
    show prun ⟨st, ⟨al, r :: cur⟩, false⟩ (rs.map .atom ++ tks) = _
    rw [ih]
    simp

theorem prun_append : ∀ (l1 : List Tok) (S : PSt) (l2 : List Tok),
    prun S (l1 ++ l2) = match prun S l1 with
      | some S' => prun S' l2
      | none => none := by
  intro l1
  induction l1 with
  | nil => intro S l2; simp [prun]
  | cons tk l1 ih =>
    intro S l2
    simp only [List.cons_append, prun]
    cases pstep S tk with
    | none => rfl
    | some S1 => exact ih S1 l2

theorem prun_cons_some {s s' : PSt} {tk : Tok} {tks : List Tok} (h : prun s (tk :: tks) = some s') :
    ∃ s1, pstep s tk = some s1 ∧ prun s1 tks = some s' := by
  simp only [prun] at h
  split at h
  · next s1 hs => exact ⟨s1, hs, h⟩
  · cases h

def bottom : List Frame → Frame → Frame
  | [], t => t
  | f :: st, _ => bottom st f

def isQuantTok : Tok → Bool
  | .star | .plus | .quest | .rep _ _ => true
  | _ => false

/-- while no top-level `|` has been seen, the outermost concatenation still starts with `P` (stored
reversed), and at depth 0 something has been pushed after it -/
def Inv (P : List R) (S : PSt) : Prop :=
  (bottom S.stack S.top).alts = none →
    ∃ Y, (bottom S.stack S.top).cur = Y ++ P ∧ (S.stack = [] → Y ≠ [])

theorem bottom_cons_irrel (st : List Frame) (f t t' : Frame) : bottom (f :: st) t = bottom (f :: st) t' := rfl

/-- `pstep` on a repetition operator: the catch-all arm of its `match` -/
theorem pstep_quantTok {tk : Tok} (hq : isQuantTok tk = true) (s : PSt) :
    pstep s tk = if s.justRep then none else
      match quantOf tk, s.top.cur with
      | some g, a :: l => some { s with top := { s.top with cur := g a :: l }, justRep := true }
      | _, _ => none := by
  cases tk with
  | star | plus | quest | rep => rfl
  | atom | lpar | rpar | bar => cases hq

theorem pstep_quant {stack : List Frame} {alts : Option R} {cur : List R} {jr : Bool} {S' : PSt} {tk : Tok}
    (hq : isQuantTok tk = true) (hs : pstep ⟨stack, ⟨alts, cur⟩, jr⟩ tk = some S') :
    ∃ (g : R → R) (a : R) (l : List R), cur = a :: l ∧ S' = ⟨stack, ⟨alts, g a :: l⟩, true⟩ := by
  rw [pstep_quantTok hq] at hs
  split at hs
  · cases hs
  split at hs
  · next g a l _ hc =>
    cases hs
    exact ⟨g, a, l, hc, rfl⟩
  · cases hs

theorem Inv.of_bottom_eq {P : List R} {S S' : PSt} (hi : Inv P S)
    (hb : bottom S'.stack S'.top = bottom S.stack S.top) (hne : S'.stack ≠ []) : Inv P S' := by
  intro h0
  rw [hb] at h0 ⊢
  obtain ⟨Y, hY, _⟩ := hi h0
  exact ⟨Y, hY, fun h => absurd h hne⟩

theorem Inv.push {P : List R} {S : PSt} (hi : Inv P S) (x : R) (jr : Bool) :
    Inv P ⟨[], { bottom S.stack S.top with cur := x :: (bottom S.stack S.top).cur }, jr⟩ := by
  intro h0
  obtain ⟨Y, hY, _⟩ := hi h0
  exact ⟨x :: Y, congrArg (x :: ·) hY, fun _ => List.cons_ne_nil _ _⟩

theorem inv_quant {P : List R} {S S' : PSt} {tk : Tok} (hq : isQuantTok tk = true) (hi : Inv P S)
    (hs : pstep S tk = some S') : Inv P S' := by
  obtain ⟨stack, ⟨alts, cur⟩, jr⟩ := S
  obtain ⟨g, a, l, rfl, rfl⟩ := pstep_quant hq hs
  cases stack with
  | cons f st => exact hi.of_bottom_eq rfl (List.cons_ne_nil _ _)
  | nil =>
    -- at depth 0 the operand is not the last element of `P`: something was pushed after `P`
    intro h0
    obtain ⟨Y, hY, hne⟩ := hi h0
    cases Y with
    | nil => exact absurd rfl (hne rfl)
    | cons y Y' =>
      injection hY with _ hl
      exact ⟨g a :: Y', congrArg (g a :: ·) hl, fun _ => List.cons_ne_nil _ _⟩

theorem inv_step {P : List R} {S S' : PSt} {tk : Tok} (hi : Inv P S) (hs : pstep S tk = some S') :
    Inv P S' := by
  obtain ⟨stack, top, jr⟩ := S
  cases tk with
  | atom r =>
    cases hs
    cases stack with
    | nil => exact hi.push r false
    | cons f st => exact hi.of_bottom_eq rfl (List.cons_ne_nil _ _)
  | lpar =>
    cases hs
    exact hi.of_bottom_eq rfl (List.cons_ne_nil _ _)
  | rpar =>
    cases stack with
    | nil => cases hs
    | cons f st =>
      cases hs
      cases st with
      | nil => exact hi.push top.close false
      | cons g st' => exact hi.of_bottom_eq rfl (List.cons_ne_nil _ _)
  | bar =>
    cases hs
    cases stack with
    | nil =>
      intro h0
      cases h0
    | cons f st => exact hi.of_bottom_eq rfl (List.cons_ne_nil _ _)
  | star | plus | quest | rep => exact inv_quant rfl hi hs

theorem inv_run {P : List R} {tks : List Tok} : ∀ {S S' : PSt}, Inv P S → prun S tks = some S' → Inv P S' := by
  induction tks with
  | nil =>
    intro S S' hi h
    cases h
    exact hi
  | cons tk tks ih =>
    intro S S' hi h
    obtain ⟨S1, hs, h1⟩ := prun_cons_some h
    exact ih (inv_step hi hs) h1

/-- the first token after the prefix: anything but a repetition operator establishes the invariant -/
theorem inv_first {P : List R} {S' : PSt} {tk : Tok} (hq : isQuantTok tk = false)
    (hs : pstep ⟨[], ⟨none, P⟩, false⟩ tk = some S') : Inv P S' := by
  cases tk with
  | atom r =>
    cases hs
    exact fun _ => ⟨[r], rfl, fun _ => List.cons_ne_nil _ _⟩
  | lpar =>
    cases hs
    exact fun _ => ⟨[], rfl, fun h => nomatch h⟩
  | rpar => cases hs
  | bar =>
    cases hs
    exact fun h0 => nomatch h0
  | star | plus | quest | rep => cases hq

theorem Inv.finish {P : List R} {S : PSt} {r : R} (hi : Inv P S) (hfin : pfinish S = some (r, false)) :
    ∃ Y, r = catList (P.reverse ++ Y) := by
  obtain ⟨stack, ⟨alts, cur⟩, jr⟩ := S
  cases stack with
  | cons f st => cases hfin
  | nil =>
    cases alts with
    | some a => cases hfin
    | none =>
      cases hfin
      obtain ⟨Y, hY, _⟩ := hi rfl
      have hc : cur = Y ++ P := hY
      exact ⟨Y.reverse, by simp [Frame.close, hc]⟩

/-- the shape theorem: after a prefix `P` at depth 0, if the rest of the token stream does not start
with a repetition operator and the pattern has no top-level alternation, the parsed expression is the
concatenation of `P` and something -/
theorem prefix_shape {P : List R} {tks : List Tok} {S1 : PSt} {r : R}
    (hq : ∀ tk rest, tks = tk :: rest → isQuantTok tk = false)
    (hrun : prun ⟨[], ⟨none, P⟩, false⟩ tks = some S1)
    (hfin : pfinish S1 = some (r, false)) :
    ∃ Y, r = catList (P.reverse ++ Y) := by
  cases tks with
  | nil =>
    cases hrun
    cases hfin
    exact ⟨[], by simp [Frame.close]⟩
  | cons tk rest =>
    obtain ⟨S0, hs, hrun'⟩ := prun_cons_some hrun
    exact (inv_run (inv_first (hq tk rest rfl) hs) hrun').finish hfin

/-- inside an escape or a bracket class: whatever the lexer emits next is the atom being read -/
def Mode.inAtom : Mode → Bool
  | .esc | .cls0 | .cls .. | .clsEsc .. => true
  | _ => false

/-- what one lexer step may contribute towards the first token without making it a repetition
operator: nothing yet while an atom is being read, one token that is no repetition operator, or no
result at all -/
inductive HeadStep : Res (Mode × List Tok) → Prop where
  | stay {m : Mode} : m.inAtom = true → HeadStep (.ok (m, []))
  | tok {m : Mode} {tk : Tok} : isQuantTok tk = false → HeadStep (.ok (m, [tk]))
  | err : HeadStep .err
  | nofrag : HeadStep .nofrag

theorem HeadStep.ite {p : Prop} [Decidable p] {a b : Res (Mode × List Tok)}
    (ha : HeadStep a) (hb : HeadStep b) : HeadStep (if p then a else b) := by
  split
  · exact ha
  · exact hb

theorem clsChar_head (neg : Bool) (acc : List (Nat × Nat)) (pend : Option Nat) (dash : Bool) (c : Nat) :
    HeadStep (clsChar neg acc pend dash c) := by
  unfold clsChar
  refine .ite ?_ (.stay rfl)
  cases pend with
  | none => exact .nofrag
  | some p => exact .ite (.stay rfl) .err

theorem stepCls_head (neg : Bool) (acc : List (Nat × Nat)) (pend : Option Nat) (dash : Bool) (c : Nat) :
    HeadStep (stepCls neg acc pend dash c) := by
  unfold stepCls
  refine .ite (.ite .nofrag (.ite .nofrag (.tok rfl))) ?_   -- `]`
  refine .ite (.stay rfl) ?_                                -- `\`
  refine .ite (.ite (.stay rfl) .nofrag) ?_                 -- `-`
  refine .ite .nofrag ?_                                    -- `[` `^`
  exact .ite (clsChar_head ..) .nofrag

theorem stepClsEsc_head (neg : Bool) (acc : List (Nat × Nat)) (pend : Option Nat) (dash : Bool) (c : Nat) :
    HeadStep (stepClsEsc neg acc pend dash c) := by
  unfold stepClsEsc
  exact .ite (.ite .nofrag (.stay rfl)) (.ite (clsChar_head ..) .nofrag)

theorem stepEsc_head (c : Nat) : HeadStep (stepEsc c) := by
  unfold stepEsc
  iterate 7 refine .ite (.tok rfl) ?_
  exact .nofrag

/-- `*` `+` `?` `{` -/
def isRepChar (c : Nat) : Bool := c == 42 || c == 43 || c == 63 || c == 123

theorem stepNormal_head {c : Nat} (hc : isRepChar c = false) : HeadStep (stepNormal c) := by
  simp only [isRepChar, Bool.or_eq_false_iff, beq_eq_false_iff_ne, ne_eq] at hc
  obtain ⟨⟨⟨h42, h43⟩, h63⟩, h123⟩ := hc
  rw [stepNormal, if_neg h42, if_neg h43, if_neg h63, if_neg h123]   -- `*` `+` `?` `{`
  refine .ite (.stay rfl) ?_                     -- `\`
  iterate 3 refine .ite (.tok rfl) ?_            -- `(` `)` `|`
  refine .ite (.stay rfl) ?_                     -- `[`
  iterate 3 refine .ite (.tok rfl) ?_            -- `.` `^` `$`
  exact .ite .nofrag (.ite (.tok rfl) .nofrag)

theorem stepM_head {m : Mode} (hm : m.inAtom = true) (c : Nat) : HeadStep (stepM m c) := by
  cases m with
  | esc => exact stepEsc_head c
  | cls0 => exact .ite (.stay rfl) (stepCls_head ..)
  | cls => exact stepCls_head ..
  | clsEsc => exact stepClsEsc_head ..
  | normal | paren | parenQ | quant | brace1 | brace2 => cases hm

theorem lexGo_head_step {m : Mode} {c : Nat} {cs : List Nat} {tks : List Tok}
    (hs : HeadStep (stepM m c)) (h : lexGo m (c :: cs) = .ok tks) :
    (∃ m', m'.inAtom = true ∧ lexGo m' cs = .ok tks) ∨
      ∀ tk rest, tks = tk :: rest → isQuantTok tk = false := by
  obtain ⟨m', ts, rest, hs', h', rfl⟩ := lexGo_cons_ok h
  rw [hs'] at hs
  cases hs with
  | stay hm => exact .inl ⟨m', hm, h'⟩
  | tok hq =>
    refine .inr fun tk rest' e => ?_
    cases e
    exact hq

theorem lexGo_inAtom_head (cs : List Nat) : ∀ {m : Mode} {tks : List Tok}, m.inAtom = true →
    lexGo m cs = .ok tks → ∀ tk rest, tks = tk :: rest → isQuantTok tk = false := by
  induction cs with
  | nil =>
    intro m tks hm h
    cases m with
    | esc | cls0 | cls | clsEsc => cases h
    | normal | paren | parenQ | quant | brace1 | brace2 => cases hm
  | cons c cs ih =>
    intro m tks hm h
    rcases lexGo_head_step (stepM_head hm c) h with ⟨m', hm', h'⟩ | hq
    · exact ih hm' h'
    · exact hq

theorem lex_head_not_quant {cs : List Nat} {tks : List Tok}
    (hc : ∀ c rest, cs = c :: rest → isRepChar c = false)
    (h : lexGo .normal cs = .ok tks) : ∀ tk rest, tks = tk :: rest → isQuantTok tk = false := by
  cases cs with
  | nil =>
    cases h
    intro tk rest e
    cases e
  | cons c cs =>
    rcases lexGo_head_step (m := .normal) (stepNormal_head (hc c cs rfl)) h with ⟨m', hm', h'⟩ | hq
    · exact lexGo_inAtom_head cs hm' h'
    · exact hq

end Regex
