/-
C02 (table level): the lookups of `Table.Select` equal the set-theoretic definitions on the
abstract content.
-/
import Lemmas.Table
namespace Tbl
variable {δ : Type}

/-- the set-theoretic reading of a selection: `p` is in the table with content `d` and the
    per-destination selection keeps `d'` of it -/
def Selected (t : Dests δ) (sel : δ → Option δ) (p : Pfx) (d' : δ) : Prop :=
  ∃ d, alookup t p = some d ∧ sel d = some d'

theorem selected_fun {t : Dests δ} {sel : δ → Option δ} {p : Pfx} {d1 d2 : δ}
    (h1 : Selected t sel p d1) (h2 : Selected t sel p d2) : d1 = d2 := by
  obtain ⟨a, ha, hsa⟩ := h1
  obtain ⟨b, hb, hsb⟩ := h2
  cases ha.symm.trans hb
  exact Option.some.inj (hsa.symm.trans hsb)

theorem covers_iff (q p : Pfx) : q.covers p = true ↔ q.fam = p.fam ∧ q.bits <+: p.bits := by
  unfold Pfx.covers
  rw [Bool.and_eq_true, List.isPrefixOf_iff_prefix, beq_iff_eq]

theorem covers_iff_trunc (q p : Pfx) : q.covers p = true ↔ q = p.trunc q.len := by
  rw [covers_iff, List.prefix_iff_eq_take]
  cases q with
  | mk qf qb => simp only [Pfx.trunc, Pfx.len, Pfx.mk.injEq]

theorem covers_len_le {q p : Pfx} (hc : q.covers p = true) : q.len ≤ p.len :=
  ((covers_iff q p).1 hc).2.length_le

theorem trunc_len (q : Pfx) (i : Nat) (hi : i ≤ q.len) : (q.trunc i).len = i :=
  (List.length_take ..).trans (Nat.min_eq_left hi)

theorem mem_probesFrom (q p : Pfx) (n : Nat) : p ∈ probesFrom q n ↔ ∃ i, i ≤ n ∧ p = q.trunc i := by
  induction n with
  | zero =>
    rw [probesFrom, List.mem_singleton]
    exact ⟨fun hp => ⟨0, Nat.le_refl 0, hp⟩, fun ⟨i, hi, hp⟩ => Nat.le_zero.1 hi ▸ hp⟩
  | succ n ih =>
    rw [probesFrom, List.mem_cons, ih]
    constructor
    · rintro (hp | ⟨i, hi, hp⟩)
      · exact ⟨n + 1, Nat.le_refl _, hp⟩
      · exact ⟨i, Nat.le_succ_of_le hi, hp⟩
    · rintro ⟨i, hi, hp⟩
      rcases Nat.le_succ_iff.1 hi with hi | hi
      · exact Or.inr ⟨i, hi, hp⟩
      · exact Or.inl (by rw [hp, hi])

/-- the probe sequence of the shorter lookup is exactly the set of prefixes covering `q`
    (all lengths from `q.len` down to 0, 0 included) -/
theorem mem_probes_iff_covers (q p : Pfx) : p ∈ probesFrom q q.len ↔ p.covers q = true := by
  rw [mem_probesFrom, covers_iff_trunc]
  constructor
  · rintro ⟨i, hi, hp⟩
    rw [hp, trunc_len q i hi]
  · intro hc
    exact ⟨p.len, covers_len_le ((covers_iff_trunc p q).2 hc), hc⟩

theorem probesFrom_decreasing (q : Pfx) (n : Nat) (hn : n ≤ q.len) :
    (probesFrom q n).Pairwise (fun x y => y.len < x.len) := by
  induction n with
  | zero => exact List.pairwise_singleton _ _
  | succ n ih =>
    rw [probesFrom, List.pairwise_cons]
    refine ⟨fun y hy => ?_, ih (Nat.le_of_succ_le hn)⟩
    obtain ⟨i, hi, rfl⟩ := (mem_probesFrom q y n).1 hy
    rw [trunc_len q i (Nat.le_trans hi (Nat.le_of_succ_le hn)), trunc_len q (n + 1) hn]
    exact Nat.lt_succ_of_le hi

theorem head?_eq_some_iff_max {α : Type} (m : α → Nat) {l : List α}
    (hl : l.Pairwise (fun x y => m y < m x)) (x : α) :
    l.head? = some x ↔ x ∈ l ∧ ∀ y ∈ l, m y ≤ m x := by
  cases l with
  | nil => exact ⟨nofun, fun ⟨hm, _⟩ => nomatch hm⟩
  | cons a r =>
    have ha : ∀ y ∈ r, m y < m a := (List.pairwise_cons.1 hl).1
    constructor
    · intro hx
      cases hx
      refine ⟨List.mem_cons_self, fun y hy => ?_⟩
      rcases List.mem_cons.1 hy with hy | hy
      · rw [hy]; exact Nat.le_refl _
      · exact Nat.le_of_lt (ha y hy)
    · rintro ⟨hx, hmax⟩
      rcases List.mem_cons.1 hx with hx | hx
      · rw [hx]; rfl
      · exact absurd (ha x hx) (Nat.not_lt.2 (hmax a List.mem_cons_self))

theorem selDest_iff {h : Pfx → Nat} {t : Dests δ} (hw : WF h t) (sel : δ → Option δ) (x p : Pfx) (d' : δ) :
    selDest h t sel x = some (p, d') ↔ x = p ∧ Selected t sel p d' := by
  unfold selDest Selected
  rw [get_eq_alookup hw]
  constructor
  · intro hs
    split at hs
    · cases hs
    · next d hd =>
      split at hs
      · cases hs
      · next d2 hd2 =>
        cases hs
        exact ⟨rfl, d, hd, hd2⟩
  · rintro ⟨rfl, d, hd, hd2⟩
    simp only [hd, hd2]

theorem selDest_fst (h : Pfx → Nat) (t : Dests δ) (sel : δ → Option δ) (x : Pfx) (y : Pfx × δ)
    (hs : selDest h t sel x = some y) : y.1 = x := by
  unfold selDest at hs
  split at hs
  · cases hs
  · split at hs
    · cases hs
    · cases hs; rfl

theorem mem_selExact {h : Pfx → Nat} {t : Dests δ} (hw : WF h t) (sel : δ → Option δ) (q p : Pfx) (d' : δ) :
    (p, d') ∈ selExact h t sel q ↔ p = q ∧ Selected t sel p d' := by
  unfold selExact
  rw [Option.mem_toList, selDest_iff hw, eq_comm]

theorem mem_selShorter {h : Pfx → Nat} {t : Dests δ} (hw : WF h t) (sel : δ → Option δ) (q p : Pfx) (d' : δ) :
    (p, d') ∈ selShorter h t sel q ↔ p.covers q = true ∧ Selected t sel p d' := by
  unfold selShorter
  rw [List.mem_filterMap]
  constructor
  · rintro ⟨x, hx, hs⟩
    obtain ⟨rfl, hs⟩ := (selDest_iff hw sel x p d').1 hs
    exact ⟨(mem_probes_iff_covers q x).1 hx, hs⟩
  · rintro ⟨hc, hs⟩
    exact ⟨p, (mem_probes_iff_covers q p).2 hc, (selDest_iff hw sel p p d').2 ⟨rfl, hs⟩⟩

theorem selShorter_decreasing (h : Pfx → Nat) (t : Dests δ) (sel : δ → Option δ) (q : Pfx) :
    (selShorter h t sel q).Pairwise (fun x y => y.1.len < x.1.len) := by
  refine (probesFrom_decreasing q q.len (Nat.le_refl _)).filterMap _ (fun a a' hlt b hb b' hb' => ?_)
  rw [selDest_fst h t sel a b hb, selDest_fst h t sel a' b' hb']
  exact hlt

theorem selShorter_nodup (h : Pfx → Nat) (t : Dests δ) (sel : δ → Option δ) (q : Pfx) :
    ((selShorter h t sel q).map Prod.fst).Nodup :=
  List.pairwise_map.2 ((selShorter_decreasing h t sel q).imp
    (fun {x y} hlt (e : x.1 = y.1) => Nat.lt_irrefl y.1.len (e ▸ hlt)))

/-- what `filterMap` over destinations keeps when the function looks at the content only
    (`dst.Select`, `GetBestPath`) -/
theorem filterMap_snd_iff {β : Type} (f : δ → Option β) (e : Pfx × δ) (y : Pfx × β) :
    (match f e.2 with | none => none | some x => some (e.1, x)) = some y ↔
      y.1 = e.1 ∧ f e.2 = some y.2 := by
  cases f e.2 with
  | none => exact ⟨nofun, fun ⟨_, h2⟩ => nomatch h2⟩
  | some x =>
    constructor
    · intro hy; cases hy; exact ⟨rfl, rfl⟩
    · rintro ⟨h1, h2⟩
      obtain ⟨y1, y2⟩ := y
      cases h1; cases h2; rfl

theorem mem_filterMap_snd {β : Type} (f : δ → Option β) (l : List (Pfx × δ)) (p : Pfx) (x : β) :
    (p, x) ∈ l.filterMap (fun e => match f e.2 with | none => none | some x => some (e.1, x)) ↔
      ∃ d, (p, d) ∈ l ∧ f d = some x := by
  rw [List.mem_filterMap]
  constructor
  · rintro ⟨⟨q, d⟩, he, hs⟩
    obtain ⟨h1, h2⟩ := (filterMap_snd_iff f (q, d) (p, x)).1 hs
    cases h1
    exact ⟨d, he, h2⟩
  · rintro ⟨d, he, hs⟩
    exact ⟨(p, d), he, (filterMap_snd_iff f (p, d) (p, x)).2 ⟨rfl, hs⟩⟩

theorem mem_selLonger {h : Pfx → Nat} {t : Dests δ} (hw : WF h t) (sel : δ → Option δ) (q p : Pfx) (d' : δ) :
    (p, d') ∈ selLonger t sel q ↔ q.covers p = true ∧ Selected t sel p d' := by
  unfold selLonger Selected
  refine (mem_filterMap_snd sel _ p d').trans ?_
  simp only [List.mem_filter, mem_entries_iff hw]
  constructor
  · rintro ⟨d, ⟨hd, hc⟩, hs⟩; exact ⟨hc, d, hd, hs⟩
  · rintro ⟨hc, d, hd, hs⟩; exact ⟨d, ⟨hd, hc⟩, hs⟩

theorem selLonger_nodup {h : Pfx → Nat} {t : Dests δ} (hw : WF h t) (sel : δ → Option δ) (q : Pfx) :
    ((selLonger t sel q).map Prod.fst).Nodup := by
  have hn : ((entries t).filter (fun e => q.covers e.1)).Pairwise (fun a b => a.1 ≠ b.1) :=
    List.pairwise_map.1 ((entries_nodup hw).sublist (List.filter_sublist.map _))
  refine List.pairwise_map.2 (hn.filterMap _ (fun a a' hne b hb b' hb' => ?_))
  rw [((filterMap_snd_iff sel a b).1 hb).1, ((filterMap_snd_iff sel a' b').1 hb').1]
  exact hne

theorem mem_selAll {h : Pfx → Nat} {t : Dests δ} (hw : WF h t) (sel : δ → Option δ) (p : Pfx) (d' : δ) :
    (p, d') ∈ selAll t sel ↔ Selected t sel p d' := by
  unfold selAll Selected
  refine (mem_filterMap_snd sel _ p d').trans ?_
  simp only [mem_entries_iff hw]

theorem selHost_eq_head (h : Pfx → Nat) (t : Dests δ) (sel : δ → Option δ) (a : Pfx) :
    selHost h t sel a = (selShorter h t sel a).head?.toList := by
  unfold selHost selShorter
  rw [List.head?_filterMap]

/-- host-address form: the longest selected prefix covering the address, and only that one -/
theorem mem_selHost {h : Pfx → Nat} {t : Dests δ} (hw : WF h t) (sel : δ → Option δ) (a p : Pfx) (d' : δ) :
    (p, d') ∈ selHost h t sel a ↔
      (p.covers a = true ∧ Selected t sel p d') ∧
      ∀ p' d'', p'.covers a = true → Selected t sel p' d'' → p'.len ≤ p.len := by
  rw [selHost_eq_head, Option.mem_toList,
    head?_eq_some_iff_max (fun x => x.1.len) (selShorter_decreasing h t sel a), mem_selShorter hw]
  refine and_congr_right (fun _ => ⟨fun hmax p' d'' hc hs => ?_, fun hmax y hy => ?_⟩)
  · exact hmax (p', d'') ((mem_selShorter hw sel a p' d'').2 ⟨hc, hs⟩)
  · obtain ⟨hc, hs⟩ := (mem_selShorter hw sel a y.1 y.2).1 hy
    exact hmax y.1 y.2 hc hs

/-- what one lookup prefix selects, set-theoretically -/
def QuerySpec (t : Dests δ) (sel : δ → Option δ) (q : Lookup × Pfx) (p : Pfx) (d' : δ) : Prop :=
  match q.1 with
  | .exact => p = q.2 ∧ Selected t sel p d'
  | .longer => q.2.covers p = true ∧ Selected t sel p d'
  | .shorter => p.covers q.2 = true ∧ Selected t sel p d'
  | .host => (p.covers q.2 = true ∧ Selected t sel p d') ∧
      ∀ p' d'', p'.covers q.2 = true → Selected t sel p' d'' → p'.len ≤ p.len

theorem mem_selQuery {h : Pfx → Nat} {t : Dests δ} (hw : WF h t) (sel : δ → Option δ) (q : Lookup × Pfx)
    (p : Pfx) (d' : δ) : (p, d') ∈ selQuery h t sel q ↔ QuerySpec t sel q p d' := by
  obtain ⟨k, q⟩ := q
  cases k
  · exact mem_selExact hw sel q p d'
  · exact mem_selLonger hw sel q p d'
  · exact mem_selShorter hw sel q p d'
  · exact mem_selHost hw sel q p d'

theorem QuerySpec.selected {t : Dests δ} {sel : δ → Option δ} {q : Lookup × Pfx} {p : Pfx} {d' : δ}
    (hq : QuerySpec t sel q p d') : Selected t sel p d' := by
  obtain ⟨k, q⟩ := q
  cases k
  · exact hq.2
  · exact hq.2
  · exact hq.2
  · exact hq.1.2

/-- a `setDestination` sequence read as a map: the last entry for a prefix wins -/
theorem afromList_eq (l : List (Pfx × δ)) (p : Pfx) : afromList l p = afind l.reverse p := by
  suffices H : ∀ m0 : AMap δ,
      l.foldl (fun m e => fun q => if q = e.1 then some e.2 else m q) m0 p
        = (afind l.reverse p).or (m0 p) from (H _).trans (Option.or_none ..)
  induction l with
  | nil => intro m0; rfl
  | cons e l ih =>
    intro m0
    rw [List.foldl_cons, ih, List.reverse_cons, afind_append, Option.or_assoc]
    congr 1
    show (if p = e.1 then some e.2 else m0 p) = (if e.1 = p then some e.2 else none).or (m0 p)
    by_cases hp : p = e.1
    · rw [if_pos hp, if_pos hp.symm]; rfl
    · rw [if_neg hp, if_neg (Ne.symm hp)]; rfl

theorem afromList_functional (l : List (Pfx × δ))
    (hf : ∀ p d1 d2, (p, d1) ∈ l → (p, d2) ∈ l → d1 = d2) (p : Pfx) (d : δ) :
    afromList l p = some d ↔ (p, d) ∈ l := by
  rw [afromList_eq]
  refine ⟨fun hc => List.mem_reverse.1 (afind_some_mem hc), fun hm => ?_⟩
  cases hc : afind l.reverse p with
  | none =>
    exact absurd (List.mem_map.2 ⟨(p, d), List.mem_reverse.2 hm, rfl⟩)
      ((afind_eq_none_iff _ p).1 hc)
  | some d' => rw [hf p d d' hm (List.mem_reverse.1 (afind_some_mem hc))]

theorem alookup_fromList (h : Pfx → Nat) (l : List (Pfx × δ))
    (hf : ∀ p d1 d2, (p, d1) ∈ l → (p, d2) ∈ l → d1 = d2) (p : Pfx) (d : δ) :
    alookup (fromList h l) p = some d ↔ (p, d) ∈ l := by
  rw [← get_eq_alookup (fromList_wf h l), fromList_get, afromList_functional l hf]

theorem select_wf (h : Pfx → Nat) (t : Dests δ) (sel : δ → Option δ) (qs : List (Lookup × Pfx)) :
    WF h (select h t sel qs) := by
  unfold select
  split
  · exact fromList_wf h _
  · exact fromList_wf h _

/-- the table returned by `Select` holds exactly what the lookup prefixes select
    (several prefixes: the union; none: the whole table) -/
theorem select_spec {h : Pfx → Nat} {t : Dests δ} (hw : WF h t) (sel : δ → Option δ)
    (qs : List (Lookup × Pfx)) (p : Pfx) (d' : δ) :
    alookup (select h t sel qs) p = some d' ↔
      if qs = [] then Selected t sel p d' else ∃ q ∈ qs, QuerySpec t sel q p d' := by
  unfold select
  simp only [List.isEmpty_iff]
  by_cases hq : qs = []
  · rw [if_pos hq, if_pos hq, alookup_fromList, mem_selAll hw]
    intro p d1 d2 h1 h2
    exact selected_fun ((mem_selAll hw sel p d1).1 h1) ((mem_selAll hw sel p d2).1 h2)
  · rw [if_neg hq, if_neg hq, alookup_fromList, List.mem_flatMap]
    · simp only [mem_selQuery hw]
    · -- whichever lookups list `p`, they list it with its one selection
      intro p d1 d2 h1 h2
      obtain ⟨q1, _, hm1⟩ := List.mem_flatMap.1 h1
      obtain ⟨q2, _, hm2⟩ := List.mem_flatMap.1 h2
      exact selected_fun ((mem_selQuery hw sel q1 p d1).1 hm1).selected
        ((mem_selQuery hw sel q2 p d2).1 hm2).selected

end Tbl
