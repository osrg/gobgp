/-
C02 (table level): the multipath notification stream
(`Update.GetMultiBestPathDiff`) is the set difference on (source, path-id) keys, and replaying it
reproduces the multipath set.
-/
import Model.Table
namespace Tbl

/-- no two members with the same (source, path-id): holds for every destination's path list
    (one path per source and path-id), hence for its multipath prefix -/
def KeysNodup (l : List TPath) : Prop := (l.map (fun x => (x.src, x.rid))).Nodup

theorem keysNodup_cons {x : TPath} {r : List TPath} :
    KeysNodup (x :: r) ↔ (x.src, x.rid) ∉ r.map (fun x => (x.src, x.rid)) ∧ KeysNodup r :=
  List.nodup_cons

theorem keyEq_iff (a b : TPath) : a.keyEq b = true ↔ (a.src, a.rid) = (b.src, b.rid) := by
  simp only [TPath.keyEq, Bool.and_eq_true, beq_iff_eq, Prod.mk.injEq]

theorem keysNodup_sublist {l₁ l₂ : List TPath} (h : l₁.Sublist l₂) (hl : KeysNodup l₂) : KeysNodup l₁ :=
  List.Nodup.sublist (h.map _) hl

theorem keysNodup_unique : ∀ (l : List TPath), KeysNodup l → ∀ a b, a ∈ l → b ∈ l →
    (a.src, a.rid) = (b.src, b.rid) → a = b := by
  intro l
  induction l with
  | nil => intro _ a b ha; cases ha
  | cons x r ih =>
    intro hl a b ha hb hk
    have hl' := keysNodup_cons.1 hl
    rcases List.mem_cons.mp ha with ha | ha
    · rcases List.mem_cons.mp hb with hb | hb
      · rw [ha, hb]
      · exfalso; apply hl'.1
        rw [← ha, hk]
        exact List.mem_map.mpr ⟨b, hb, rfl⟩
    · rcases List.mem_cons.mp hb with hb | hb
      · exfalso; apply hl'.1
        rw [← hb, ← hk]
        exact List.mem_map.mpr ⟨a, ha, rfl⟩
      · exact ih hl'.2 a b ha hb hk

theorem find_key_none (l : List TPath) (k : Nat × Nat) (h : ∀ x ∈ l, (x.src, x.rid) ≠ k) :
    l.find? (fun n => (n.src, n.rid) == k) = none := by
  apply List.find?_eq_none.mpr
  intro x hx hp
  exact h x hx (by simpa only [beq_iff_eq] using hp)

theorem find_key_some {l : List TPath} {k : Nat × Nat} {a : TPath}
    (h : l.find? (fun n => (n.src, n.rid) == k) = some a) : a ∈ l ∧ (a.src, a.rid) = k :=
  ⟨List.mem_of_find?_eq_some h, by simpa only [beq_iff_eq] using List.find?_some h⟩

theorem find_key_filter {l : List TPath} (hl : KeysNodup l) (P : TPath → Bool) (k : Nat × Nat) :
    (l.filter P).find? (fun n => (n.src, n.rid) == k)
      = (l.find? (fun n => (n.src, n.rid) == k)).filter P := by
  induction l with
  | nil => rfl
  | cons x r ih =>
    have hl' := keysNodup_cons.1 hl
    rw [List.filter_cons, List.find?_cons]
    cases hx : (x.src, x.rid) == k with
    | false =>
      cases P x with
      | false => exact ih hl'.2
      | true => rw [if_pos rfl, List.find?_cons, hx]; exact ih hl'.2
    | true =>
      cases hp : P x with
      | true => rw [if_pos rfl, List.find?_cons, hx, Option.filter_some, hp]; rfl
      | false =>
        -- `x` is dropped, and no later entry has its key
        rw [if_neg Bool.false_ne_true, ih hl'.2, Option.filter_some, hp,
          find_key_none r k fun y hy hk => hl'.1 (beq_iff_eq.1 hx ▸ hk ▸ List.mem_map.2 ⟨y, hy, rfl⟩)]
        rfl

theorem mpWithdrawFrom_eq_filter (new : List TPath) : ∀ (rest seen : List TPath),
    (∀ s ∈ seen, ∀ o ∈ rest, s.keyEq o = false) → KeysNodup rest →
    mpWithdrawFrom new seen rest = rest.filter (fun o => !(new.any (fun n => n.keyEq o))) := by
  intro rest
  induction rest with
  | nil => intro seen _ _; rfl
  | cons o r ih =>
    intro seen hs hl
    have hl' := keysNodup_cons.1 hl
    have hfirst : seen.any (fun s => s.keyEq o) = false := by
      apply List.any_eq_false.mpr
      intro s hs' hp
      have := hs s hs' o (List.mem_cons_self)
      rw [this] at hp
      cases hp
    have htail : ∀ s ∈ seen ++ [o], ∀ o' ∈ r, s.keyEq o' = false := by
      intro s hs' o' ho'
      rcases List.mem_append.mp hs' with h1 | h1
      · exact hs s h1 o' (List.mem_cons_of_mem _ ho')
      · have : s = o := by simpa using h1
        subst this
        cases hke : s.keyEq o' with
        | false => rfl
        | true =>
          exfalso; apply hl'.1
          rw [(keyEq_iff s o').mp hke]
          exact List.mem_map.mpr ⟨o', ho', rfl⟩
    have ih' := ih (seen ++ [o]) htail hl'.2
    rw [mpWithdrawFrom, ih', hfirst, List.filter_cons]
    cases hm : new.any (fun n => n.keyEq o) <;> simp

/-- the withdraw list is the set difference old ∖ new on (source, path-id) keys -/
theorem mpWithdraw_is_set_difference (old new : List TPath) (ho : KeysNodup old) :
    mpWithdraw old new = old.filter (fun o => !(new.any (fun n => n.keyEq o))) := by
  apply mpWithdrawFrom_eq_filter new old [] _ ho
  intro s hs
  cases hs

/-- the update list: the members of new whose key is not in old, or is there with other attributes -/
theorem mem_mpUpdate (old new : List TPath) (ho : KeysNodup old) (n : TPath) :
    n ∈ mpUpdate old new ↔
      n ∈ new ∧ ∀ o ∈ old, n.keyEq o = true → n.attrEq o = false := by
  cases h : old.find? (fun o => n.keyEq o) with
  | none =>
    simp only [mpUpdate, List.mem_filter, h]
    have hn := List.find?_eq_none.mp h
    constructor
    · intro ⟨h1, _⟩
      exact ⟨h1, fun o ho' hk => absurd hk (hn o ho')⟩
    · intro ⟨h1, _⟩
      exact ⟨h1, trivial⟩
  | some o =>
    simp only [mpUpdate, List.mem_filter, h]
    have hom := List.mem_of_find?_eq_some h
    have hok : n.keyEq o = true := List.find?_some h
    constructor
    · intro ⟨h1, h2⟩
      refine ⟨h1, ?_⟩
      intro o' ho' hk'
      have : o' = o := keysNodup_unique old ho o' o ho' hom
        (((keyEq_iff n o').mp hk').symm.trans ((keyEq_iff n o).mp hok))
      rw [this]
      simpa using h2
    · intro ⟨h1, h2⟩
      refine ⟨h1, ?_⟩
      rw [h2 o hom hok]
      rfl

/-- replaying one notification on a consumer that mirrors the old multipath set yields the mirror
    of the new one -/
theorem mpApply_view (old new : List TPath) (ho : KeysNodup old) (hn : KeysNodup new) :
    mpApply (mpView old) (mpUpdate old new, mpWithdraw old new) = mpView new := by
  funext k
  unfold mpApply mpView mpUpdate
  rw [mpWithdraw_is_set_difference old new ho, find_key_filter hn, List.any_filter]
  -- against an entry with key `k`, `keyEq` asks for the key `k`
  have hkey : ∀ (n a : TPath), (a.src, a.rid) = k → n.keyEq a = ((n.src, n.rid) == k) :=
    fun n a ha => Bool.eq_iff_iff.2 ((keyEq_iff n a).trans (ha ▸ beq_iff_eq.symm))
  cases hN : new.find? (fun n => (n.src, n.rid) == k) with
  | none =>
    -- no new member has key `k`: an old member with key `k` is withdrawn
    cases hO : old.find? (fun n => (n.src, n.rid) == k) with
    | none => exact ite_self _
    | some o =>
      obtain ⟨hom, hok⟩ := find_key_some hO
      refine if_pos (List.any_eq_true.2 ⟨o, hom, ?_⟩)
      rw [hok, beq_self_eq_true, Bool.and_true, Bool.not_eq_true', List.any_eq_false]
      intro m hm
      rw [hkey m o hok]
      exact List.find?_eq_none.1 hN m hm
  | some n =>
    obtain ⟨hnm, hnk⟩ := find_key_some hN
    -- the new member `n` has key `k`: no old member with key `k` is withdrawn
    have hW : (old.any fun a => (!new.any fun n => n.keyEq a) && (a.src, a.rid) == k) = false := by
      refine List.any_eq_false.2 fun a _ ha => ?_
      rw [Bool.and_eq_true, Bool.not_eq_true', List.any_eq_false, beq_iff_eq] at ha
      exact ha.1 n hnm ((hkey n a ha.2).trans (beq_iff_eq.2 hnk))
    have hF : old.find? (fun o => n.keyEq o) = old.find? (fun o => (o.src, o.rid) == k) := by
      congr 1
      funext o
      rw [← hnk]
      exact Bool.eq_iff_iff.2 ((keyEq_iff n o).trans (eq_comm.trans beq_iff_eq.symm))
    rw [Option.filter_some, hF, hW]
    cases hO : old.find? (fun n => (n.src, n.rid) == k) with
    | none => rfl
    | some o =>
      by_cases ha : n.attrEq o = true
      · -- same attributes: `n` is not announced again, the consumer keeps the old entry
        simp only [ha, Bool.not_true, Bool.false_eq_true, if_false, Option.map_some]
        rw [beq_iff_eq.1 ha]
      · simp only [ha, Bool.not_false, if_true, Option.map_some]

/-- a prefix (in particular the multipath run) of a key-duplicate-free list is key-duplicate-free -/
theorem keysNodup_multiBest (l : List TPath) (hl : KeysNodup l) : KeysNodup (multiBest l) := by
  cases l with
  | nil => exact hl
  | cons b r =>
    exact keysNodup_sublist (List.Sublist.cons_cons b (List.takeWhile_sublist _)) hl

end Tbl
