import Lemmas.PTotA
/-! C05 for the OPEN decoders of `PTot`, which index through the checked primitives of `PM`: a postcondition `Post` (no
    panic, and a bound on what is returned) is walked through each decoder; then the loops do not depend on their fuel. -/
namespace PTotO
open Wire PTot

theorem idx_ok {d : Bytes} {i : Nat} (h : i < d.length) : idx d i = .ok (d.getD i 0) := by
  unfold idx; rw [if_pos h]

theorem slice_ok {d : Bytes} {a b : Nat} (h : a ≤ b ∧ b ≤ d.length) :
    slice d a b = .ok ((d.take b).drop a) := by
  unfold slice; rw [if_pos h]

theorem sliceFrom_ok {d : Bytes} {a : Nat} (h : a ≤ d.length) : sliceFrom d a = .ok (d.drop a) := by
  unfold sliceFrom; rw [if_pos h]

theorem be16At_ok {d : Bytes} (h : 2 ≤ d.length) : be16At d = .ok (rd16 d) := by
  unfold be16At; rw [if_pos h]

theorem be32At_ok {d : Bytes} (h : 4 ≤ d.length) : be32At d = .ok (rd32 d) := by
  unfold be32At; rw [if_pos h]

theorem slice_len {d : Bytes} {a b : Nat} (h : b ≤ d.length) : ((d.take b).drop a).length = b - a := by
  rw [List.length_drop, List.length_take, Nat.min_eq_left h]

/-- `x` does not panic, and every value it returns satisfies `P` -/
def Post {α : Type} (x : PM α) (P : α → Prop) : Prop :=
  x ≠ .error .panic ∧ ∀ a, x = .ok a → P a

abbrev T {α : Type} : α → Prop := fun _ => True

theorem Post.pure {α : Type} {P : α → Prop} (a : α) (h : P a) : Post (pure a : PM α) P :=
  ⟨nofun, fun b hb => (by cases hb; exact h)⟩

theorem Post.reject {α : Type} {P : α → Prop} : Post (throw PErr.reject : PM α) P := ⟨nofun, nofun⟩

theorem Post.bind {α β : Type} {x : PM α} {f : α → PM β} {P : α → Prop} {Q : β → Prop}
    (hx : Post x P) (hf : ∀ a, P a → Post (f a) Q) : Post (x >>= f) Q := by
  cases x with
  | error e =>
    cases e with
    | reject => exact Post.reject
    | panic => exact absurd rfl hx.1
  | ok a => exact hf a (hx.2 a rfl)

theorem Post.ite {α : Type} {c : Prop} [Decidable c] {a b : PM α} {P : α → Prop}
    (ha : c → Post a P) (hb : ¬ c → Post b P) : Post (if c then a else b) P := by
  by_cases h : c
  · rw [if_pos h]; exact ha h
  · rw [if_neg h]; exact hb h

theorem Post.mono {α : Type} {x : PM α} {P Q : α → Prop} (h : Post x P) (hq : ∀ a, P a → Q a) :
    Post x Q := ⟨h.1, fun a ha => hq a (h.2 a ha)⟩

/-- `if c { return err }` in front of the rest `x` of a decoder -/
theorem Post.guard {α β : Type} {c : Prop} [Decidable c] {f : α → PM β} {x : PM β} {Q : β → Prop}
    (h : ¬ c → Post x Q) : Post (if c then throw PErr.reject >>= f else x) Q :=
  Post.ite (fun _ => Post.reject) h

theorem le_of_not_or_lt {b : Bool} {m n : Nat} (h : ¬ (b || decide (m < n)) = true) : n ≤ m := by
  simp only [Bool.or_eq_true, decide_eq_true_eq, not_or, Nat.not_lt] at h
  exact h.2

theorem Post.idx {d : Bytes} {i : Nat} (h : i < d.length) : Post (idx d i) T := by
  rw [idx_ok h]; exact Post.pure _ trivial

theorem Post.slice {d : Bytes} {a b : Nat} (h1 : a ≤ b) (h2 : b ≤ d.length) :
    Post (slice d a b) (fun s => s.length = b - a) := by
  rw [slice_ok ⟨h1, h2⟩]; exact Post.pure _ (slice_len h2)

theorem Post.sliceFrom {d : Bytes} {a : Nat} (h : a ≤ d.length) :
    Post (sliceFrom d a) (fun s => s.length = d.length - a) := by
  rw [sliceFrom_ok h]; exact Post.pure _ List.length_drop

theorem Post.be16At {d : Bytes} (h : 2 ≤ d.length) : Post (be16At d) T := by
  rw [be16At_ok h]; exact Post.pure _ trivial

theorem Post.be32At {d : Bytes} (h : 4 ≤ d.length) : Post (be32At d) T := by
  rw [be32At_ok h]; exact Post.pure _ trivial

/-! Reads at numeral offsets inside the first `k` octets of data known to hold at least `k`: the offset
    comparisons are closed and decided, only `hk` comes from the decoder's length test. -/

theorem Post.idx_in {d : Bytes} {k i : Nat} (hk : k ≤ d.length) (hi : i < k := by decide) :
    Post (PTot.idx d i) T := Post.idx (Nat.lt_of_lt_of_le hi hk)

/-- `binary.BigEndian.Uint16(d[a:b])` -/
theorem Post.slice16_in {d : Bytes} {k a b : Nat} (hk : k ≤ d.length) (h1 : a + 2 ≤ b := by decide)
    (h2 : b ≤ k := by decide) : Post (PTot.slice d a b >>= PTot.be16At) T :=
  Post.bind (Post.slice (by omega) (Nat.le_trans h2 hk)) (fun _ hs => Post.be16At (by omega))

theorem decCapDefault_post (d : Bytes) :
    Post (decCapDefault d) (fun r => 2 + r.2.1 ≤ d.length ∧ r.2.2.length = r.2.1) := by
  unfold decCapDefault
  dsimp only
  refine Post.guard (fun h2 => ?_)
  have hd : 2 ≤ d.length := Nat.le_of_not_lt h2
  refine Post.bind (Post.idx_in hd) (fun code _ => ?_)
  refine Post.bind (Post.idx_in hd) (fun len _ => ?_)
  refine Post.guard (fun hl => ?_)
  have hl : 2 + len ≤ d.length := Nat.le_of_not_lt hl
  refine Post.ite (fun _ => ?_) (fun h0 => ?_)
  · exact Post.bind (Post.slice (Nat.le_add_right 2 len) hl)
      (fun v hv => Post.pure _ ⟨hl, hv.trans (Nat.add_sub_cancel_left ..)⟩)
  · exact Post.bind (Post.pure (P := fun v => v = []) _ rfl)
      (fun v hv => Post.pure _ ⟨hl, hv ▸ (Nat.eq_zero_of_not_pos h0).symm⟩)

theorem capTuples6_post : ∀ (f n : Nat) (d : Bytes), n ≤ d.length → Post (capTuples6 f n d) T
  | 0, _, _, _ => by unfold capTuples6; exact Post.pure _ trivial
  | f + 1, n, d, h => by
    unfold capTuples6
    refine Post.ite (fun _ => Post.pure _ trivial) (fun h6 => ?_)
    have hd : 6 ≤ d.length := by omega
    refine Post.bind (Post.slice16_in hd) (fun a _ => ?_)
    refine Post.bind (Post.slice16_in hd) (fun b _ => ?_)
    refine Post.bind (Post.slice16_in hd) (fun c _ => ?_)
    refine Post.bind (Post.sliceFrom hd) (fun d' hd' => ?_)
    exact Post.bind (capTuples6_post f (n - 6) d' (by omega)) (fun r _ => Post.pure _ trivial)

theorem capTuples4_post : ∀ (f n : Nat) (d : Bytes), n ≤ d.length → Post (capTuples4 f n d) T
  | 0, _, _, _ => by unfold capTuples4; exact Post.pure _ trivial
  | f + 1, n, d, h => by
    unfold capTuples4
    refine Post.ite (fun _ => Post.pure _ trivial) (fun h4 => ?_)
    have hd : 4 ≤ d.length := by omega
    refine Post.bind (Post.slice16_in hd) (fun a _ => ?_)
    refine Post.bind (Post.idx_in hd) (fun b _ => ?_)
    refine Post.bind (Post.idx_in hd) (fun c _ => ?_)
    refine Post.bind (Post.sliceFrom hd) (fun d' hd' => ?_)
    exact Post.bind (capTuples4_post f (n - 4) d' (by omega)) (fun r _ => Post.pure _ trivial)

theorem capTuples7_post : ∀ (f n : Nat) (d : Bytes), n ≤ d.length → Post (capTuples7 f n d) T
  | 0, _, _, _ => by unfold capTuples7; exact Post.pure _ trivial
  | f + 1, n, d, h => by
    unfold capTuples7
    refine Post.ite (fun _ => Post.pure _ trivial) (fun h7 => ?_)
    have hd : 7 ≤ d.length := by omega
    refine Post.bind (Post.be16At (Nat.le_trans (by decide) hd)) (fun a _ => ?_)
    refine Post.bind (Post.idx_in hd) (fun b _ => ?_)
    refine Post.bind (Post.idx_in hd) (fun c _ => ?_)
    refine Post.bind (Post.idx_in hd) (fun t0 _ => ?_)
    refine Post.bind (Post.idx_in hd) (fun t1 _ => ?_)
    refine Post.bind (Post.idx_in hd) (fun t2 _ => ?_)
    refine Post.bind (Post.sliceFrom hd) (fun d' hd' => ?_)
    exact Post.bind (capTuples7_post f (n - 7) d' (by omega)) (fun r _ => Post.pure _ trivial)

/-- CapExtendedNexthop, CapAddPath and CapLongLivedGracefulRestart decode `d[2:]` by a tuple loop, after a test
    `bad` of the declared length that is particular to each -/
theorem tupleCap_post {loop : Nat → Nat → Bytes → PM (List Nat)}
    (hloop : ∀ f n d, n ≤ d.length → Post (loop f n d) T) {d : Bytes} (hd : 2 ≤ d.length) {bad : Bool}
    {len : Nat} {k : Bytes → PUnit → PM Cap} {mk : List Nat → Cap} :
    Post (sliceFrom d 2 >>= fun d2 =>
      if (bad || decide (d2.length < len)) = true then throw PErr.reject >>= k d2
      else loop len len d2 >>= fun f => pure (mk f)) T :=
  Post.bind (Post.sliceFrom hd) fun _ _ => Post.guard fun hc =>
    Post.bind (hloop _ _ _ (le_of_not_or_lt hc)) fun _ _ => Post.pure _ trivial

theorem decCap_post (d : Bytes) : Post (decCap d) T := by
  unfold decCap
  dsimp only
  refine Post.guard (fun h2 => ?_)
  have hd : 2 ≤ d.length := Nat.le_of_not_lt h2
  refine Post.bind (Post.idx_in hd) (fun c0 _ => ?_)
  refine Post.bind (decCapDefault_post d) (fun r hr => ?_)
  obtain ⟨code, len, v⟩ := r
  obtain ⟨hlen, hv⟩ := hr
  dsimp only at hlen hv ⊢
  refine Post.ite (fun _ => ?_) (fun _ => ?_)
  · -- CapMultiProtocol
    refine Post.guard (fun h4 => ?_)
    have hv4 : 4 ≤ v.length := by omega
    refine Post.bind (Post.slice16_in hv4) (fun afi _ => ?_)
    exact Post.bind (Post.idx_in hv4) (fun safi _ => Post.pure _ trivial)
  refine Post.ite (fun _ => tupleCap_post capTuples6_post hd) (fun _ => ?_)
  refine Post.ite (fun _ => ?_) (fun _ => ?_)
  · -- CapGracefulRestart
    refine Post.guard (fun hl2 => ?_)
    have hv2 : 2 ≤ v.length := by omega
    refine Post.bind (Post.slice16_in hv2) (fun restart _ => ?_)
    refine Post.bind (Post.sliceFrom hv2) (fun v2 hv2 => ?_)
    refine Post.ite (fun hc => ?_) (fun _ => ?_)
    · simp only [Bool.and_eq_true, decide_eq_true_eq] at hc
      exact Post.bind (capTuples4_post _ _ _ hc.2) (fun f _ => Post.pure _ trivial)
    · exact Post.bind (Post.pure (P := T) _ trivial) (fun f _ => Post.pure _ trivial)
  refine Post.ite (fun _ => ?_) (fun _ => ?_)
  · -- CapFourOctetASNumber
    refine Post.guard (fun h4 => ?_)
    exact Post.bind (Post.be32At (by omega)) (fun as _ => Post.pure _ trivial)
  refine Post.ite (fun _ => tupleCap_post capTuples4_post hd) (fun _ => ?_)
  refine Post.ite (fun _ => tupleCap_post capTuples7_post hd) (fun _ => ?_)
  refine Post.ite (fun _ => ?_) (fun _ => ?_)
  · -- CapFQDN
    refine Post.guard (fun h1 => ?_)
    refine Post.bind (Post.idx (by omega)) (fun hl _ => ?_)
    refine Post.guard (fun h3 => ?_)
    refine Post.bind (Post.slice (by omega) (by omega)) (fun host _ => ?_)
    refine Post.bind (Post.idx (by omega)) (fun dl _ => ?_)
    refine Post.guard (fun h4 => ?_)
    exact Post.bind (Post.slice (by omega) (by omega)) (fun dom _ => Post.pure _ trivial)
  refine Post.ite (fun _ => ?_) (fun _ => ?_)
  · -- CapSoftwareVersion
    refine Post.guard (fun h1 => ?_)
    refine Post.bind (Post.idx (by omega)) (fun sl _ => ?_)
    refine Post.bind (Post.sliceFrom (by omega)) (fun tail htail => ?_)
    refine Post.guard (fun hc => ?_)
    simp only [Bool.or_eq_true, decide_eq_true_eq, not_or, Nat.not_lt] at hc
    exact Post.bind (Post.slice (by omega) (by omega)) (fun s _ => Post.pure _ trivial)
  · exact Post.pure _ trivial

theorem decCaps_post : ∀ (f : Nat) (d : Bytes), Post (decCaps f d) (fun cs => 2 * cs.length ≤ d.length)
  | 0, d => by unfold decCaps; exact Post.pure _ (Nat.zero_le _)
  | f + 1, d => by
    unfold decCaps
    dsimp only
    refine Post.ite (fun _ => Post.pure _ (Nat.zero_le _)) (fun h2 => ?_)
    refine Post.bind (decCap_post d) (fun c _ => ?_)
    refine Post.guard (fun hc => ?_)
    refine Post.bind (Post.sliceFrom (le_of_not_or_lt hc)) (fun d' hd' => ?_)
    refine Post.bind (decCaps_post f d') (fun r hr => Post.pure _ ?_)
    rw [List.length_cons]; omega

theorem optParam_step {rest plen k : Nat} (h : plen + 2 ≤ rest) (hr : 2 * k ≤ rest - (plen + 2)) :
    2 * (k + 1) ≤ rest := by omega

theorem decOptParams_post : ∀ (f rest : Nat) (d : Bytes), rest ≤ d.length →
    Post (decOptParams f rest d) (fun ps => 2 * ps.length ≤ rest)
  | 0, _, _, _ => by unfold decOptParams; exact Post.pure _ (Nat.zero_le _)
  | f + 1, rest, d, h => by
    unfold decOptParams
    dsimp only
    refine Post.ite (fun _ => Post.pure _ (Nat.zero_le _)) (fun h0 => ?_)
    refine Post.ite (fun _ => Post.reject) (fun h2 => ?_)
    have hd : 2 ≤ d.length := Nat.le_trans (Nat.le_of_not_lt h2) h
    refine Post.bind (Post.idx_in hd) (fun ptype _ => ?_)
    refine Post.bind (Post.idx_in hd) (fun plen _ => ?_)
    refine Post.guard (fun hc => ?_)
    have hc := le_of_not_or_lt hc
    have hp : 2 + plen ≤ d.length := by omega
    refine Post.bind (Post.slice (Nat.le_add_right 2 plen) hp) (fun pv _ => ?_)
    -- both kinds of parameter go on with the data after the parameter
    refine Post.ite (fun _ => Post.bind (decCaps_post _ pv) (fun cs _ => ?_)) (fun _ => ?_)
    all_goals
      refine Post.bind (Post.pure (P := T) _ trivial) (fun p _ => ?_)
      refine Post.bind (Post.sliceFrom hp) (fun d' hd' => ?_)
      exact Post.bind (decOptParams_post f _ d' (by omega)) (fun r hr => Post.pure _ (optParam_step hc hr))

theorem decOptParams_no_panic (f rest : Nat) (d : Bytes) (h : rest ≤ d.length) :
    decOptParams f rest d ≠ .error .panic := (decOptParams_post f rest d h).1

theorem decOpen_post (d : Bytes) : Post (decOpen d) (fun o => 10 + 2 * o.params.length ≤ d.length) := by
  unfold decOpen
  dsimp only
  refine Post.guard (fun h10 => ?_)
  have hd : 10 ≤ d.length := Nat.le_of_not_lt h10
  refine Post.bind (Post.idx_in hd) (fun ver _ => ?_)
  refine Post.bind (Post.slice16_in hd) (fun as _ => ?_)
  refine Post.bind (Post.slice16_in hd) (fun hold _ => ?_)
  refine Post.bind (Post.bind (Post.slice (by decide) (Nat.le_trans (by decide) hd))
    (fun _ hs => Post.be32At (Nat.le_of_eq hs.symm))) (fun id _ => ?_)
  refine Post.bind (Post.idx_in hd) (fun optLen _ => ?_)
  refine Post.bind (Post.sliceFrom hd) (fun d' hd' => ?_)
  refine Post.guard (fun hc => ?_)
  refine Post.bind (decOptParams_post _ _ d' (Nat.le_of_not_lt hc)) (fun ps hps => Post.pure _ ?_)
  show 10 + 2 * ps.length ≤ d.length
  omega

theorem parseOpen_no_panic (d : Bytes) : parseOpen d ≠ .error .panic := by
  rw [PTotL.parseOpen_frame]
  split
  · exact nofun
  split
  · exact nofun
  · exact (decOpen_post _).1

/-! `Post` without the no-panic half: `decOptParams_count` has no `rest ≤ d.length` hypothesis, and without it the loop
    can panic. -/

def Ret {α : Type} (x : PM α) (P : α → Prop) : Prop := ∀ a, x = .ok a → P a

theorem Ret.pure {α : Type} {P : α → Prop} (a : α) (h : P a) : Ret (pure a : PM α) P :=
  fun b hb => (by cases hb; exact h)

theorem Ret.reject {α : Type} {P : α → Prop} : Ret (throw PErr.reject : PM α) P := nofun

theorem Ret.bind {α β : Type} {x : PM α} {f : α → PM β} {Q : β → Prop}
    (hf : ∀ a, x = .ok a → Ret (f a) Q) : Ret (x >>= f) Q := by
  cases x with
  | error e => exact nofun
  | ok a => exact hf a rfl

theorem Ret.ite {α : Type} {c : Prop} [Decidable c] {a b : PM α} {P : α → Prop}
    (ha : c → Ret a P) (hb : ¬ c → Ret b P) : Ret (if c then a else b) P := by
  by_cases h : c
  · rw [if_pos h]; exact ha h
  · rw [if_neg h]; exact hb h

theorem decOptParams_ret : ∀ (f rest : Nat) (d : Bytes),
    Ret (decOptParams f rest d) (fun ps => 2 * ps.length ≤ rest)
  | 0, _, _ => by unfold decOptParams; exact Ret.pure _ (Nat.zero_le _)
  | f + 1, rest, d => by
    unfold decOptParams
    dsimp only
    refine Ret.ite (fun _ => Ret.pure _ (Nat.zero_le _)) (fun h0 => ?_)
    refine Ret.ite (fun _ => Ret.reject) (fun h2 => ?_)
    refine Ret.bind (fun ptype _ => ?_)
    refine Ret.bind (fun plen _ => ?_)
    refine Ret.ite (fun _ => Ret.reject) (fun hc => ?_)
    refine Ret.bind (fun pv _ => ?_)
    refine Ret.ite (fun _ => Ret.bind (fun cs _ => ?_)) (fun _ => ?_)
    all_goals
      refine Ret.bind (fun p _ => ?_)
      refine Ret.bind (fun d' _ => ?_)
      exact Ret.bind (fun r hr => Ret.pure _ (optParam_step (le_of_not_or_lt hc) (decOptParams_ret f _ d' r hr)))

theorem decOptParams_count {f rest d ps} (h : decOptParams f rest d = .ok ps) : 2 * ps.length ≤ rest :=
  decOptParams_ret f rest d ps h

theorem capTuples6_fuel {f g n : Nat} (d : Bytes) (hf : n ≤ f) (hg : n ≤ g) :
    capTuples6 f n d = capTuples6 g n d := by
  refine PTotL.fuel_indep_ctr (I := T) (fun _ _ => rfl) (fun f g n d _ ih => ?_) d trivial hf hg
  simp only [capTuples6]
  refine PTotL.ite_else_congr fun h6 => ?_
  simp only [fun d' => ih (n - 6) d' trivial (show n - 6 < n by omega)]

theorem capTuples4_fuel {f g n : Nat} (d : Bytes) (hf : n ≤ f) (hg : n ≤ g) :
    capTuples4 f n d = capTuples4 g n d := by
  refine PTotL.fuel_indep_ctr (I := T) (fun _ _ => rfl) (fun f g n d _ ih => ?_) d trivial hf hg
  simp only [capTuples4]
  refine PTotL.ite_else_congr fun h4 => ?_
  simp only [fun d' => ih (n - 4) d' trivial (show n - 4 < n by omega)]

theorem capTuples7_fuel {f g n : Nat} (d : Bytes) (hf : n ≤ f) (hg : n ≤ g) :
    capTuples7 f n d = capTuples7 g n d := by
  refine PTotL.fuel_indep_ctr (I := T) (fun _ _ => rfl) (fun f g n d _ ih => ?_) d trivial hf hg
  simp only [capTuples7]
  refine PTotL.ite_else_congr fun h7 => ?_
  simp only [fun d' => ih (n - 7) d' trivial (show n - 7 < n by omega)]

/-- by this lemma the walks below pass a `throw`; a bare `rfl` there compares the two continuations first -/
theorem throw_bind_congr {α β : Type} (e : PErr) (f g : α → PM β) :
    (throw e : PM α) >>= f = (throw e : PM α) >>= g := rfl

theorem bind_congr_ok {α β : Type} {x : PM α} {f g : α → PM β}
    (h : ∀ a, x = .ok a → f a = g a) : x >>= f = x >>= g := by
  cases x with
  | error e => rfl
  | ok a => exact h a rfl

theorem sliceFrom_inv {d d' : Bytes} {a : Nat} (h : sliceFrom d a = .ok d') :
    a ≤ d.length ∧ d'.length = d.length - a := by
  unfold sliceFrom at h
  split at h
  · cases h; exact ⟨by assumption, List.length_drop⟩
  · cases h

theorem decCaps_fuel {f g : Nat} (d : Bytes) (hf : d.length ≤ f) (hg : d.length ≤ g) :
    decCaps f d = decCaps g d := by
  refine PTotL.fuel_indep (loop := decCaps) (μ := List.length) ?_ ?_ f g d hf hg
  · intro f d h
    simp only [decCaps, if_pos (show d.length < 2 by omega)]
  · intro f g d ih
    simp only [decCaps]
    refine PTotL.ite_else_congr fun hl => ?_
    refine bind_congr_ok (fun c _ => ?_)
    refine ite_congr rfl (fun _ => throw_bind_congr ..) (fun _ => ?_)
    refine bind_congr_ok (fun d' hd' => ?_)
    have := sliceFrom_inv hd'
    rw [ih d' (by omega)]

theorem decOptParams_fuel {f g rest : Nat} (d : Bytes) (hf : rest ≤ f) (hg : rest ≤ g) :
    decOptParams f rest d = decOptParams g rest d := by
  refine PTotL.fuel_indep_ctr (I := T) (fun _ _ => rfl) (fun f g rest d _ ih => ?_) d trivial hf hg
  unfold decOptParams
  dsimp only
  refine PTotL.ite_else_congr fun _ => ?_
  refine PTotL.ite_else_congr fun _ => ?_
  refine bind_congr_ok (fun ptype _ => ?_)
  refine bind_congr_ok (fun plen _ => ?_)
  refine ite_congr rfl (fun _ => throw_bind_congr ..) (fun _ => ?_)
  refine bind_congr_ok (fun pv _ => ?_)
  refine ite_congr rfl (fun _ => bind_congr_ok (fun cs _ => ?_)) (fun _ => ?_)
  all_goals
    refine bind_congr_ok (fun p _ => ?_)
    refine bind_congr_ok (fun d' _ => ?_)
    rw [ih _ d' trivial (show rest - (plen + 2) < rest by omega)]

example : decCap [65, 4, 0, 1, 0, 0] = .ok ⟨65, 4, [65536]⟩ := rfl
example : decCap [1, 4, 0, 1, 0, 1] = .ok ⟨1, 4, [1, 1]⟩ := rfl
example : decCap [64, 1, 0] = .error .reject := rfl
example : decCap [73, 2, 5, 0] = .error .reject := rfl
example : decCap [69, 4, 0, 1, 1, 3] = .ok ⟨69, 4, [1, 1, 3]⟩ := rfl
example : decCap [5, 6, 0, 1, 0, 1, 0, 2] = .ok ⟨5, 6, [1, 1, 2]⟩ := rfl
example : decCap [71, 7, 0, 1, 1, 0, 0, 0, 10] = .ok ⟨71, 7, [1, 1, 0, 10]⟩ := rfl
example : decCap [73, 4, 1, 104, 1, 100] = .ok ⟨73, 4, [1, 104, 1, 100]⟩ := rfl
example : decCap [2, 0] = .ok ⟨2, 0, []⟩ := rfl
example : decCap [2] = .error .reject := rfl
example : decCaps 6 [1, 4, 0, 1, 0, 1] = .ok [⟨1, 4, [0 * 256 + 1, 1]⟩] := rfl
example : decOpen [4, 253, 232, 0, 90, 10, 0, 0, 1, 8, 2, 6, 1, 4, 0, 1, 0, 1] =
    .ok ⟨4, 65000, 90, 167772161, 8, [.caps 2 6 [⟨1, 4, [1, 1]⟩]]⟩ := rfl
-- optional-parameter length longer than what is there: rejected, not a panic
example : decOpen [4, 253, 232, 0, 90, 10, 0, 0, 1, 9, 2, 6, 1, 4, 0, 1, 0, 1] = .error .reject := rfl
-- parameter length overrunning the declared optional-parameter length
example : decOpen [4, 253, 232, 0, 90, 10, 0, 0, 1, 8, 2, 7, 1, 4, 0, 1, 0, 1] = .error .reject := rfl
example : parseOpen (marker ++ [0, 37, 1, 4, 253, 232, 0, 90, 10, 0, 0, 1, 8, 2, 6, 1, 4, 0, 1, 0, 1]) =
    .ok ⟨4, 65000, 90, 167772161, 8, [.caps 2 6 [⟨1, 4, [1, 1]⟩]]⟩ := rfl
-- the checked primitives do panic when used without a guard: the theorems are not vacuous
example : idx [1, 2] 2 = .error .panic := rfl
example : slice [1, 2, 3] 1 4 = .error .panic := rfl
example : capTuples6 1 6 [0, 1, 0, 1, 0] = .error .panic := rfl
example : decOptParams 2 2 [2] = .error .panic := rfl

end PTotO
