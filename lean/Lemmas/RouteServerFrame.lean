/-
  Frame properties of the ORDINARY operations of Model/World.lean.  An event of an ordinary peer
  (or a locally injected route) changes the neighbour list only by mapping a function over it
  that keeps every configuration and leaves every route-server client exactly as it was;
  DeletePeer then removes the neighbour.  The group `keep` of neighbours left alone is a
  parameter: for the events of a client it is the ordinary neighbours.
-/
import Model.RouteServer
import Lemmas.WorldInv
namespace RouteServer
open BestPath World

/-- `w'` is `w` with a configuration-preserving function mapped over the neighbour list that
    fixes every neighbour whose configuration satisfies `keep`; same global configuration -/
def MapFrame (keep : PeerCfg → Bool) (w w' : W) : Prop :=
  w'.g = w.g ∧ ∃ f : PeerSt → PeerSt, w'.peers = w.peers.map f ∧ (∀ ps, (f ps).cfg = ps.cfg) ∧
    (∀ ps ∈ w.peers, keep ps.cfg = true → f ps = ps)

theorem MapFrame.of_eq {keep : PeerCfg → Bool} {w w' : W} (hg : w'.g = w.g)
    (hp : w'.peers = w.peers) : MapFrame keep w w' :=
  ⟨hg, id, hp.trans (List.map_id _).symm, fun _ => rfl, fun _ _ _ => rfl⟩

theorem MapFrame.refl (keep : PeerCfg → Bool) (w : W) : MapFrame keep w w := .of_eq rfl rfl

theorem MapFrame.trans {keep : PeerCfg → Bool} {a b c : W} (h1 : MapFrame keep a b)
    (h2 : MapFrame keep b c) : MapFrame keep a c := by
  obtain ⟨g1, f1, p1, c1, k1⟩ := h1
  obtain ⟨g2, f2, p2, c2, k2⟩ := h2
  refine ⟨g2.trans g1, f2 ∘ f1, ?_, fun ps => (c2 (f1 ps)).trans (c1 ps), fun ps hps hk => ?_⟩
  · rw [p2, p1, List.map_map]
  · show f2 (f1 ps) = ps
    rw [k1 ps hps hk]
    apply k2 ps _ hk
    rw [p1]
    exact List.mem_map.mpr ⟨ps, hps, k1 ps hps hk⟩

theorem MapFrame.mem_iff {keep : PeerCfg → Bool} {w w' : W} (h : MapFrame keep w w')
    {ps : PeerSt} (hk : keep ps.cfg = true) : ps ∈ w'.peers ↔ ps ∈ w.peers := by
  obtain ⟨_, f, p, c, k⟩ := h
  rw [p, List.mem_map]
  constructor
  · rintro ⟨q, hq, rfl⟩
    rw [c q] at hk
    rw [k q hq hk]
    exact hq
  · exact fun hm => ⟨ps, hm, k ps hm hk⟩

theorem MapFrame.peersWF {keep : PeerCfg → Bool} {w w' : W} (h : MapFrame keep w w')
    (hp : PeersWF w.peers) : PeersWF w'.peers := by
  obtain ⟨_, f, p, c, _⟩ := h
  rw [p]
  exact peersWF_map w.peers f c hp

theorem peersWF_filter {l : List PeerSt} (h : PeersWF l) (p : PeerSt → Bool) :
    PeersWF (l.filter p) :=
  ⟨h.addr.filter p, h.idx.filter p⟩

private theorem frame_of_eq {keep : PeerCfg → Bool} {w w1 w' : W} (hg : w1.g = w.g)
    (hp : w1.peers = w.peers) (h : MapFrame keep w1 w') : MapFrame keep w w' :=
  (MapFrame.of_eq hg hp).trans h

/-- weaker than `MapFrame`: it also holds when neighbours outside `keep` are removed -/
structure Untouched (keep : PeerCfg → Bool) (w w' : W) : Prop where
  g   : w'.g = w.g
  wf  : PeersWF w.peers → PeersWF w'.peers
  mem : ∀ ps, keep ps.cfg = true → (ps ∈ w'.peers ↔ ps ∈ w.peers)

theorem MapFrame.untouched {keep : PeerCfg → Bool} {w w' : W} (h : MapFrame keep w w') :
    Untouched keep w w' :=
  ⟨h.1, h.peersWF, fun _ hk => h.mem_iff hk⟩

/-- in a well-formed neighbour list the neighbour found for `idx` is the only one with that index -/
theorem no_kept_with_idx {keep : PeerCfg → Bool} {w : W} (hp : PeersWF w.peers) {idx : Nat}
    {ps0 : PeerSt} (h0 : w.peer? idx = some ps0) (hk : keep ps0.cfg = false) :
    ∀ ps ∈ w.peers, ps.cfg.idx = idx → keep ps.cfg = false := by
  intro ps hps hi
  obtain ⟨hm0, hi0⟩ := peer?_mem w idx ps0 h0
  rw [peer_of_idx hp hps hm0 (hi.trans hi0.symm)]
  exact hk

/-- the shape of DeletePeer: a frame step, then the neighbours with index `i` are filtered out -/
theorem MapFrame.untouched_remove {keep : PeerCfg → Bool} {w w1 w' : W} (h : MapFrame keep w w1)
    (hwf : PeersWF w.peers) {i : Nat} {ps0 : PeerSt} (h0 : w.peer? i = some ps0)
    (hk : keep ps0.cfg = false) (hg : w'.g = w1.g)
    (hp : w'.peers = w1.peers.filter (fun q => q.cfg.idx != i)) : Untouched keep w w' := by
  refine ⟨hg.trans h.1, fun _ => ?_, fun ps hkeep => ?_⟩
  · rw [hp]
    exact peersWF_filter (h.peersWF hwf) _
  · rw [hp, List.mem_filter, h.mem_iff hkeep, bne_iff_ne]
    exact ⟨fun hm => hm.1, fun hm => ⟨hm, fun hi =>
      Bool.false_ne_true ((no_kept_with_idx hwf h0 hk ps hm hi).symm.trans hkeep)⟩⟩

theorem ite_cfg {f : PeerSt → PeerSt} (hf : ∀ ps, (f ps).cfg = ps.cfg) (c : Bool) (ps : PeerSt) :
    (if c then f ps else ps).cfg = ps.cfg := by
  cases c with
  | false => rfl
  | true => exact hf ps

theorem updPeer_frame {keep : PeerCfg → Bool} {w : W} (hp : PeersWF w.peers) {idx : Nat}
    {ps0 : PeerSt} (h0 : w.peer? idx = some ps0) (hk : keep ps0.cfg = false) {n : Nat}
    {f : PeerSt → PeerSt} (hf : ∀ ps, (f ps).cfg = ps.cfg) :
    MapFrame keep w (W.updPeer { w with tick := n } idx f) := by
  refine ⟨rfl, fun ps => if ps.cfg.idx == idx then f ps else ps, rfl, fun ps => ite_cfg hf _ ps,
    fun ps hps hkeep => ?_⟩
  exact if_neg fun hi => Bool.false_ne_true
    ((no_kept_with_idx hp h0 hk ps hps (beq_iff_eq.mp hi)).symm.trans hkeep)

theorem fanout_frame (w : W) (oldL newL : List Cand) :
    MapFrame PeerCfg.isRSClient w (fanout w oldL newL) := by
  unfold fanout
  rcases getChanges oldL newL with ⟨_ | b, old⟩
  · exact MapFrame.refl _ w
  · refine ⟨rfl, _, rfl, fun ps => ?_, fun ps _ hk => ?_⟩
    · split
      · split <;> rfl
      · rfl
    · have hk' : ps.cfg.isRSClient = true := hk
      simp only [hk', Bool.not_true, Bool.and_false, Bool.false_eq_true, if_false]

theorem ribUpdate_frame (w : W) (op : Op) (pfx : Nat) :
    MapFrame PeerCfg.isRSClient w (ribUpdate w op pfx) :=
  frame_of_eq (w1 := w.setRib pfx _) rfl rfl (fanout_frame _ _ _)

theorem propagate_frame (w : W) (x : PeerCfg) (r : Cand) (wd : Bool) :
    MapFrame PeerCfg.isRSClient w (propagate w x r wd) :=
  ribUpdate_frame w _ _

theorem frame_fold (x : PeerCfg) (es : List AdjEntry) (w : W) :
    MapFrame PeerCfg.isRSClient w (es.foldl (fun w e => propagate w x e.r true) w) := by
  induction es generalizing w with
  | nil => exact MapFrame.refl _ w
  | cons e es ih => exact (propagate_frame w x e.r true).trans (ih _)

/-! An event of an ORDINARY neighbour `idx` (the neighbour found for `idx`, if any, is not a
    route-server client) leaves every route-server client untouched. -/

theorem recvAnn_frame (w : W) (hp : PeersWF w.peers) (idx : Nat) (r0 : Cand)
    (hord : ∀ ps, w.peer? idx = some ps → ps.cfg.isRSClient = false) :
    MapFrame PeerCfg.isRSClient w (recvAnn w idx r0) := by
  unfold recvAnn
  split
  · exact MapFrame.refl _ w
  · rename_i ps hp0
    by_cases hu : (!ps.up) = true
    · rw [if_pos hu]
      exact MapFrame.refl _ w
    · rw [if_neg hu]
      refine MapFrame.trans ?_ (propagate_frame _ _ _ _)
      exact updPeer_frame hp hp0 (hord ps hp0) fun _ => rfl

theorem recvWd_frame (w : W) (hp : PeersWF w.peers) (idx pfx pathId : Nat)
    (hord : ∀ ps, w.peer? idx = some ps → ps.cfg.isRSClient = false) :
    MapFrame PeerCfg.isRSClient w (recvWd w idx pfx pathId) := by
  unfold recvWd
  split
  · exact MapFrame.refl _ w
  · rename_i ps hp0
    by_cases hu : (!ps.up) = true
    · rw [if_pos hu]
      exact MapFrame.refl _ w
    · rw [if_neg hu]
      refine MapFrame.trans ?_ (propagate_frame _ _ _ _)
      exact updPeer_frame hp hp0 (hord ps hp0) fun _ => rfl

theorem sessionUp_frame (w : W) (hp : PeersWF w.peers) (idx : Nat)
    (hord : ∀ ps, w.peer? idx = some ps → ps.cfg.isRSClient = false) :
    MapFrame PeerCfg.isRSClient w (sessionUp w idx) := by
  unfold sessionUp
  split
  · exact MapFrame.refl _ w
  · rename_i ps hp0
    exact updPeer_frame hp hp0 (hord ps hp0) fun _ => rfl

theorem sessionDown_frame (w : W) (hp : PeersWF w.peers) (idx : Nat)
    (hord : ∀ ps, w.peer? idx = some ps → ps.cfg.isRSClient = false) :
    MapFrame PeerCfg.isRSClient w (sessionDown w idx) := by
  unfold sessionDown
  split
  · exact MapFrame.refl _ w
  · rename_i ps hp0
    refine MapFrame.trans ?_ (frame_fold _ _ _)
    exact updPeer_frame hp hp0 (hord ps hp0) fun _ => rfl

theorem localAdd_frame (w : W) (r0 : Cand) : MapFrame PeerCfg.isRSClient w (localAdd w r0) := by
  unfold localAdd
  exact frame_of_eq (w1 := { w with tick := w.tick + 1 }) rfl rfl (ribUpdate_frame _ _ _)

theorem localDel_frame (w : W) (pfx pathId : Nat) :
    MapFrame PeerCfg.isRSClient w (localDel w pfx pathId) := by
  unfold localDel
  exact frame_of_eq (w1 := { w with tick := w.tick + 1 }) rfl rfl (ribUpdate_frame _ _ _)

theorem delPeer_untouched (w : W) (hp : PeersWF w.peers) (idx : Nat)
    (hord : ∀ ps, w.peer? idx = some ps → ps.cfg.isRSClient = false) :
    Untouched PeerCfg.isRSClient w (delPeer w idx) := by
  unfold delPeer
  split
  · exact (MapFrame.refl _ w).untouched
  · rename_i ps hp0
    refine MapFrame.untouched_remove (MapFrame.trans ?_ (frame_fold _ _ _)) hp hp0 (hord ps hp0)
      rfl rfl
    exact updPeer_frame hp hp0 (hord ps hp0) fun _ => rfl

theorem addPeer_frame (w : W) (hp : PeersWF w.peers) (c : PeerCfg) :
    (addPeer w c).g = w.g ∧ PeersWF (addPeer w c).peers ∧
    ∀ ps ∈ (addPeer w c).peers, ps.up = true → ps ∈ w.peers := by
  unfold addPeer
  split
  · exact ⟨rfl, hp, fun _ hps _ => hps⟩
  · rename_i hfresh
    simp only [List.any_eq_true, Bool.or_eq_true, beq_iff_eq, not_exists, not_and, not_or] at hfresh
    refine ⟨rfl, ⟨?_, ?_⟩, fun ps hps hup => ?_⟩
    · refine List.pairwise_append.mpr ⟨hp.addr, List.pairwise_singleton _ _, fun a ha b hb => ?_⟩
      rw [List.mem_singleton.mp hb]
      exact (hfresh a ha).2
    · refine List.pairwise_append.mpr ⟨hp.idx, List.pairwise_singleton _ _, fun a ha b hb => ?_⟩
      rw [List.mem_singleton.mp hb]
      exact (hfresh a ha).1
    · rcases List.mem_append.mp hps with hps | hps
      · exact hps
      · rw [List.mem_singleton.mp hps] at hup
        cases hup

end RouteServer
