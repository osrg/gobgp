/-
C13 — the "local-admin set" shapes `^W:(n|n|…)$`, `^W:n$` (wildcard AS) and `^a:(n|n|…)$` (literal AS):
the parsed regular expression matches the text `H:L` iff `L` is the rendering of one of the listed
values (and `H` is `a`, resp. a run of digits).
-/
import Model.CommMatch
import Lemmas.C13Modes
namespace CommMatch
open Regex

theorem parseTok_some {t : Str} {n : Nat} (h : parseTok t = some n) : t = toDec n ∧ n < 65536 := by
  unfold parseTok at h
  split at h
  · next v hv =>
    split at h
    · next hc => cases h; exact parseUint_canon hv hc
    · cases h
  · cases h

theorem parseToks_some : ∀ {toks : List Str} {ls : List Nat}, parseToks toks = some ls →
    toks = ls.map toDec ∧ ∀ n ∈ ls, n < 65536
  | [], ls, h => by cases h; exact ⟨rfl, fun n hn => by cases hn⟩
  | t :: ts, ls, h => by
    simp only [parseToks] at h
    split at h
    · next n ns h1 h2 =>
      cases h
      obtain ⟨e, hlt⟩ := parseTok_some h1
      obtain ⟨es, hall⟩ := parseToks_some h2
      refine ⟨by rw [e, es]; rfl, fun m hm => ?_⟩
      rcases List.mem_cons.1 hm with rfl | hm
      · exact hlt
      · exact hall m hm
    · cases h

theorem splitBar_ne_nil (w : Str) : splitBar w ≠ [] := by
  cases w with
  | nil => simp [splitBar]
  | cons c cs =>
    simp only [splitBar]
    split
    · simp
    · split <;> simp

/-- a digit or the bar -/
def BarDig (c : Nat) : Prop := isDigit c = true ∨ c = 124

theorem splitBar_bardig : ∀ (w : Str), (∀ tok ∈ splitBar w, tok.all isDigit = true) → ∀ c ∈ w, BarDig c
  | a :: w, h, c, hc => by
    have ih := splitBar_bardig w
    rw [splitBar] at h
    by_cases ha : a = 124
    · rw [if_pos ha, List.forall_mem_cons] at h
      rcases List.mem_cons.1 hc with rfl | hc
      · exact .inr ha
      · exact ih h.2 c hc
    · rw [if_neg ha] at h
      cases hs : splitBar w with
      | nil => exact absurd hs (splitBar_ne_nil w)
      | cons hd tl =>
        rw [hs] at h ih
        simp only [List.forall_mem_cons, List.all_cons, Bool.and_eq_true] at h ih
        rcases List.mem_cons.1 hc with rfl | hc
        · exact .inl h.1.1
        · exact ih ⟨h.1.2, h.2⟩ c hc

theorem parseLocalSet_some {rhs : Str} {ls : List Nat} (h : parseLocalSet rhs = some ls) :
    (∀ n ∈ ls, n < 65536) ∧
      ((∃ inner, rhs = 40 :: (inner ++ [41]) ∧ splitBar inner = ls.map toDec) ∨ [rhs] = ls.map toDec) := by
  unfold parseLocalSet at h
  simp only at h
  split at h
  · next ls' hp =>
    have hls : ls' = ls := by
      split at h
      · cases h
      · split at h
        · simpa using h
        · cases h
    subst hls
    obtain ⟨e, hall⟩ := parseToks_some hp
    refine ⟨hall, ?_⟩
    split at e
    · next hc =>
      simp only [Bool.and_eq_true, beq_iff_eq, decide_eq_true_eq] at hc
      exact Or.inl ⟨_, head_last_split hc.1.1 hc.1.2 hc.2, e⟩
    · exact Or.inr e
  · cases h

theorem tryWildASN_some {s : Str} {ls : List Nat} (h : tryWildASN s = some ls) :
    ∃ W rhs, s = 94 :: ((W ++ 58 :: rhs) ++ [36]) ∧ isWildcardASN W = true ∧ parseLocalSet rhs = some ls := by
  unfold tryWildASN at h
  split at h
  · cases h
  · next body hb =>
    split at h
    · cases h
    · next x rhs hf =>
      simp only at h
      split at h
      · cases h
      · split at h
        · cases h
        · next hw =>
          refine ⟨beforeColon body, rhs, ?_, by simpa using hw, h⟩
          rw [← (fromColon_cons hf).1]
          exact anchoredBody_some hb

theorem localset_lt (s : Str) (ls : List Nat) (ht : tryWildASN s = some ls) : ∀ n ∈ ls, n < 65536 := by
  rcases tryWildASN_some ht with ⟨W, rhs, _, _, hl⟩
  exact (parseLocalSet_some hl).1

def charTok (c : Nat) : Tok := if c = 124 then .bar else .atom (lit c)

theorem stepM_bardig {c : Nat} (h : BarDig c) : stepM .normal c = .ok (.normal, [charTok c]) := by
  rcases h with h | h
  · simp only [isDigit, Bool.and_eq_true, decide_eq_true_eq] at h
    have hne : c ≠ 124 := by omega
    simp only [stepM, stepNormal_plain ⟨h.1, by omega⟩, charTok, hne, if_false]
  · subst h; rfl

theorem lexGo_paren_eq {cs : List Nat} (h : ∀ c rest, cs = c :: rest → c ≠ 63) :
    lexGo .paren cs = lexGo .normal cs := by
  cases cs with
  | nil => rfl
  | cons c cs =>
    have := h c cs rfl
    simp [lexGo, stepM, this]

/-- the tokens of `(inner)$` -/
theorem lex_rhs_paren {inner : Str} {tks : List Tok} (hw : ∀ c ∈ inner, BarDig c)
    (h : lexGo .normal (40 :: (inner ++ [41, 36])) = .ok tks) :
    tks = .lpar :: (inner.map charTok ++ [.rpar, .atom .eot]) := by
  have hs : stepM .normal 40 = .ok (.paren, [.lpar]) := rfl
  rcases lexGo_ok_cons hs h with ⟨r1, h1, e1⟩
  -- the character after `(` is a digit, a bar or `)`, not the `?` of `(?:`
  have hne : ∀ c rest, inner ++ [41, 36] = c :: rest → c ≠ 63 := by
    rintro c rest e rfl
    have hm : 63 ∈ inner ++ [41, 36] := e ▸ List.mem_cons_self
    rcases List.mem_append.1 hm with hm | hm
    · rcases hw 63 hm with ha | ha <;> exact absurd ha (by decide)
    · exact absurd hm (by decide)
  rw [lexGo_paren_eq hne] at h1
  rcases lexGo_map (fun c hc => stepM_bardig (hw c hc)) h1 with ⟨r2, h2, e2⟩
  have h3 : lexGo .normal [41, 36] = .ok [.rpar, .atom .eot] := rfl
  cases h3.symm.trans h2
  rw [e1, e2]; rfl

/-- the tokens of `n$` -/
theorem lex_rhs_plain {rhs : Str} {tks : List Tok} (hw : rhs.all isDigit = true)
    (h : lexGo .normal (rhs ++ [36]) = .ok tks) :
    tks = (rhs.map lit ++ [R.eot]).map Tok.atom := by
  rcases lexGo_plain (digits_plain hw) h with ⟨r2, h2, e2⟩
  have h3 : lexGo .normal [36] = .ok [.atom .eot] := rfl
  cases h3.symm.trans h2
  rw [e2]
  simp [List.map_map, Function.comp_def]

/-- the frame reached from `f` after the tokens of a string of digits and bars -/
def frameAfter : Frame → Str → Frame
  | f, [] => f
  | f, c :: w => if c = 124 then frameAfter ⟨some f.close, []⟩ w else frameAfter ⟨f.alts, lit c :: f.cur⟩ w

theorem prun_group (w : Str) : ∀ (st : List Frame) (f : Frame) (jr : Bool) (tks : List Tok),
    ∃ jr', prun ⟨st, f, jr⟩ (w.map charTok ++ tks) = prun ⟨st, frameAfter f w, jr'⟩ tks := by
  induction w with
  | nil => intro st f jr tks; exact ⟨jr, rfl⟩
  | cons c w ih =>
    intro st f jr tks
    simp only [List.map_cons, List.cons_append, charTok, frameAfter]
    split
    · exact ih st ⟨some f.close, []⟩ false tks
    · exact ih st ⟨f.alts, lit c :: f.cur⟩ false tks

/-- the expression of the group `(inner)` -/
def grp (inner : Str) : R := (frameAfter ⟨none, []⟩ inner).close

theorem prun_group_tail (P : List R) (jr : Bool) (inner : Str) (S1 : PSt) (x : R × Bool)
    (hr : prun ⟨[], ⟨none, P⟩, jr⟩ (.lpar :: (inner.map charTok ++ [.rpar, .atom .eot])) = some S1)
    (hf : pfinish S1 = some x) : x = (catList (P.reverse ++ [grp inner, .eot]), false) := by
  simp only [prun, pstep] at hr
  rcases prun_group inner [⟨none, P⟩] ⟨none, []⟩ false [.rpar, .atom .eot] with ⟨jr', e⟩
  rw [e] at hr
  cases hr
  cases hf
  simp [Frame.close, grp]

theorem prun_plain_tail (P : List R) (jr : Bool) (rhs : Str) (S1 : PSt) (x : R × Bool)
    (hr : prun ⟨[], ⟨none, P⟩, jr⟩ ((rhs.map lit ++ [R.eot]).map Tok.atom) = some S1)
    (hf : pfinish S1 = some x) : x = (catList (P.reverse ++ (rhs.map lit ++ [.eot])), false) := by
  rw [← List.append_nil (List.map Tok.atom _), prun_atoms] at hr
  cases hr
  cases hf
  simp [Frame.close]

/-- the literal string `tok` sits in `t` between positions `k` and `j` -/
def IsTokAt (t : Str) (k j : Nat) (tok : Str) : Prop :=
  t.drop k = tok ++ t.drop (k + tok.length) ∧ j = k + tok.length

theorem match_tok {t : Str} {k j : Nat} (u : Str) : Match t (catList (u.map lit)) k j ↔ IsTokAt t k j u := by
  have := match_lits (t := t) (Y := []) (j := j) u k
  simp only [List.append_nil, catList, match_eps] at this
  exact this

theorem match_close {t : Str} {k j : Nat} (al : Option R) (u : Str) :
    Match t (Frame.close ⟨al, (u.map lit).reverse⟩) k j ↔
      ((∃ a, al = some a ∧ Match t a k j) ∨ IsTokAt t k j u) := by
  cases al with
  | none => simp only [Frame.close, List.reverse_reverse, match_tok, reduceCtorEq, false_and, exists_false, false_or]
  | some a => simp only [Frame.close, List.reverse_reverse, match_alt, match_tok, Option.some.injEq, exists_eq_left']

/-- the tokens of `u` followed by `w`, split at the bars -/
def toksOf : Str → Str → List Str
  | u, [] => [u]
  | u, c :: w => if c = 124 then u :: toksOf [] w else toksOf (u ++ [c]) w

theorem toksOf_split : ∀ (w u : Str), ∃ h tl, splitBar w = h :: tl ∧ toksOf u w = (u ++ h) :: tl := by
  intro w
  induction w with
  | nil => intro u; exact ⟨[], [], rfl, by simp [toksOf]⟩
  | cons c w ih =>
    intro u
    by_cases hc : c = 124
    · rcases ih [] with ⟨h, tl, e1, e2⟩
      refine ⟨[], splitBar w, by simp [splitBar, hc], ?_⟩
      simp only [toksOf, hc, if_true, e2, e1, List.append_nil, List.nil_append]
    · rcases ih (u ++ [c]) with ⟨h, tl, e1, e2⟩
      refine ⟨c :: h, tl, by simp [splitBar, hc, e1], ?_⟩
      simp only [toksOf, hc, if_false, e2, List.append_assoc, List.cons_append, List.nil_append]

theorem toksOf_nil (w : Str) : toksOf [] w = splitBar w := by
  rcases toksOf_split w [] with ⟨h, tl, e1, e2⟩
  rw [e1, e2]; rfl

theorem match_frameAfter {t : Str} {k j : Nat} : ∀ (w : Str) (al : Option R) (u : Str),
    Match t (frameAfter ⟨al, (u.map lit).reverse⟩ w).close k j ↔
      ((∃ a, al = some a ∧ Match t a k j) ∨ ∃ tok ∈ toksOf u w, IsTokAt t k j tok) := by
  intro w
  induction w with
  | nil =>
    intro al u
    simp only [frameAfter, toksOf, List.mem_singleton, exists_eq_left]
    exact match_close al u
  | cons c w ih =>
    intro al u
    by_cases hc : c = 124
    · simp only [frameAfter, toksOf, hc, if_true]
      refine (ih (some (Frame.close ⟨al, (u.map lit).reverse⟩)) []).trans ?_
      simp only [Option.some.injEq, exists_eq_left', List.mem_cons, exists_eq_or_imp, match_close, or_assoc]
    · simp only [frameAfter, toksOf, hc, if_false]
      simpa only [List.map_append, List.map_cons, List.map_nil, List.reverse_append, List.reverse_cons,
        List.reverse_nil, List.nil_append, List.cons_append] using ih al (u ++ [c])

theorem match_grp {t : Str} {k j : Nat} (inner : Str) :
    Match t (grp inner) k j ↔ ∃ tok ∈ splitBar inner, IsTokAt t k j tok := by
  have := match_frameAfter (t := t) (k := k) (j := j) inner none []
  simpa only [grp, List.map_nil, List.reverse_nil, toksOf_nil, reduceCtorEq, false_and, exists_false, false_or] using this

/-- `X` matches from `k` exactly when the rest of the text is one of `toks` -/
def TailSem (X : R) (toks : List Str) : Prop :=
  ∀ (t : Str) (k j : Nat), Match t X k j ↔
    ∃ tok ∈ toks, t.drop k = tok ∧ k + tok.length = t.length ∧ j = t.length

theorem tokAt_end {t tok : Str} {k : Nat} :
    IsTokAt t k t.length tok ↔ (t.drop k = tok ∧ k + tok.length = t.length) := by
  unfold IsTokAt
  rw [eq_comm (a := t.length)]
  exact and_congr_left fun h => by rw [h, List.drop_length, List.append_nil]

theorem tailsem_group (inner : Str) : TailSem (catList [grp inner, .eot]) (splitBar inner) := by
  intro t k j
  simp only [catList, match_cat, match_grp, match_eot, match_eps]
  constructor
  · rintro ⟨_, ⟨tok, hm, h⟩, _, ⟨rfl, rfl⟩, rfl⟩
    exact ⟨tok, hm, (tokAt_end.1 h).1, (tokAt_end.1 h).2, rfl⟩
  · rintro ⟨tok, hm, hd, hk, rfl⟩
    exact ⟨_, ⟨tok, hm, tokAt_end.2 ⟨hd, hk⟩⟩, _, ⟨rfl, rfl⟩, rfl⟩

theorem tailsem_plain (rhs : Str) : TailSem (catList (rhs.map lit ++ [.eot])) [rhs] := by
  intro t k j
  rw [match_lits rhs k, match_eot_end]
  simp only [List.mem_singleton, exists_eq_left]
  exact and_congr_left fun h => by rw [h.1, List.drop_length, List.append_nil]

/-- after any prefix `P` at depth 0, the tail `RHS$` of a recognised set contributes an expression
that matches exactly the renderings of the listed values, up to the end of the text -/
theorem rhs_parse {rhs : Str} {ls : List Nat} (hl : parseLocalSet rhs = some ls)
    {P : List R} {jr : Bool} {tks' : List Tok} {S1 : PSt} {x : R × Bool}
    (hlex : lexGo .normal (rhs ++ [36]) = .ok tks')
    (hr : prun ⟨[], ⟨none, P⟩, jr⟩ tks' = some S1) (hf : pfinish S1 = some x) :
    ∃ Y, x = (catList (P.reverse ++ Y), false) ∧ TailSem (catList Y) (ls.map toDec) := by
  have hdig : ∀ tok ∈ ls.map toDec, tok.all isDigit = true := by
    intro tok hm
    rcases List.mem_map.1 hm with ⟨n, _, rfl⟩
    exact toDec_all_digit n
  rcases (parseLocalSet_some hl).2 with ⟨inner, rfl, htoks⟩ | htoks
  · rw [← htoks] at hdig ⊢
    rw [List.cons_append, List.append_assoc] at hlex
    have := lex_rhs_paren (splitBar_bardig inner hdig) hlex
    subst this
    refine ⟨[grp inner, .eot], ?_, tailsem_group inner⟩
    exact prun_group_tail P jr inner S1 x hr hf
  · rw [← htoks] at hdig ⊢
    have := lex_rhs_plain (hdig rhs (List.mem_singleton_self rhs)) hlex
    subst this
    refine ⟨rhs.map lit ++ [.eot], ?_, tailsem_plain rhs⟩
    exact prun_plain_tail P jr rhs S1 x hr hf

theorem asbitmap_parse {s b : Str} {asn : Nat} {rest : Str} {c0 : Nat} {rhs : Str} {ls : List Nat} {r : R}
    (he : extractASN s = some (asn, rest)) (hb : anchoredBody s = some b) (hf : fromColon b = c0 :: rhs)
    (hl : parseLocalSet rhs = some ls) (hp : parse s = .ok r) :
    ∃ Y, r = catList (.bot :: ((toDec asn ++ [58]).map lit ++ Y)) ∧ TailSem (catList Y) (ls.map toDec) := by
  have sh := extractASN_some he
  obtain ⟨hbeq, hnc⟩ := fromColon_cons hf
  have e : toDec asn ++ 58 :: rest = beforeColon b ++ 58 :: (rhs ++ [36]) := by
    rw [(List.cons.inj (sh.eq.symm.trans (anchoredBody_some hb))).2]
    conv => lhs; rw [hbeq]
    exact List.append_assoc _ _ _
  obtain ⟨_, hrest⟩ := colon_split_unique e (toDec_no_colon asn) hnc
  rcases parse_ok_full hp with ⟨bb, hpf⟩
  rw [sh.eq, List.append_cons] at hpf
  rcases parseFull_prefix (asPfx_plain asn) hpf with ⟨tks', S1, hlex, hr, hfin⟩
  rw [hrest] at hlex
  rcases rhs_parse hl hlex hr hfin with ⟨Y, hx, hts⟩
  refine ⟨Y, ?_, hts⟩
  rw [(Prod.mk.inj hx).1, prefP_reverse]; rfl

theorem search_lits_tail {w : Str} {Y : List R} {toks : List Str} (hts : TailSem (catList Y) toks) (t : Str) :
    search (catList (.bot :: (w.map lit ++ Y))) t = true ↔ ∃ tok ∈ toks, t = w ++ tok := by
  rw [search_lits]
  constructor
  · rintro ⟨L, j, rfl, hm⟩
    rcases (hts _ _ _).1 hm with ⟨tok, hmem, hd, _, _⟩
    rw [List.drop_left] at hd
    exact ⟨tok, hmem, by rw [hd]⟩
  · rintro ⟨tok, hmem, rfl⟩
    exact ⟨tok, _, rfl, (hts _ _ _).2 ⟨tok, hmem, List.drop_left, (List.length_append).symm, rfl⟩⟩

theorem asbitmap_sound (s b : Str) (asn : Nat) (rest : Str) (c0 : Nat) (rhs : Str) (ls : List Nat) (r : R)
    (hi lo : Nat)
    (he : extractASN s = some (asn, rest)) (hb : anchoredBody s = some b) (hf : fromColon b = c0 :: rhs)
    (hl : parseLocalSet rhs = some ls) (hp : parse s = .ok r) :
    search r (toDec hi ++ 58 :: toDec lo) = (hi == asn && ls.contains lo) := by
  rcases asbitmap_parse he hb hf hl hp with ⟨Y, rfl, hts⟩
  rw [Bool.eq_iff_iff, search_lits_tail hts]
  simp only [Bool.and_eq_true, beq_iff_eq, List.contains_iff_mem, List.mem_map]
  constructor
  · rintro ⟨tok, ⟨n, hn, rfl⟩, e⟩
    rw [List.append_assoc] at e
    obtain ⟨h1, h2⟩ := dec_colon_inj e
    exact ⟨h1, toDec_inj h2 ▸ hn⟩
  · rintro ⟨rfl, hn⟩
    exact ⟨toDec lo, ⟨lo, hn, rfl⟩, List.append_cons _ _ _⟩

/-- `\d*` or `\d+` (`[0-9]*`, `[0-9]+`), as parsed -/
def DigitRun (wr : R) : Prop := wr = .star rD ∨ wr = .cat rD (.star rD)

theorem wcard_prefix {W : Str} (hW : isWildcardASN W = true) :
    ∃ ts wr, DigitRun wr ∧
      lexRun .normal (94 :: (W ++ [58])) = .ok (.normal, ts) ∧
      prun PSt.init ts = some ⟨[], ⟨none, [lit 58, wr, .bot]⟩, false⟩ := by
  simp only [isWildcardASN, Bool.or_eq_true, beq_iff_eq] at hW
  rcases hW with ((rfl | rfl) | rfl) | rfl
  · exact ⟨[.atom .bot, .atom rD, .star, .atom (lit 58)], _, Or.inl rfl, rfl, rfl⟩
  · exact ⟨[.atom .bot, .atom rD, .plus, .atom (lit 58)], _, Or.inr rfl, rfl, rfl⟩
  · exact ⟨[.atom .bot, .atom rD, .star, .atom (lit 58)], _, Or.inl rfl, rfl, rfl⟩
  · exact ⟨[.atom .bot, .atom rD, .plus, .atom (lit 58)], _, Or.inr rfl, rfl, rfl⟩

theorem wcard_parse {W rhs : Str} {x : R × Bool} (hW : isWildcardASN W = true)
    (h : parseFull (94 :: (W ++ [58]) ++ (rhs ++ [36])) = .ok x) :
    ∃ wr tks' S1, DigitRun wr ∧ lexGo .normal (rhs ++ [36]) = .ok tks' ∧
      prun ⟨[], ⟨none, [lit 58, wr, .bot]⟩, false⟩ tks' = some S1 ∧ pfinish S1 = some x := by
  rcases wcard_prefix hW with ⟨ts, wr, hwr, hrun, hpre⟩
  obtain ⟨tks, S1, hl, hr, hf⟩ := parseFull_ok h
  rcases lexGo_run _ hrun hl with ⟨tks', h1, e⟩
  rw [e, prun_append, hpre] at hr
  exact ⟨wr, tks', S1, hwr, h1, hr, hf⟩

theorem localset_parse {s : Str} {ls : List Nat} {r : R}
    (ht : tryWildASN s = some ls) (hp : parse s = .ok r) :
    ∃ wr Y, DigitRun wr ∧ r = catList (.bot :: wr :: lit 58 :: Y) ∧ TailSem (catList Y) (ls.map toDec) := by
  rcases tryWildASN_some ht with ⟨W, rhs, hs, hW, hl⟩
  rcases parse_ok_full hp with ⟨bb, hpf⟩
  have hs' : s = 94 :: (W ++ [58]) ++ (rhs ++ [36]) := by rw [hs]; simp
  rw [hs'] at hpf
  rcases wcard_parse hW hpf with ⟨wr, tks', S1, hwr, hlex, hr, hfin⟩
  rcases rhs_parse hl hlex hr hfin with ⟨Y, hx, hts⟩
  exact ⟨wr, Y, hwr, (Prod.mk.inj hx).1, hts⟩

theorem star_chr_tok {t : List Nat} {s : CS} {r : R} {i k : Nat} (h : Match t r i k) :
    r = .star (.chr s) → ∃ u, IsTokAt t i k u ∧ u.all s.mem = true := by
  induction h with
  | eps | chr | bot | eot | cat | altl | altr => exact fun e => nomatch e
  | star0 i => intro _; exact ⟨[], ⟨rfl, rfl⟩, rfl⟩
  | @starS a i k j h1 hlt h2 ih1 ih2 =>
    intro e
    cases e
    cases h1 with
    | @chr _ _ c hc hm =>
      obtain ⟨u, ⟨hd, hj⟩, hu⟩ := ih2 rfl
      refine ⟨c :: u, ⟨?_, by rw [hj, List.length_cons, Nat.add_assoc, Nat.add_comm 1]⟩, ?_⟩
      · rw [drop_of_getElem? hc, hd, List.length_cons, Nat.add_assoc, Nat.add_comm 1]; rfl
      · rw [List.all_cons, hm, hu]; rfl

theorem tok_star_chr {t : List Nat} {s : CS} : ∀ (u : Str) (i k : Nat),
    IsTokAt t i k u → u.all s.mem = true → Match t (.star (.chr s)) i k
  | [], i, k, ⟨_, hk⟩, _ => hk ▸ .star0 i
  | c :: u, i, k, ⟨hd, hk⟩, hu => by
    rw [List.all_cons, Bool.and_eq_true] at hu
    have hc : t[i]? = some c := getElem?_of_drop hd
    rw [drop_of_getElem? hc, List.cons_append, List.cons.injEq, List.length_cons, Nat.add_comm u.length,
      ← Nat.add_assoc] at hd
    rw [List.length_cons, Nat.add_comm u.length, ← Nat.add_assoc] at hk
    exact .starS (.chr hc hu.1) (Nat.lt_succ_self i) (tok_star_chr u (i + 1) k ⟨hd.2, hk⟩ hu.2)

theorem wr_tok {t : List Nat} {wr : R} {i k : Nat} (hwr : DigitRun wr)
    (h : Match t wr i k) : ∃ u, IsTokAt t i k u ∧ u.all isDigit = true := by
  rw [← funext rD_mem]
  rcases hwr with rfl | rfl
  · exact star_chr_tok h rfl
  · cases h with
    | cat ha hb =>
      obtain ⟨_, _, _, rfl⟩ := match_chr.1 ha
      exact star_chr_tok (.starS ha (Nat.lt_succ_self _) hb) rfl

theorem tok_wr {t : List Nat} {wr : R} {i k : Nat} {u : Str} (hwr : DigitRun wr)
    (hne : u ≠ []) (hu : u.all isDigit = true) (h : IsTokAt t i k u) : Match t wr i k := by
  rw [← funext rD_mem] at hu
  have hs := tok_star_chr u i k h hu
  rcases hwr with rfl | rfl
  · exact hs
  · obtain ⟨_, hk⟩ := h
    cases hs with
    | star0 => exact absurd (List.length_eq_zero_iff.1 (Nat.add_left_cancel hk.symm)) hne
    | starS h1 _ h2 => exact .cat h1 h2

theorem wr_sem {t : Str} {wr : R} {Y : List R} :
    search (catList (.bot :: wr :: lit 58 :: Y)) t = true ↔
      ∃ k j, Match t wr 0 k ∧ t[k]? = some 58 ∧ Match t (catList Y) (k + 1) j := by
  rw [search_iff]
  simp only [catList]
  constructor
  · rintro ⟨i, j, _, h⟩
    rcases match_bot_cat.1 h with ⟨rfl, h'⟩
    cases h' with
    | @cat _ _ _ k _ h1 h2 =>
      cases h2 with
      | cat h3 h4 =>
        rcases match_lit.1 h3 with ⟨hc, rfl⟩
        exact ⟨k, j, h1, hc, h4⟩
  · rintro ⟨k, j, h1, hc, h4⟩
    exact ⟨0, j, Nat.zero_le _, match_bot_cat.2 ⟨rfl, .cat h1 (.cat (match_lit.2 ⟨hc, rfl⟩) h4)⟩⟩

theorem localset_text {s : Str} {ls : List Nat} {r : R} {t : Str}
    (ht : tryWildASN s = some ls) (hp : parse s = .ok r) (hm : search r t = true) :
    ∃ H lo, t = H ++ 58 :: toDec lo ∧ H.all isDigit = true ∧ lo ∈ ls := by
  rcases localset_parse ht hp with ⟨wr, Y, hwr, rfl, hts⟩
  rcases wr_sem.1 hm with ⟨k, j, h1, hc, h4⟩
  rcases (hts _ _ _).1 h4 with ⟨tok, hmem, hd, _, _⟩
  rcases List.mem_map.1 hmem with ⟨lo, hlo, rfl⟩
  obtain ⟨H, ⟨hH, hk⟩, hdig⟩ := wr_tok hwr h1
  refine ⟨H, lo, ?_, hdig, hlo⟩
  rw [← hd, ← drop_of_getElem? hc, hk, ← hH, List.drop_zero]

theorem localset_accepts {s : Str} {ls : List Nat} {r : R} {H : Str} {lo : Nat}
    (ht : tryWildASN s = some ls) (hp : parse s = .ok r)
    (hne : H ≠ []) (hH : H.all isDigit = true) (hlo : lo ∈ ls) :
    search r (H ++ 58 :: toDec lo) = true := by
  rcases localset_parse ht hp with ⟨wr, Y, hwr, rfl, hts⟩
  have h1 : Match (H ++ 58 :: toDec lo) wr 0 (0 + H.length) :=
    tok_wr hwr hne hH ⟨by rw [List.drop_left' (Nat.zero_add _).symm]; rfl, rfl⟩
  rw [Nat.zero_add] at h1
  refine wr_sem.2 ⟨H.length, (H ++ 58 :: toDec lo).length, h1, ?_,
    (hts _ _ _).2 ⟨toDec lo, List.mem_map.2 ⟨lo, hlo, rfl⟩, ?_, ?_, rfl⟩⟩
  · rw [List.getElem?_append_right (Nat.le_refl _), Nat.sub_self]; rfl
  · rw [List.append_cons]; exact List.drop_left' (List.length_append)
  · rw [List.length_append, List.length_cons, Nat.add_assoc, Nat.add_comm 1]

theorem localset_sound (s : Str) (ls : List Nat) (r : R) (hi lo : Nat)
    (ht : tryWildASN s = some ls) (hp : parse s = .ok r) :
    search r (toDec hi ++ 58 :: toDec lo) = ls.contains lo := by
  rw [Bool.eq_iff_iff, List.contains_iff_mem]
  constructor
  · intro hm
    rcases localset_text ht hp hm with ⟨H, lo', e, hH, hlo⟩
    obtain ⟨_, h2⟩ := colon_split_unique e (toDec_no_colon hi) (digits_no_colon hH)
    exact toDec_inj h2 ▸ hlo
  · exact localset_accepts ht hp (toDec_ne_nil hi) (toDec_all_digit hi)

end CommMatch
