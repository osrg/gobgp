/- initial table transfer and soft reset out of the ADD-PATH send model -/
import Lemmas.AddPathSendBasic
namespace AddPathSend
open BestPath

namespace XferAux

/-- announcements of a list of paths -/
def anns (l : List Cand) : List (Cand × Bool) := l.map (fun q => (q, false))

theorem upd_held (b : Bk) (l : List (Cand × Bool)) : (upd b l).held = b.held := by
  induction l generalizing b with
  | nil => rfl
  | cons a l ih => obtain ⟨c, wd⟩ := a; exact ih _

theorem upd_view (b : Bk) (l : List (Cand × Bool)) : (upd b l).view = b.view := by
  induction l generalizing b with
  | nil => rfl
  | cons a l ih => obtain ⟨c, wd⟩ := a; exact ih _

theorem send_sent (b : Bk) (l : List (Cand × Bool)) : (send b l).sent = b.sent := by
  induction l generalizing b with
  | nil => rfl
  | cons a l ih => obtain ⟨c, wd⟩ := a; exact ih _

theorem send_held (b : Bk) (l : List (Cand × Bool)) : (send b l).held = b.held := by
  induction l generalizing b with
  | nil => rfl
  | cons a l ih => obtain ⟨c, wd⟩ := a; exact ih _

theorem upd_anns_cons (b : Bk) (c : Cand) (l : List Cand) :
    upd b (anns (c :: l)) = upd { b with sent := ins c.id b.sent } (anns l) := rfl

theorem send_anns_cons (b : Bk) (c : Cand) (l : List Cand) :
    send b (anns (c :: l)) =
      send { b with view := (c.id, c.marker) :: b.view.filter (fun e => e.1 != c.id) } (anns l) :=
  rfl

theorem fresh_tail {c : Cand} {l : List Cand} {s : List Nat} (hc : c.id ∉ l.map (·.id))
    (hn : ∀ q, q ∈ c :: l → q.id ∉ s) : ∀ q, q ∈ l → q.id ∉ ins c.id s := fun q hq hs =>
  (mem_ins.mp hs).elim (fun e => hc (e ▸ List.mem_map_of_mem hq)) (hn q (List.mem_cons_of_mem _ hq))

theorem upd_anns_fresh (b : Bk) (l : List Cand) (hl : (l.map (·.id)).Nodup)
    (hn : ∀ q, q ∈ l → q.id ∉ b.sent) :
    (upd b (anns l)).sent = (l.map (·.id)).reverse ++ b.sent := by
  induction l generalizing b with
  | nil => rfl
  | cons c l ih =>
    rw [List.map_cons, List.nodup_cons] at hl
    rw [upd_anns_cons, ih _ hl.2, List.map_cons, List.reverse_cons, List.append_assoc]
    · show _ ++ ins c.id b.sent = _
      rw [ins_of_not_mem (hn c List.mem_cons_self)]; rfl
    · exact fresh_tail hl.1 hn

theorem upd_anns_id (b : Bk) (l : List Cand) (h : ∀ q, q ∈ l → q.id ∈ b.sent) :
    upd b (anns l) = b := by
  induction l with
  | nil => rfl
  | cons c l ih =>
    rw [upd_anns_cons, ins_of_mem (h c List.mem_cons_self)]
    exact ih fun q hq => h q (List.mem_cons_of_mem _ hq)

theorem send_anns_view (b : Bk) (l : List Cand) (hl : (l.map (·.id)).Nodup) (i m : Nat) :
    (i, m) ∈ (send b (anns l)).view ↔
      (∃ q, q ∈ l ∧ q.id = i ∧ q.marker = m) ∨ ((i, m) ∈ b.view ∧ ∀ q, q ∈ l → q.id ≠ i) := by
  induction l generalizing b with
  | nil =>
    exact ⟨fun h => Or.inr ⟨h, fun _ hq => nomatch hq⟩,
      fun h => h.elim (fun ⟨_, hq, _⟩ => nomatch hq) (·.1)⟩
  | cons c l ih =>
    rw [List.map_cons, List.nodup_cons] at hl
    rw [send_anns_cons, ih _ hl.2]
    show _ ∨ ((i, m) ∈ (c.id, c.marker) :: b.view.filter (fun e => e.1 != c.id) ∧ _) ↔ _
    rw [List.mem_cons, List.mem_filter, bne_iff_ne]
    constructor
    · rintro (⟨q, hq, e⟩ | ⟨e | ⟨hv, hne⟩, hall⟩)
      · exact Or.inl ⟨q, List.mem_cons_of_mem _ hq, e⟩
      · exact Or.inl ⟨c, List.mem_cons_self, (congrArg Prod.fst e).symm, (congrArg Prod.snd e).symm⟩
      · exact Or.inr ⟨hv, fun q hq => (List.mem_cons.mp hq).elim (fun e => e ▸ Ne.symm hne) (hall q)⟩
    · rintro (⟨q, hq, e1, e2⟩ | ⟨hv, hall⟩)
      · rcases List.mem_cons.mp hq with rfl | hq
        · -- no later announcement carries the identifier of `q`
          refine Or.inr ⟨Or.inl (by rw [e1, e2]), fun q' hq' e => hl.1 ?_⟩
          exact (e.trans e1.symm) ▸ List.mem_map_of_mem hq'
        · exact Or.inl ⟨q, hq, e1, e2⟩
      · exact Or.inr ⟨Or.inr ⟨hv, Ne.symm (hall c List.mem_cons_self)⟩,
          fun q hq => hall q (List.mem_cons_of_mem _ hq)⟩

theorem send_anns_keys (b : Bk) (l : List Cand) (h : (b.view.map (·.1)).Nodup) :
    ((send b (anns l)).view.map (·.1)).Nodup := by
  induction l generalizing b with
  | nil => exact h
  | cons c l ih =>
    rw [send_anns_cons]
    exact ih _ (keys_cons_nodup h c.id c.marker)

theorem holdBack_cons (k : Nat) (sent : List Nat) (p : Cand) (l : List Cand) (added : Nat)
    (held : List Nat) :
    holdBack k sent (p :: l) added held =
      if sent.contains p.id then
        (p :: (holdBack k sent l added held).1, (holdBack k sent l added held).2)
      else if sent.length + added ≥ k then holdBack k sent l added (ins p.id held)
      else (p :: (holdBack k sent l (added + 1) held).1, (holdBack k sent l (added + 1) held).2) :=
  rfl

theorem holdBack_nil (k : Nat) (l : List Cand) (added : Nat) (held : List Nat)
    (hl : (l.map (·.id)).Nodup) (hn : ∀ q, q ∈ l → q.id ∉ held) :
    holdBack k [] l added held =
      (l.take (k - added), ((l.drop (k - added)).map (·.id)).reverse ++ held) := by
  induction l generalizing added held with
  | nil => rw [List.take_nil, List.drop_nil]; rfl
  | cons p l ih =>
    rw [List.map_cons, List.nodup_cons] at hl
    rw [holdBack_cons, List.contains_nil, if_neg Bool.false_ne_true, List.length_nil, Nat.zero_add]
    split
    next h =>
      rw [ih _ _ hl.2, Nat.sub_eq_zero_of_le h, ins_of_not_mem (hn p List.mem_cons_self)]
      · show _ = ([], ((p :: l).map (·.id)).reverse ++ held)
        rw [List.map_cons, List.reverse_cons, List.append_assoc]; rfl
      · exact fresh_tail hl.1 hn
    next h =>
      have e : k - added = (k - (added + 1)) + 1 :=
        (Nat.succ_pred_eq_of_pos (Nat.sub_pos_of_lt (Nat.not_le.mp h))).symm
      rw [e, ih _ _ hl.2 fun q hq => hn q (List.mem_cons_of_mem _ hq)]; rfl

theorem holdBack_soft (k : Nat) (sent held : List Nat) (l : List Cand)
    (h : ∀ p, p ∈ l → p.id ∈ sent ∨ (p.id ∈ held ∧ sent.length ≥ k)) (added : Nat) :
    holdBack k sent l added held = (l.filter (fun p => sent.contains p.id), held) := by
  induction l generalizing added with
  | nil => rfl
  | cons p l ih =>
    have ih' := fun a => ih (fun q hq => h q (List.mem_cons_of_mem _ hq)) a
    rw [holdBack_cons, List.filter_cons]
    by_cases hs : p.id ∈ sent
    · rw [if_pos (List.contains_iff_mem.mpr hs), if_pos (List.contains_iff_mem.mpr hs), ih']
    · obtain ⟨hp, hk⟩ := (h p List.mem_cons_self).resolve_left hs
      have hk' : sent.length + added ≥ k := Nat.le_trans hk (Nat.le_add_right _ _)
      have hc : ¬ sent.contains p.id = true := fun c => hs (List.contains_iff_mem.mp c)
      rw [if_neg hc, if_neg hc, if_pos hk', ins_of_mem hp, ih']

theorem drop_ids {l : List Cand} (h : (l.map (·.id)).Nodup) (k : Nat) :
    ((l.drop k).map (·.id)).Nodup :=
  nodup_ids_sublist (List.drop_sublist k l) h

/-- the paths re-announced by soft reset out: exportable and already advertised -/
def again (elig : Cand → Bool) (t : Tbl) (b : Bk) : List Cand :=
  (t.known.filter elig).filter (fun p => b.sent.contains p.id)

theorem mem_again {elig : Cand → Bool} {t : Tbl} {b : Bk} {q : Cand} :
    q ∈ again elig t b ↔ q ∈ t.known ∧ elig q = true ∧ q.id ∈ b.sent := by
  simp only [again, List.mem_filter, List.contains_iff_mem, and_assoc]

end XferAux

open XferAux

theorem transfer_init_eq (elig : Cand → Bool) (k : Nat) (t : Tbl) (hT : TblInv t) :
    (transfer elig k t false {}).sent = (((t.known.filter elig).take k).map (·.id)).reverse ∧
    (transfer elig k t false {}).held = (((t.known.filter elig).drop k).map (·.id)).reverse ∧
    ((transfer elig k t false {}).view.map (·.1)).Nodup ∧
    ∀ i m, (i, m) ∈ (transfer elig k t false {}).view ↔
      ∃ q, q ∈ (t.known.filter elig).take k ∧ q.id = i ∧ q.marker = m := by
  have hE := nodup_ids_sublist List.filter_sublist hT.ids (l' := t.known.filter elig)
  have hS := nodup_ids_sublist (List.take_sublist k _) hE
  have hb := holdBack_nil k (t.known.filter elig) 0 [] hE (fun _ _ => List.not_mem_nil)
  rw [Nat.sub_zero, List.append_nil] at hb
  have e : transfer elig k t false {} =
      send (upd { sent := [], held := (((t.known.filter elig).drop k).map (·.id)).reverse, view := [] }
             (anns ((t.known.filter elig).take k))) (anns ((t.known.filter elig).take k)) := by
    simp only [transfer, hb, Bool.false_eq_true, if_false, List.map_nil, List.nil_append]
    rfl
  rw [e]
  refine ⟨?_, ?_, ?_, fun i m => ?_⟩
  · rw [send_sent, upd_anns_fresh _ _ hS (fun _ _ => List.not_mem_nil)]
    exact List.append_nil _
  · rw [send_held, upd_held]
  · exact send_anns_keys _ _ (by rw [upd_view]; exact List.nodup_nil)
  · rw [send_anns_view _ _ hS, upd_view]
    exact ⟨fun h => h.elim id (fun h => nomatch h.1), Or.inl⟩

theorem transfer_init_inv (elig : Cand → Bool) (k : Nat) (t : Tbl) (hT : TblInv t) :
    BkInv elig k t (transfer elig k t false {}) := by
  obtain ⟨es, eh, hkeys, hview⟩ := transfer_init_eq elig k t hT
  -- the identifiers of the exportable paths: those advertised, then those held back
  have hsplit : (t.known.filter elig).map (·.id) =
      ((t.known.filter elig).take k).map (·.id) ++ ((t.known.filter elig).drop k).map (·.id) := by
    rw [← List.map_append, List.take_append_drop]
  have hnd := nodup_ids_sublist List.filter_sublist hT.ids (l' := t.known.filter elig)
  rw [hsplit, List.nodup_append] at hnd
  have htake : ∀ q, q ∈ (t.known.filter elig).take k → q ∈ t.known := fun q hq =>
    (List.mem_filter.mp (List.mem_of_mem_take hq)).1
  have hlen : (transfer elig k t false {}).sent.length = min k (t.known.filter elig).length := by
    rw [es, List.length_reverse, List.length_map, List.length_take]
  refine ⟨?_, ?_, fun i hi hi' => ?_, fun i => ?_, ?_, fun hne => ?_, hkeys, fun i m => ?_⟩
  · rw [es]; exact (List.reverse_perm _).nodup_iff.mpr hnd.1
  · rw [eh]; exact (List.reverse_perm _).nodup_iff.mpr hnd.2.1
  · rw [es, List.mem_reverse] at hi
    rw [eh, List.mem_reverse] at hi'
    exact hnd.2.2 i hi i hi' rfl
  · rw [es, eh, List.mem_reverse, List.mem_reverse, ← List.mem_append, ← hsplit, mem_filter_ids]
  · rw [hlen]; exact Nat.min_le_left _ _
  · -- a path is held back: there are more than `k` exportable ones
    rw [hlen]
    refine Nat.min_eq_left (Nat.le_of_lt (Nat.lt_of_not_le fun h => hne ?_))
    rw [eh, List.drop_eq_nil_iff.mpr h]; rfl
  · rw [hview, es, List.mem_reverse, List.mem_map]
    constructor
    · rintro ⟨q, hq, e1, e2⟩
      exact ⟨⟨q, hq, e1⟩, q, htake q hq, e1, e2⟩
    · rintro ⟨⟨q, hq, e1⟩, x, hx, e2, e3⟩
      exact ⟨q, hq, e1, id_inj hT.ids hx (htake q hq) (e2.trans e1.symm) ▸ e3⟩

theorem transfer_init_sent (elig : Cand → Bool) (k : Nat) (t : Tbl) (hT : TblInv t) :
    ∀ i, i ∈ (transfer elig k t false {}).sent ↔ i ∈ ((t.known.filter elig).take k).map (·.id) := by
  intro i
  rw [(transfer_init_eq elig k t hT).1, List.mem_reverse]

/-- toward a peer whose bookkeeping is exact, soft reset out withdraws nothing, marks nothing and
    announces again what is advertised -/
theorem transfer_soft_eq {elig : Cand → Bool} {k : Nat} {t : Tbl} {b : Bk} (hT : TblInv t)
    (hb : BkInv elig k t b) :
    transfer elig k t true b = send b (anns (again elig t b)) := by
  have e1 : holdBack k b.sent (t.known.filter elig) 0 b.held = (again elig t b, b.held) := by
    refine holdBack_soft k b.sent b.held _ (fun p hp => ?_) 0
    obtain ⟨hp1, hp2⟩ := List.mem_filter.mp hp
    refine ((hb.cover p.id).mpr ⟨p, hp1, rfl, hp2⟩).imp_right fun h => ⟨h, ?_⟩
    exact Nat.le_of_eq (hb.full (List.ne_nil_of_mem h)).symm
  -- what is advertised passes the export filter
  have e2 : (t.known.filter (fun p => !elig p)).filter (fun p => b.sent.contains p.id) = [] := by
    refine List.filter_eq_nil_iff.mpr fun p hp hs => ?_
    obtain ⟨hp1, hp2⟩ := List.mem_filter.mp hp
    obtain ⟨x, hx, hid, hel⟩ := (hb.cover p.id).mp (Or.inl (List.contains_iff_mem.mp hs))
    rw [← id_inj hT.ids hx hp1 hid, hel] at hp2
    cases hp2
  have e3 : upd b (anns (again elig t b)) = b :=
    upd_anns_id b _ fun q hq => (mem_again.mp hq).2.2
  simp only [transfer, e1, e2, if_true, List.map_nil, List.nil_append]
  exact congrArg (send · _) e3

theorem soft_view {elig : Cand → Bool} {k : Nat} {t : Tbl} {b : Bk} (hT : TblInv t)
    (hb : BkInv elig k t b) (i m : Nat) :
    (i, m) ∈ (send b (anns (again elig t b))).view ↔ (i, m) ∈ b.view := by
  rw [send_anns_view b (again elig t b)
    (nodup_ids_sublist (List.filter_sublist.trans List.filter_sublist) hT.ids)]
  constructor
  · rintro (⟨q, hq, rfl, rfl⟩ | ⟨h, _⟩)
    · obtain ⟨hq1, _, hq3⟩ := mem_again.mp hq
      exact (hb.view _ _).mpr ⟨hq3, q, hq1, rfl, rfl⟩
    · exact h
  · intro h
    obtain ⟨hs, x, hx, hid, hm⟩ := (hb.view i m).mp h
    obtain ⟨y, hy, hyid, hel⟩ := (hb.cover i).mp (Or.inl hs)
    rw [← id_inj hT.ids hx hy (hid.trans hyid.symm)] at hel
    exact Or.inl ⟨x, mem_again.mpr ⟨hx, hel, hid ▸ hs⟩, hid, hm⟩

theorem transfer_soft_same (elig : Cand → Bool) (k : Nat) (t : Tbl) (b : Bk) (hT : TblInv t)
    (hb : BkInv elig k t b) :
    (transfer elig k t true b).sent = b.sent ∧ (transfer elig k t true b).held = b.held ∧
    (∀ e, e ∈ (transfer elig k t true b).view ↔ e ∈ b.view) := by
  rw [transfer_soft_eq hT hb, send_sent, send_held]
  exact ⟨rfl, rfl, fun e => soft_view hT hb e.1 e.2⟩

theorem transfer_soft_inv (elig : Cand → Bool) (k : Nat) (t : Tbl) (b : Bk) (hT : TblInv t)
    (hb : BkInv elig k t b) : BkInv elig k t (transfer elig k t true b) := by
  rw [transfer_soft_eq hT hb]
  refine ⟨?_, ?_, ?_, ?_, ?_, ?_, send_anns_keys _ _ hb.viewKeys, fun i m => ?_⟩
  · rw [send_sent]; exact hb.sentNodup
  · rw [send_held]; exact hb.heldNodup
  · rw [send_sent, send_held]; exact hb.disj
  · rw [send_sent, send_held]; exact hb.cover
  · rw [send_sent]; exact hb.le
  · rw [send_sent, send_held]; exact hb.full
  · rw [soft_view hT hb, send_sent]; exact hb.view i m

end AddPathSend
