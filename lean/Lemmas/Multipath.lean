/-
  What `Path.Compare = 0` and "equal cost" mean field by field, and: the equal-cost multipath
  set contains EVERY equal-cost path when the list is sorted by the documented key and
  Path.Compare looks at the same fields as the sort order (AS_PATH length not ignored, MED
  comparable, no confederation members): nothing equal-cost hides behind a worse path.
-/
import Lemmas.BestPath
namespace BestPath
open Lex

theorem ite_eq_zero_iff {c : Prop} [Decidable c] {v r : Int} (hv : c → v ≠ 0) :
    (if c then v else r) = 0 ↔ ¬c ∧ r = 0 := by
  by_cases h : c
  · rw [if_pos h]
    exact ⟨fun e => absurd e (hv h), fun e => absurd h e.1⟩
  · rw [if_neg h]
    exact ⟨fun e => ⟨h, e⟩, And.right⟩

theorem ite_ite_eq_zero_iff {c d : Prop} [Decidable c] [Decidable d] {v w r : Int} (hv : v ≠ 0)
    (hw : w ≠ 0) : (if c then v else if d then w else r) = 0 ↔ (¬c ∧ ¬d) ∧ r = 0 := by
  rw [ite_eq_zero_iff fun _ => hv, ite_eq_zero_iff fun _ => hw, and_assoc]

theorem not_and_not_iff_eq (p q : Bool) : (¬(p && !q) = true ∧ ¬(!p && q) = true) ↔ p = q := by
  cases p <;> cases q <;> decide

theorem not_and_not_iff_eq' (p q : Bool) : (¬(!p && q) = true ∧ ¬(p && !q) = true) ↔ p = q := by
  rw [and_comm, not_and_not_iff_eq]

theorem pathCompare_eq_zero_iff (a b : Cand) : pathCompare a b = 0 ↔
    a.isLocal = b.isLocal ∧ a.isIBGP = b.isIBGP ∧ a.getLocalPref = b.getLocalPref ∧
      asPathLen a = asPathLen b ∧ a.origin.getD 0 = b.origin.getD 0 ∧ a.getMed = b.getMed := by
  unfold pathCompare
  rw [ite_ite_eq_zero_iff (by decide) (by decide), not_and_not_iff_eq,
    ite_ite_eq_zero_iff (by decide) (by decide), not_and_not_iff_eq',
    ite_eq_zero_iff (fun h => by have := bne_iff_ne.mp h; omega),
    ite_eq_zero_iff (fun h => by have := bne_iff_ne.mp h; omega),
    ite_eq_zero_iff (fun h => by have := bne_iff_ne.mp h; omega),
    Int.sub_eq_zero, Int.ofNat_inj, eq_comm (a := b.getMed)]
  simp only [bne_iff_ne, ne_eq, Decidable.not_not]

theorem equalCost_iff (best y : Cand) : equalCost best y = true ↔
    y.nhInvalid = false ∧ y.stale = best.stale ∧ y.isLocal = best.isLocal ∧
      y.isIBGP = best.isIBGP ∧ y.getLocalPref = best.getLocalPref ∧
      asPathLen y = asPathLen best ∧ y.origin.getD 0 = best.origin.getD 0 ∧
      y.getMed = best.getMed := by
  rw [equalCost, Bool.and_eq_true, Bool.and_eq_true, Bool.not_eq_true', beq_iff_eq, beq_iff_eq,
    pathCompare_eq_zero_iff, and_assoc]

theorem ite_zero_one_eq (p q : Bool) :
    ((if p then 0 else 1 : Int) = if q then 0 else 1) ↔ p = q := by
  cases p <;> cases q <;> decide

/-- the first eight key entries: the other three (age, router-id, neighbour address) are
    tie-breakers that `Path.Compare` does not look at -/
theorem equalCost_iff_key (o : Opts) (best y : Cand) (ho : o.ignoreAsPathLen = false)
    (hb : best.nhInvalid = false) (cb : best.src.confed = false) (cy : y.src.confed = false) :
    equalCost best y = true ↔ (key o y).take 8 = (key o best).take 8 := by
  have ib : best.isInternal = best.isIBGP := by rw [Cand.isInternal, cb, Bool.false_or]
  have iy : y.isInternal = y.isIBGP := by rw [Cand.isInternal, cy, Bool.false_or]
  rw [equalCost_iff]
  simp only [key, List.take, List.cons.injEq, and_true, ho, hb, ib, iy, b2i_eq, Int.neg_inj,
    Int.ofNat_inj, ite_zero_one_eq, Bool.false_eq_true, if_false]
  exact ⟨fun ⟨n, s, l, i, p, a, g, m⟩ => ⟨s, n, p, l, a, g, m, i⟩,
    fun ⟨s, n, p, l, a, g, m, i⟩ => ⟨n, s, l, i, p, a, g, m⟩⟩

theorem takeWhile_eq_filter_of_pairwise {α : Type} (p : α → Bool) : ∀ (l : List α),
    l.Pairwise (fun z y => p y = true → p z = true) → l.takeWhile p = l.filter p
  | [], _ => rfl
  | z :: t, h => by
    have ⟨hz, ht⟩ := List.pairwise_cons.mp h
    rw [List.takeWhile_cons, List.filter_cons]
    cases hpz : p z
    · -- nothing behind a rejected element is accepted
      simp only [Bool.false_eq_true, if_false]
      exact (List.filter_eq_nil_iff.mpr fun y hy hpy =>
        absurd (hz y hy hpy) (hpz ▸ Bool.false_ne_true)).symm
    · simp only [if_true]
      rw [takeWhile_eq_filter_of_pairwise p t ht]

theorem multipath_eq_filter (o : Opts) (best : Cand) (rest : List Cand)
    (ho : o.ignoreAsPathLen = false) (hb : best.nhInvalid = false)
    (wf : SetWF o (best :: rest)) (hs : Sorted o (best :: rest))
    (hc : ∀ c ∈ best :: rest, c.src.confed = false) :
    multipath (best :: rest) = best :: rest.filter (equalCost best) := by
  have ⟨hbest, hrest⟩ := List.pairwise_cons.mp hs
  rw [multipath, if_neg (hb ▸ Bool.false_ne_true),
    takeWhile_eq_filter_of_pairwise (equalCost best) rest]
  refine hrest.imp_of_mem fun {z y} hz hy hzy hE => ?_
  have mb := List.mem_cons_self (a := best) (l := rest)
  have mz := List.mem_cons_of_mem best hz
  have my := List.mem_cons_of_mem best hy
  rw [equalCost_iff_key o best y ho hb (hc _ mb) (hc _ my)] at hE
  rw [equalCost_iff_key o best z ho hb (hc _ mb) (hc _ mz)]
  -- `z` lies between `best` and `y`, which agree on the first eight key entries
  have l1 : lexLe (key o best) (key o z) = true :=
    better_eq_lex o best z (wf _ mb _ mz) ▸ hbest z hz
  have l2 : lexLe (key o z) (key o y) = true := better_eq_lex o z y (wf _ mz _ my) ▸ hzy
  exact lex_sandwich 8 _ _ _ (key_length_eq o best z) (key_length_eq o z y) l1 l2 hE.symm

end BestPath
