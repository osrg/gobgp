/-
  The export filter chain toward a route-server client, on the client's own view of the table,
  IS the filter chain of an ordinary eBGP peer with the same AS / router-id / address — the two
  differences (no AS-loop test, no "from me" withdraw) are exactly compensated by `rsFilter` (the
  client's view has no route with its AS and none of its own) and by the repaired
  `filterPathFromSourcePeer`.  The per-step delta lemma for clients is therefore an instance of
  `World.delta_correct`.
-/
import Model.RouteServer
import Lemmas.World
import Lemmas.WorldInv
namespace RouteServer
open BestPath World

/-- the ordinary peer a route-server client's export filtering is compared with -/
def asOrd (t : PeerCfg) : PeerCfg := { t with kind := .ebgp }

@[simp] theorem asOrd_rs (t : PeerCfg) : (asOrd t).isRSClient = false := rfl
@[simp] theorem asOrd_rr (t : PeerCfg) : (asOrd t).isRRClient = false := rfl
@[simp] theorem asOrd_rid (t : PeerCfg) : (asOrd t).rid = t.rid := rfl
@[simp] theorem asOrd_as (t : PeerCfg) : (asOrd t).as = t.as := rfl
@[simp] theorem asOrd_addr (t : PeerCfg) : (asOrd t).addr = t.addr := rfl
@[simp] theorem asOrd_llgr (t : PeerCfg) : (asOrd t).llgr = t.llgr := rfl
@[simp] theorem asOrd_ibgp (g : Global) (t : PeerCfg) : (asOrd t).isIBGP g = t.isIBGP g := rfl

theorem rs_not_rr (t : PeerCfg) (h : t.isRSClient = true) : t.isRRClient = false := by
  unfold PeerCfg.isRSClient at h
  unfold PeerCfg.isRRClient
  rw [eq_of_beq h]
  rfl

theorem ibgpStage_asOrd (g : Global) (t : PeerCfg) (h : t.isRSClient = true) (path : P)
    (old : Option Cand) : ibgpStage g (asOrd t) path old = ibgpStage g t path old := by
  unfold ibgpStage
  rw [asOrd_rr, rs_not_rr t h]
  rfl

theorem srcStage_asOrd (t : PeerCfg) (path : P) (old : Option Cand) :
    World.srcStage (asOrd t) path old = rsSrcStage t path old := rfl

theorem loopStage_asOrd (t : PeerCfg) (h : t.isRSClient = true) (p : P) (old : Option Cand)
    (hp : (asList p.r.segs).contains t.as = false) :
    loopStage (asOrd t) p old = loopStage t p old := by
  unfold loopStage
  rw [asOrd_as, hp, h]
  rfl

theorem rsFilter_false {t : PeerCfg} {r : Cand} (h : rsFilter t r = false) :
    r.src.addr ≠ some t.addr ∧ (asList r.segs).contains t.as = false := by
  unfold rsFilter at h
  simp only [Bool.or_eq_false_iff, beq_eq_false_iff_ne, ne_eq] at h
  exact h

theorem rsSrcStage_route (t : PeerCfg) (path : P) (old : Option Cand) (q : P)
    (h : rsSrcStage t path old = some q) : q.r = path.r ∨ old = some q.r := by
  unfold rsSrcStage at h
  by_cases hr : (t.rid != path.r.src.rid) = true
  · rw [if_pos hr] at h
    exact Or.inl (congrArg P.r (Option.some.inj h).symm)
  · rw [if_neg hr, Option.ite_none_right_eq_some] at h
    exact Or.inr (wdOld_route path old q h.2)

/-- on routes of the client's own view, the (repaired) client filter = the eBGP-peer filter -/
theorem core_asOrd (g : Global) (t : PeerCfg) (h : t.isRSClient = true) (path : P)
    (old : Option Cand) (hp : rsFilter t path.r = false)
    (ho : ∀ o, old = some o → rsFilter t o = false) :
    rsFilterCore g t path old = World.filterpathCore g (asOrd t) path old := by
  unfold rsFilterCore World.filterpathCore
  rw [ibgpStage_asOrd g t h, srcStage_asOrd]
  cases ibgpStage g t path old with
  | some res => rfl
  | none =>
    cases hs : rsSrcStage t path old with
    | none => rfl
    | some q =>
      -- the AS-loop test an ordinary peer has on top never fires: `q` is `path` or `old`
      have hq : (asList q.r.segs).contains t.as = false := by
        rcases rsSrcStage_route t path old q hs with e | e
        · rw [e]; exact (rsFilter_false hp).2
        · exact (rsFilter_false (ho _ e)).2
      exact (loopStage_asOrd t h q old hq).symm

theorem sfilter_asOrd (g : Global) (t : PeerCfg) (h : t.isRSClient = true) (path : P)
    (old : Option Cand) (hp : rsFilter t path.r = false)
    (ho : ∀ o, old = some o → rsFilter t o = false) :
    rsFilterpath g t path old = World.sFilterpath g (asOrd t) path old := by
  unfold rsFilterpath World.sFilterpath
  rw [core_asOrd g t h path old hp ho]
  rfl

theorem clientBest_some {t : PeerCfg} {l : List Cand} {b : Cand} (h : clientBest t l = some b) :
    b ∈ l ∧ rsFilter t b = false := by
  unfold clientBest at h
  exact ⟨List.mem_of_find?_eq_some h, by simpa using List.find?_some h⟩

/-- what an established client should hold for a destination with (shared) path list `l`: the
    from-scratch export of ITS best path — what its initial table transfer would send -/
def rsWant (g : Global) (t : PeerCfg) (l : List Cand) : Option Nat :=
  match clientBest t l with
  | none => none
  | some b =>
    if b.nhInvalid then none else
    match rsFilterpath g t ⟨b, false⟩ none with
    | some p => if p.wd then none else some p.r.marker
    | none => none

/-- what propagateUpdateToNeighbors sends to one client for one destination change -/
def rsDeltaFor (g : Global) (t : PeerCfg) (oldL newL : List Cand) : Option P :=
  match getChangesFor t oldL newL with
  | (some b, old) => rsFilterpath g t b old
  | (none, _) => none

theorem rsWant_eq (g : Global) (t : PeerCfg) (h : t.isRSClient = true) (l : List Cand) :
    rsWant g t l = wantOf g (asOrd t) (clientBest t l).toList := by
  unfold rsWant wantOf
  rw [Option.head?_toList]
  cases hb : clientBest t l with
  | none => rfl
  | some b =>
    simp only
    rw [sfilter_asOrd g t h ⟨b, false⟩ none (clientBest_some hb).2 (fun o ho => by cases ho)]
    rfl

theorem rsDeltaFor_eq (g : Global) (t : PeerCfg) (h : t.isRSClient = true) (oldL newL : List Cand) :
    rsDeltaFor g t oldL newL =
      deltaFor g (asOrd t) (clientBest t oldL).toList (clientBest t newL).toList := by
  unfold rsDeltaFor deltaFor getChangesFor
  cases hg : getChanges (clientBest t oldL).toList (clientBest t newL).toList with
  | mk best old =>
    cases best with
    | none => rfl
    | some b =>
      obtain ⟨hb, hold⟩ := getChanges_routes _ _ b old hg
      apply sfilter_asOrd g t h
      · rcases hb with hb | hb
        · exact (clientBest_some (Option.mem_toList.mp hb)).2
        · exact (clientBest_some (Option.mem_toList.mp hb)).2
      · intro o ho
        exact (clientBest_some (Option.mem_toList.mp (hold o ho))).2

/-- **the per-step delta lemma for route-server clients**: the incremental fan-out with the
    client-specific (best, old) pair takes "holds export(old client-best)" to "holds export(new
    client-best)", for every pair of path lists. -/
theorem rs_delta_correct (g : Global) (t : PeerCfg) (h : t.isRSClient = true)
    (oldL newL : List Cand)
    (wfEq : ∀ b o, clientBest t newL = some b → clientBest t oldL = some o →
      b.src.equal o.src = true → b.src = o.src) :
    heldApply (rsWant g t oldL) (rsDeltaFor g t oldL newL) = rsWant g t newL := by
  rw [rsWant_eq g t h, rsWant_eq g t h, rsDeltaFor_eq g t h]
  apply World.delta_correct g (asOrd t) rfl
  · intro o ho hadr
    rw [Option.head?_toList] at ho
    exact absurd hadr (rsFilter_false (clientBest_some ho).2).1
  · intro b o hb ho
    rw [Option.head?_toList] at hb ho
    exact wfEq b o hb ho

end RouteServer
