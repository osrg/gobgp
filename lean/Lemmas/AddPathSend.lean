/-
  The invariant `Inv` of the ADD-PATH send model holds after every history, and what it says of
  a state (advertised routes, counting, bookkeeping).
-/
import Lemmas.AddPathSendTbl
import Lemmas.AddPathSendFan
import Lemmas.AddPathSendXfer
namespace AddPathSend
open BestPath

theorem fan_inv (o : Opts) (elig : Cand → Bool) (k : Nat) (t : Tbl) (b : Bk) (op : TOp)
    (hT : TblInv t) (hb : BkInv elig k t b) :
    BkInv elig k (tblStep o t op).tbl (fan elig k op (tblStep o t op) b) := by
  cases op with
  | ann c =>
    obtain ⟨n, hnp, hT', hmem, _⟩ := tblStep_ann o t c hT
    exact fanAnn_inv hb hT'.ids hnp ((hmem _).mpr (Or.inl rfl)) fun y hy => (hmem y).trans
      ⟨fun h => h.elim (fun e => absurd (e ▸ rfl) hy) (·.1), fun h => Or.inr ⟨h, hy⟩⟩
  | wd c d =>
    obtain ⟨hT', hcase⟩ := tblStep_wd o t c d hT
    show BkInv elig k (tblStep o t (.wd c d)).tbl (fanWd elig (tblStep o t (.wd c d)) b)
    rcases hcase with ⟨hg, ht⟩ | ⟨p, hg, hp, _, hmem⟩
    · rw [fanWd_none elig _ _ hg, ht]
      exact hb
    · exact fanWd_inv hb hT.ids hT'.ids hg hp hmem

/-- the fan-out of a table update toward a peer whose bookkeeping ALREADY reflects the updated
    table (its initial transfer read the table after the update): the invariant is kept — the
    late fan-out re-sends the new path or does nothing -/
theorem fan_late_inv (o : Opts) (elig : Cand → Bool) (k : Nat) (t : Tbl) (b : Bk) (op : TOp)
    (hT : TblInv t) (hb : BkInv elig k (tblStep o t op).tbl b) :
    BkInv elig k (tblStep o t op).tbl (fan elig k op (tblStep o t op) b) := by
  cases op with
  | ann c =>
    obtain ⟨n, hnp, hT', hmem, _⟩ := tblStep_ann o t c hT
    exact fanAnn_inv hb hT'.ids hnp ((hmem _).mpr (Or.inl rfl)) fun _ _ => Iff.rfl
  | wd c d =>
    obtain ⟨_, hcase⟩ := tblStep_wd o t c d hT
    show BkInv elig k (tblStep o t (.wd c d)).tbl (fanWd elig (tblStep o t (.wd c d)) b)
    rcases hcase with ⟨hg, _⟩ | ⟨p, hg, _, _, hmem⟩
    · rw [fanWd_none elig _ _ hg]
      exact hb
    · -- no path of the updated table carries the identifier of the path that left
      have hno : ∀ i, (i ∈ b.sent ∨ i ∈ b.held) → i ≠ p.id := fun i hi e => by
        obtain ⟨x, hx, hid, _⟩ := (hb.cover i).mp hi
        exact ((hmem x).mp hx).2 (hid.trans e)
      rw [fanWd_unknown elig _ b p hg (fun h => hno _ (Or.inl h) rfl) (fun h => hno _ (Or.inr h) rfl)]
      exact hb

theorem Inv.of_up {elig : Cand → Bool} {k : Nat} {t : Tbl} {b : Bk} (hT : TblInv t)
    (hb : BkInv elig k t b) : Inv elig k { tbl := t, up := true, bk := b } :=
  ⟨hT, fun _ => hb, fun h => nomatch h⟩

theorem Inv.of_down {elig : Cand → Bool} {k : Nat} {t : Tbl} (hT : TblInv t) :
    Inv elig k { tbl := t, up := false, bk := {} } :=
  ⟨hT, fun h => (nomatch h), fun _ => rfl⟩

theorem inv_init (elig : Cand → Bool) (k : Nat) : Inv elig k ({} : St) :=
  Inv.of_down tblInv_init

theorem Inv.cases {elig : Cand → Bool} {k : Nat} {s : St} (h : Inv elig k s) :
    (∃ t, TblInv t ∧ s = { tbl := t, up := false, bk := {} }) ∨
    (∃ t b, TblInv t ∧ BkInv elig k t b ∧ s = { tbl := t, up := true, bk := b }) := by
  obtain ⟨t, up, b⟩ := s
  obtain ⟨hT, hUp, hDown⟩ := h
  cases up with
  | false => exact Or.inl ⟨t, hT, by rw [show b = {} from hDown rfl]⟩
  | true => exact Or.inr ⟨t, b, hT, hUp rfl, rfl⟩

theorem inv_step (o : Opts) (elig : Cand → Bool) (k : Nat) (s : St) (e : Ev)
    (h : Inv elig k s) : Inv elig k (step o elig k s e) := by
  obtain ⟨t, hT, rfl⟩ | ⟨t, b, hT, hb, rfl⟩ := h.cases
  · cases e with
    | rib op => exact Inv.of_down (tblStep_inv o t op hT)
    | upBetween op =>
      have hT' := tblStep_inv o t op hT
      exact Inv.of_up hT' (fan_late_inv o elig k t _ op hT (transfer_init_inv elig k _ hT'))
    | up => exact Inv.of_up hT (transfer_init_inv elig k t hT)
    | down | softOut => exact Inv.of_down hT
  · cases e with
    | rib op | upBetween op =>
      exact Inv.of_up (tblStep_inv o t op hT) (fan_inv o elig k t b op hT hb)
    | up => exact Inv.of_up hT (transfer_init_inv elig k t hT)
    | down => exact Inv.of_down hT
    | softOut => exact Inv.of_up hT (transfer_soft_inv elig k t b hT hb)

theorem inv_run_from (o : Opts) (elig : Cand → Bool) (k : Nat) (evs : List Ev) (s : St)
    (h : Inv elig k s) : Inv elig k (evs.foldl (step o elig k) s) := by
  induction evs generalizing s with
  | nil => exact h
  | cons e rest ih => exact ih _ (inv_step o elig k s e h)

theorem inv_run (o : Opts) (elig : Cand → Bool) (k : Nat) (evs : List Ev) :
    Inv elig k (run o elig k evs) :=
  inv_run_from o elig k evs {} (inv_init elig k)

variable {elig : Cand → Bool} {k : Nat} {t : Tbl} {b : Bk} {s : St}

theorem step_tbl (o : Opts) (elig : Cand → Bool) (k : Nat) (s : St) (e : Ev) :
    (step o elig k s e).tbl =
      match e with
      | .rib op | .upBetween op => (tblStep o s.tbl op).tbl
      | _ => s.tbl := by
  cases e with
  | rib op | up | down => rfl
  | softOut | upBetween op => simp only [step]; split <;> rfl

theorem step_id_stable (o : Opts) (elig : Cand → Bool) (k : Nat) (s : St) (e : Ev)
    (hT : TblInv s.tbl) :
    ∀ x, x ∈ s.tbl.known → ∀ y, y ∈ (step o elig k s e).tbl.known → sameKey x y = true →
      y.id = x.id := by
  intro x hx y hy hk
  rw [step_tbl] at hy
  cases e with
  | rib op | upBetween op => exact id_stable o _ op hT x hx y hy hk
  | up | down | softOut => rw [NodupKey.inj hT.key hx hy hk]

theorem view_current (hT : TblInv t) (hb : BkInv elig k t b) {i m : Nat} (hv : (i, m) ∈ b.view) :
    ∃ x, x ∈ t.known ∧ x.id = i ∧ x.marker = m ∧ elig x = true := by
  obtain ⟨hs, x, hx, hid, hm⟩ := (hb.view i m).mp hv
  obtain ⟨y, hy, hyid, hye⟩ := (hb.cover i).mp (Or.inl hs)
  exact ⟨x, hx, hid, hm, id_inj hT.ids hx hy (hid.trans hyid.symm) ▸ hye⟩

theorem view_keys_eq_sent (hb : BkInv elig k t b) : ∀ i, i ∈ b.view.map (·.1) ↔ i ∈ b.sent := by
  intro i
  constructor
  · intro hi
    obtain ⟨e, he, rfl⟩ := List.mem_map.mp hi
    exact ((hb.view e.1 e.2).mp he).1
  · intro hi
    obtain ⟨x, hx, hid, _⟩ := (hb.cover i).mp (Or.inl hi)
    exact List.mem_map.mpr ⟨(i, x.marker), (hb.view i x.marker).mpr ⟨hi, x, hx, hid, rfl⟩, rfl⟩

theorem view_length_eq_sent (hb : BkInv elig k t b) : b.view.length = b.sent.length := by
  have hp := (List.perm_ext_iff_of_nodup hb.viewKeys hb.sentNodup).mpr (view_keys_eq_sent hb)
  rw [← hp.length_eq, List.length_map]

theorem sent_held_count (hT : TblInv t) (hb : BkInv elig k t b) :
    b.sent.length + b.held.length = (t.known.filter elig).length := by
  have hnd : (b.sent ++ b.held).Nodup :=
    List.nodup_append.mpr ⟨hb.sentNodup, hb.heldNodup, fun a ha c hc hac => hb.disj a ha (hac ▸ hc)⟩
  have hnd2 := nodup_ids_sublist (List.filter_sublist (p := elig)) hT.ids
  have hmem : ∀ i, i ∈ b.sent ++ b.held ↔ i ∈ (t.known.filter elig).map (·.id) := by
    intro i
    rw [List.mem_append, hb.cover i, mem_filter_ids]
  rw [← List.length_append, ((List.perm_ext_iff_of_nodup hnd hnd2).mpr hmem).length_eq,
    List.length_map]

theorem view_count (hT : TblInv t) (hb : BkInv elig k t b) :
    b.view.length = min k (t.known.filter elig).length := by
  rw [view_length_eq_sent hb, ← sent_held_count hT hb]
  by_cases hh : b.held = []
  · rw [hh, List.length_nil]; exact (Nat.min_eq_right hb.le).symm
  · rw [hb.full hh]; exact (Nat.min_eq_left (Nat.le_add_right k _)).symm

theorem Inv.view_current (h : Inv elig k s) :
    ∀ i m, (i, m) ∈ s.bk.view →
      ∃ x, x ∈ s.tbl.known ∧ x.id = i ∧ x.marker = m ∧ elig x = true := by
  obtain ⟨t, _, rfl⟩ | ⟨t, b, hT, hb, rfl⟩ := h.cases
  · exact fun i m hv => nomatch hv
  · exact fun i m hv => AddPathSend.view_current hT hb hv

theorem Inv.view_count (h : Inv elig k s) :
    s.bk.view.length = if s.up then min k (s.tbl.known.filter elig).length else 0 := by
  obtain ⟨t, _, rfl⟩ | ⟨t, b, hT, hb, rfl⟩ := h.cases
  · rfl
  · exact AddPathSend.view_count hT hb

theorem Inv.ids (h : Inv elig k s) :
    ((s.tbl.known.map (·.id)).Nodup ∧ ∀ x, x ∈ s.tbl.known → x.id ≠ 0) ∧
    (s.bk.view.map (·.1)).Nodup ∧
    (∀ i, i ∈ s.bk.view.map (·.1) → i ∈ s.tbl.known.map (·.id)) := by
  refine ⟨⟨h.1.ids, h.1.nz⟩, ?_, fun i hi => ?_⟩
  · obtain ⟨t, _, rfl⟩ | ⟨t, b, _, hb, rfl⟩ := h.cases
    · exact List.nodup_nil
    · exact hb.viewKeys
  · obtain ⟨e, he, rfl⟩ := List.mem_map.mp hi
    obtain ⟨x, hx, hid, _⟩ := h.view_current e.1 e.2 he
    exact List.mem_map.mpr ⟨x, hx, hid⟩

theorem Inv.bookkeeping (h : Inv elig k s) :
    (∀ i, i ∈ s.bk.view.map (·.1) ↔ i ∈ s.bk.sent) ∧
    (∀ i, i ∈ s.bk.held → i ∉ s.bk.sent ∧ ∃ x, x ∈ s.tbl.known ∧ x.id = i ∧ elig x = true) ∧
    (s.up = true → ∀ x, x ∈ s.tbl.known → elig x = true → x.id ∈ s.bk.sent ∨ x.id ∈ s.bk.held) ∧
    (s.bk.held ≠ [] → s.bk.sent.length = k) := by
  obtain ⟨t, _, rfl⟩ | ⟨t, b, _, hb, rfl⟩ := h.cases
  · exact ⟨fun _ => Iff.rfl, fun _ hi => (nomatch hi), fun hu => (nomatch hu), fun hne => absurd rfl hne⟩
  · exact ⟨view_keys_eq_sent hb, fun i hi => ⟨fun hs => hb.disj i hs hi, (hb.cover i).mp (Or.inr hi)⟩,
      fun _ x hx he => (hb.cover x.id).mpr ⟨x, hx, rfl, he⟩, hb.full⟩

end AddPathSend
