/- table side of the ADD-PATH send model: local identifiers through destination.Calculate -/
import Lemmas.AddPathSendBasic
namespace AddPathSend
open BestPath

theorem firstFree_succ (used : List Nat) (fuel n : Nat) :
    firstFree used (fuel + 1) n = if used.contains n then firstFree used fuel (n + 1) else n := rfl

theorem firstFree_spec (used : List Nat) (fuel n : Nat) :
    (firstFree used fuel n ∉ used ∨ firstFree used fuel n = n + fuel) ∧
      n ≤ firstFree used fuel n ∧ ∀ m, n ≤ m → m < firstFree used fuel n → m ∈ used := by
  induction fuel generalizing n with
  | zero => exact ⟨Or.inr rfl, Nat.le_refl n, fun m h1 h2 => absurd h2 (Nat.not_lt.mpr h1)⟩
  | succ fuel ih =>
    rw [firstFree_succ]
    split
    next hc =>
      obtain ⟨ih1, ih2, ih3⟩ := ih (n + 1)
      refine ⟨ih1.imp_right fun e => e.trans (Nat.add_right_comm n 1 fuel),
        Nat.le_of_succ_le ih2, fun m h1 h2 => ?_⟩
      by_cases e : m = n
      · exact e ▸ List.contains_iff_mem.mp hc
      · exact ih3 m (Nat.lt_of_le_of_ne h1 (Ne.symm e)) h2
    next hc =>
      exact ⟨Or.inl fun h => hc (List.contains_iff_mem.mpr h), Nat.le_refl n,
        fun m h1 h2 => absurd h2 (Nat.not_lt.mpr h1)⟩

theorem fresh_spec (used : List Nat) : fresh used ∉ used ∧ fresh used ≠ 0 := by
  unfold fresh
  obtain ⟨h1, h2, h3⟩ := firstFree_spec used (used.length + 1) 1
  refine ⟨fun hm => ?_, Nat.ne_of_gt h2⟩
  -- otherwise `used` holds the `used.length + 1` numbers from 1 on
  have e := h1.resolve_left fun h => h hm
  have hsub : List.range' 1 (used.length + 1) ⊆ used := fun m hm => by
    rw [List.mem_range'_1] at hm
    exact h3 m hm.1 (by omega)
  have := List.Nodup.length_le_of_subset List.nodup_range' hsub
  rw [List.length_range'] at this
  omega

theorem tblInv_init : TblInv {} :=
  ⟨List.Pairwise.nil, List.Pairwise.nil, fun _ hx => (nomatch hx), fun _ hx => (nomatch hx)⟩

theorem TblInv.key_iff_id {t : Tbl} (h : TblInv t) {c old y : Cand} (hold : old ∈ t.known)
    (hk : sameKey c old = true) (hy : y ∈ t.known) : sameKey c y = true ↔ y.id = old.id :=
  ⟨fun hcy => congrArg Cand.id (NodupKey.inj h.key hy hold
      (sameKey_trans y c old (by rw [sameKey_symm]; exact hcy) hk)),
   fun e => id_inj h.ids hy hold e ▸ hk⟩

/-- an announcement: the inserted path carries the identifier `n` of the path it replaces, or a
    fresh one; every other path stays, with its identifier -/
theorem tblStep_ann (o : Opts) (t : Tbl) (c : Cand) (h : TblInv t) :
    ∃ n, (tblStep o t (.ann c)).newPath = some { c with id := n } ∧
      TblInv (tblStep o t (.ann c)).tbl ∧
      (∀ y, y ∈ (tblStep o t (.ann c)).tbl.known ↔
        (y = { c with id := n } ∨ (y ∈ t.known ∧ y.id ≠ n))) ∧
      (∀ x, x ∈ t.known → sameKey c x = true → x.id = n) := by
  -- among the paths of the table `n` is carried by the path `c` replaces and by no other
  obtain ⟨n, u, e, hnz, hid, hu1, hu2⟩ : ∃ n u,
      tblStep o t (.ann c) =
        { tbl := { known := calcStep o t.known (.ann { c with id := n }), used := u },
          newPath := some { c with id := n } } ∧
      n ≠ 0 ∧ (∀ y, y ∈ t.known → (sameKey c y = true ↔ y.id = n)) ∧
      n ∈ u ∧ ∀ i, i ∈ t.used → i ∈ u := by
    cases hf : firstMatch t.known c with
    | some old =>
      have hold : old ∈ t.known := List.mem_of_find?_eq_some hf
      have hk : sameKey c old = true := List.find?_some hf
      refine ⟨old.id, t.used, ?_, h.nz old hold, fun y hy => h.key_iff_id hold hk hy,
        h.used old hold, fun _ hi => hi⟩
      simp only [tblStep, hf, bne_iff_ne, ne_eq, h.nz old hold, not_false_eq_true, if_true]
    | none =>
      obtain ⟨hfr, hnz⟩ := fresh_spec t.used
      refine ⟨fresh t.used, fresh t.used :: t.used, ?_, hnz, fun y hy =>
        ⟨fun hcy => absurd hcy (List.find?_eq_none.mp hf y hy),
         fun e => absurd (e ▸ h.used y hy) hfr⟩,
        List.mem_cons_self, fun _ hi => List.mem_cons_of_mem _ hi⟩
      simp only [tblStep, hf, bne_self_eq_false, Bool.false_eq_true, if_false]
  rw [e]
  have hmem := fun y => (mem_calcStep_ann o t.known { c with id := n } h.key y).trans
    (or_congr_right (and_congr_right fun hy => Bool.eq_false_iff.trans (not_congr (hid y hy))))
  refine ⟨n, rfl, ⟨calcStep_nodup o t.known (.ann { c with id := n }) h.key, ?_, fun y hy => ?_,
    fun y hy => ?_⟩, hmem, fun x hx hcx => (hid x hx).mp hcx⟩
  · show ((calcStep o t.known (.ann { c with id := n })).map (·.id)).Nodup
    rw [((calcStep_perm o (.ann { c with id := n }) h.key (.refl _)).map _).nodup_iff]
    refine List.nodup_cons.mpr ⟨fun hm => ?_, nodup_ids_sublist List.filter_sublist h.ids⟩
    -- a path that carries `n` has the key of `c` and does not stay
    obtain ⟨y, hy, e⟩ := List.mem_map.mp hm
    obtain ⟨hy1, hy2⟩ := List.mem_filter.mp hy
    have hk : sameKey { c with id := n } y = true := (hid y hy1).mpr e
    rw [hk] at hy2
    cases hy2
  · rcases (hmem y).mp hy with rfl | ⟨h1, _⟩
    · exact hnz
    · exact h.nz y h1
  · rcases (hmem y).mp hy with rfl | ⟨h1, _⟩
    · exact hu1
    · exact hu2 _ (h.used y h1)

/-- a withdrawal: nothing matches and nothing changes, or exactly the matching path `p` leaves -/
theorem tblStep_wd (o : Opts) (t : Tbl) (c : Cand) (d : Bool) (h : TblInv t) :
    TblInv (tblStep o t (.wd c d)).tbl ∧
      (((tblStep o t (.wd c d)).gone = none ∧ (tblStep o t (.wd c d)).tbl = t) ∨
       (∃ p, (tblStep o t (.wd c d)).gone = some p ∧ p ∈ t.known ∧ sameKey p c = true ∧
          ∀ y, y ∈ (tblStep o t (.wd c d)).tbl.known ↔ (y ∈ t.known ∧ y.id ≠ p.id))) := by
  cases hl : lastMatch t.known c with
  | none =>
    have e : tblStep o t (.wd c d) = { tbl := t } := by simp only [tblStep, hl]
    rw [e]
    exact ⟨h, Or.inl ⟨rfl, rfl⟩⟩
  | some old =>
    have e : tblStep o t (.wd c d) =
        { tbl := { known := calcStep o t.known (.wd c),
                   used := if d && old.id != 0 then t.used.filter (· != old.id) else t.used },
          gone := some old } := by simp only [tblStep, hl]
    rw [e]
    obtain ⟨hold, hk⟩ := List.mem_filter.mp (List.mem_of_getLast? hl)
    have hmem : ∀ y, y ∈ calcStep o t.known (.wd c) ↔ (y ∈ t.known ∧ y.id ≠ old.id) := fun y => by
      rw [mem_calcStep_wd o t.known c h.key y, sameKey_symm y c, ← Bool.not_eq_true]
      exact and_congr_right fun hy =>
        not_congr (h.key_iff_id hold (by rw [sameKey_symm]; exact hk) hy)
    refine ⟨⟨calcStep_nodup o t.known (.wd c) h.key, ?_, ?_, ?_⟩, Or.inr ⟨old, rfl, hold, hk, hmem⟩⟩
    · show ((calcStep o t.known (.wd c)).map (·.id)).Nodup
      rw [((calcStep_perm o (.wd c) h.key (.refl _)).map _).nodup_iff]
      exact nodup_ids_sublist List.filter_sublist h.ids
    · intro y hy
      exact h.nz y ((hmem y).mp hy).1
    · intro y hy
      obtain ⟨h1, h2⟩ := (hmem y).mp hy
      show y.id ∈ (if (d && old.id != 0) = true then t.used.filter (· != old.id) else t.used)
      split
      · exact List.mem_filter.mpr ⟨h.used y h1, bne_iff_ne.mpr h2⟩
      · exact h.used y h1

theorem tblStep_inv (o : Opts) (t : Tbl) (op : TOp) (h : TblInv t) : TblInv (tblStep o t op).tbl :=
  match op with
  | .ann c => (tblStep_ann o t c h).elim fun _ hn => hn.2.1
  | .wd c d => (tblStep_wd o t c d h).1

/-- a path that survives a table update (same source and path-id before and after, replaced or
    not) keeps its local identifier -/
theorem id_stable (o : Opts) (t : Tbl) (op : TOp) (h : TblInv t) :
    ∀ x, x ∈ t.known → ∀ y, y ∈ (tblStep o t op).tbl.known → sameKey x y = true → y.id = x.id := by
  intro x hx y hy hk
  cases op with
  | ann c =>
    obtain ⟨n, _, _, hmem, hyes⟩ := tblStep_ann o t c h
    rcases (hmem y).mp hy with rfl | ⟨h1, _⟩
    · exact (hyes x hx (by rw [sameKey_symm]; exact hk)).symm
    · rw [NodupKey.inj h.key hx h1 hk]
  | wd c d =>
    rcases (tblStep_wd o t c d h).2 with ⟨_, he⟩ | ⟨p, _, _, _, hmem⟩
    · rw [he] at hy
      rw [NodupKey.inj h.key hx hy hk]
    · rw [NodupKey.inj h.key hx ((hmem y).mp hy).1 hk]

end AddPathSend
