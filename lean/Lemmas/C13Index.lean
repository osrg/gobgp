/-
C13 — the pattern loop `evalLoop`, and the any/invert indexes of standard and extended communities:
looking a community up in the index built from a list of matchers (none of them in regexp mode) is
asking whether some matcher of the list matches it.
-/
import Model.CommMatch
namespace CommMatch

theorem evalLoop_any {α : Type} (opt : Nat) (h : opt ≠ 1) (hit : α → Bool) (ms : List α) :
    evalLoop opt hit ms false = ms.any hit := by
  induction ms with
  | nil => rfl
  | cons m ms ih =>
    have h1 : (opt == 1) = false := by simp [h]
    have h2 : (opt != 1) = true := by simp [h]
    cases hm : hit m <;> simp [evalLoop, hm, h1, h2, ih]

theorem evalLoop_all_true {α : Type} (hit : α → Bool) (ms : List α) :
    evalLoop 1 hit ms true = ms.all hit := by
  induction ms with
  | nil => rfl
  | cons m ms ih =>
    cases hm : hit m <;> simp [evalLoop, hm, ih]

theorem evalLoop_all {α : Type} (hit : α → Bool) (ms : List α) :
    evalLoop 1 hit ms false = (!ms.isEmpty && ms.all hit) := by
  cases ms with
  | nil => rfl
  | cons m ms =>
    cases hm : hit m <;> simp [evalLoop, hm, evalLoop_all_true]

theorem evalLoop_map {α : Type} (opt : Nat) (hit : α → Bool) :
    ∀ (ms : List α) (b : Bool), evalLoop opt hit ms b = evalLoop opt id (ms.map hit) b
  | [], _ => rfl
  | m :: ms, _ => by
    simp only [List.map_cons, evalLoop, id_eq, evalLoop_map opt hit ms]

theorem evalLoop_congr_hits {α β : Type} (opt : Nat) {hit : α → Bool} {hit' : β → Bool}
    {ms : List α} {ps : List β} (h : ms.map hit = ps.map hit') (b : Bool) :
    evalLoop opt hit ms b = evalLoop opt hit' ps b := by
  rw [evalLoop_map opt hit, h, ← evalLoop_map]

theorem any_and_const {α : Type} (b : Bool) (p : α → Bool) (l : List α) :
    l.any (fun x => b && p x) = (b && l.any p) := by
  cases b
  · simp only [Bool.false_and, List.any_eq_false, Bool.false_eq_true, not_false_eq_true, implies_true]
  · simp only [Bool.true_and]

theorem any_swap {α β : Type} (p : α → β → Bool) (ms : List α) (cs : List β) :
    ms.any (fun m => cs.any (p m)) = cs.any (fun c => ms.any (fun m => p m c)) := by
  rw [Bool.eq_iff_iff]
  simp only [List.any_eq_true]
  exact ⟨fun ⟨m, hm, c, hc, h⟩ => ⟨c, hc, m, hm, h⟩, fun ⟨c, hc, m, hm, h⟩ => ⟨m, hm, c, hc, h⟩⟩

theorem foldl_or {σ α : Type} {step : σ → α → σ} (f : σ → Bool) {g : α → Bool} :
    ∀ (ms : List α) (s : σ), (∀ s, ∀ m ∈ ms, f (step s m) = (f s || g m)) →
      f (ms.foldl step s) = (f s || ms.any g)
  | [], _, _ => (Bool.or_false _).symm
  | m :: ms, s, h => by
    rw [List.foldl_cons, foldl_or f ms _ (fun s x hx => h s x (List.mem_cons_of_mem _ hx)),
      h s m List.mem_cons_self, List.any_cons, Bool.or_assoc]

theorem fast_of_any_false {α : Type} {f : α → Nat} {ms : List α}
    (h : ms.any (fun m => decide (4 ≤ f m)) = false) : ∀ m ∈ ms, f m < 4 := by
  intro m hm
  have := List.any_eq_false.1 h m hm
  exact Nat.lt_of_not_le (by simpa using this)

/-- well-formed compiled matcher: what `compile` always produces; `matchesAny_buildIdx` and
`evaluate_eq_loop` assume it and do not use it -/
def CM.WF (m : CM) : Prop :=
  (m.mode = 0 → m.exact < 65536 * 65536) ∧ (m.mode = 1 ∨ m.mode = 2 → m.asn < 65536)

/-- lookup in a per-AS bitmap slice -/
def asLook (es : List (Nat × (Nat → Bool))) (a l : Nat) : Bool :=
  es.any (fun e => e.1 == a && e.2 l)

theorem asLook_updAS (es : List (Nat × (Nat → Bool))) (asn : Nat) (g : (Nat → Bool) → (Nat → Bool))
    (a l : Nat) (h : Bool) (hg : ∀ f, g f l = (f l || h)) :
    asLook (updAS es asn g) a l = (asLook es a l || (a == asn && h)) := by
  rw [Bool.beq_comm]
  induction es with
  | nil => simp [updAS, asLook, hg]
  | cons e rest ih =>
    simp only [updAS]
    split
    · next he =>
      rw [beq_iff_eq] at he
      simp only [asLook, List.any_cons, hg, he, Bool.and_or_distrib_left]
      rw [Bool.or_right_comm]
    · simp only [asLook, List.any_cons] at ih ⊢
      rw [ih, Bool.or_assoc]

theorem updAS_isEmpty (es : List (Nat × (Nat → Bool))) (asn : Nat) (g : (Nat → Bool) → (Nat → Bool)) :
    (updAS es asn g).isEmpty = false := by
  cases es with
  | nil => rfl
  | cons e rest => simp only [updAS]; split <;> rfl

theorem eq_iff_div_mod (c e : Nat) : c = e ↔ c / 65536 = e / 65536 ∧ c % 65536 = e % 65536 :=
  ⟨fun h => h ▸ ⟨rfl, rfl⟩,
   fun ⟨h1, h2⟩ => by rw [← Nat.div_add_mod c 65536, ← Nat.div_add_mod e 65536, h1, h2]⟩

theorem split_eq (c e : Nat) : (c / 65536 == e / 65536 && c % 65536 == e % 65536) = (c == e) := by
  rw [Bool.eq_iff_iff]
  simp only [Bool.and_eq_true, beq_iff_eq]
  exact (eq_iff_div_mod c e).symm

/-- what `matchesAny` tests for one community -/
def idxLook (idx : AnyIdx) (c : Nat) : Bool :=
  bmGet idx.indep (c % 65536) || asLook idx.perAS (c / 65536) (c % 65536)

theorem idxStep_hasRegexp (idx : AnyIdx) (m : CM) :
    (idxStep idx m).hasRegexp = (idx.hasRegexp || decide (4 ≤ m.mode)) := by
  rcases m with ⟨mode, li, asn, ex, bm⟩
  match mode with
  | 0 | 1 | 2 | 3 => exact (Bool.or_false _).symm
  | n + 4 => exact (Bool.or_true _).symm

theorem buildIdx_hasRegexp (ms : List CM) :
    (buildIdx ms).hasRegexp = ms.any (fun m => decide (4 ≤ m.mode)) :=
  foldl_or AnyIdx.hasRegexp ms _ (fun idx m _ => idxStep_hasRegexp idx m)

theorem idxStep_look (idx : AnyIdx) (m : CM) (pats : List Str) (c : Nat) (hm : m.mode < 4) :
    idxLook (idxStep idx m) c = (idxLook idx c || matchFast m pats c) := by
  rcases m with ⟨mode, li, asn, ex, bm⟩
  match mode, hm with
  | 0, _ =>
    simp only [idxStep, idxLook, matchFast]
    rw [asLook_updAS _ _ _ _ _ _ (fun _ => rfl), split_eq, Bool.or_assoc]
  | 1, _ =>
    simp only [idxStep, idxLook, matchFast]
    rw [asLook_updAS _ _ _ _ _ true (fun _ => (Bool.or_true _).symm), Bool.and_true, Bool.or_assoc]
  | 2, _ =>
    simp only [idxStep, idxLook, matchFast]
    rw [asLook_updAS _ _ _ _ _ _ (fun _ => rfl), Bool.or_assoc]
  | 3, _ =>
    simp only [idxStep, idxLook, matchFast, bmGet, orBm]
    rw [Bool.or_right_comm]
  | n + 4, h => exact absurd h (by simp)

theorem matchesAny_eq (idx : AnyIdx) (cs : List Nat) (h : idx.hasRegexp = false) :
    matchesAny idx cs = cs.any (idxLook idx) := by
  simp only [matchesAny, h]
  rfl

theorem matchesAny_build (ms : List CM) (pats : List Str) (cs : List Nat)
    (hre : (buildIdx ms).hasRegexp = false) :
    matchesAny (buildIdx ms) cs = cs.any (fun c => ms.any (fun m => matchFast m pats c)) := by
  rw [matchesAny_eq _ _ hre]
  have hm := fast_of_any_false (by rw [← buildIdx_hasRegexp]; exact hre)
  congr 1
  funext c
  exact foldl_or (idxLook · c) ms _ (fun idx m h => idxStep_look idx m pats c (hm m h))

set_option linter.unusedVariables false in
theorem matchesAny_buildIdx (ms : List CM) (pats : List Str) (cs : List Nat)
    (hwf : ∀ m ∈ ms, m.WF) (hre : (buildIdx ms).hasRegexp = false) :
    matchesAny (buildIdx ms) cs = cs.any (fun c => ms.any (fun m => matchFast m pats c)) :=
  matchesAny_build ms pats cs hre

theorem idxStep_empty (idx : AnyIdx) (m : CM) (hm : m.mode < 4) :
    ((idxStep idx m).perAS.isEmpty && (idxStep idx m).indep.isNone) = false := by
  rcases m with ⟨mode, li, asn, ex, bm⟩
  match mode, hm with
  | 0, _ | 1, _ | 2, _ => exact (congrArg (· && _) (updAS_isEmpty ..)).trans (Bool.false_and _)
  | 3, _ => exact Bool.and_false _
  | n + 4, h => exact absurd h (by simp)

theorem buildIdx_empty_iff (ms : List CM) (hre : (buildIdx ms).hasRegexp = false) :
    ((buildIdx ms).perAS.isEmpty && (buildIdx ms).indep.isNone) = ms.isEmpty := by
  -- the last step, whichever it is, leaves a non-empty index
  rcases List.eq_nil_or_concat ms with rfl | ⟨ms', m, rfl⟩
  · rfl
  · rw [List.concat_eq_append] at hre ⊢
    have hm := fast_of_any_false (by rw [← buildIdx_hasRegexp]; exact hre)
    rw [buildIdx, List.foldl_append]
    exact (idxStep_empty _ m (hm m (List.mem_append_right _ List.mem_cons_self))).trans
      (List.isEmpty_eq_false_iff.2 (List.append_ne_nil_of_right_ne_nil _ (List.cons_ne_nil _ _))).symm

/-- the index fast path of `evaluate` equals the pattern loop over the compiled matchers -/
theorem evaluate_build (opt : Nat) (list : List Str) (cs : List Nat) :
    evaluate opt (CSet.build list) cs =
      finish opt (evalLoop opt (fun m => cs.any (fun y => matchFast m list y)) (compileFrom 0 list) false) := by
  simp only [evaluate, CSet.build]
  refine ite_eq_right_iff.2 fun hc => ?_
  simp only [Bool.and_eq_true, Bool.or_eq_true, beq_iff_eq, Bool.not_eq_true'] at hc
  obtain ⟨⟨hopt, _⟩, hre⟩ := hc
  have hne : opt ≠ 1 := by omega
  rw [evalLoop_any opt hne, matchesAny_build _ list cs hre]
  congr 1
  exact (any_swap (fun m y => matchFast m list y) (compileFrom 0 list) cs).symm

set_option linter.unusedVariables false in
theorem evaluate_eq_loop (opt : Nat) (list : List Str) (cs : List Nat)
    (hwf : ∀ m ∈ compileFrom 0 list, m.WF) :
    evaluate opt (CSet.build list) cs =
      finish opt (evalLoop opt (fun m => cs.any (fun y => matchFast m list y)) (compileFrom 0 list) false) :=
  evaluate_build opt list cs

def XM.WF (m : XM) : Prop := (m.mode ≤ 3 → m.as < 65536)

theorem xidxStep_snd (st : List XIdx × Bool) (m : XM) :
    (xidxStep st m).2 = (st.2 || decide (4 ≤ m.mode)) := by
  rcases m with ⟨sub, mode, as, la, bm, re⟩
  match mode with
  | 0 => simp only [xidxStep]; split <;> exact (Bool.or_false _).symm
  | 1 | 2 | 3 => exact (Bool.or_false _).symm
  | n + 4 => exact (Bool.or_true _).symm

theorem buildXIdx_needSlow (ms : List XM) :
    (buildXIdx ms).2 = ms.any (fun m => decide (4 ≤ m.mode)) :=
  foldl_or Prod.snd ms _ (fun st m _ => xidxStep_snd st m)

/-- a fresh per-subtype index -/
def xdef (sub : Nat) : XIdx := ⟨sub, [], none, [], []⟩

/-- the index entry of a subtype (a fresh one when there is none) -/
def xget (is : List XIdx) (sub : Nat) : XIdx :=
  (is.find? (fun e => e.sub == sub)).getD (xdef sub)

theorem matchTwo_def (e : XIdx) (a l : Nat) :
    matchTwo e a l =
      if e.asOnly.contains a then true
      else if l ≤ 65535 then bmGet e.global l || asLook e.perAS a l
      else e.highLA.contains (a, l) := rfl

theorem matchTwo_xdef (sub a l : Nat) : matchTwo (xdef sub) a l = false := by
  simp [matchTwo, xdef, bmGet]

theorem xLook_eq (is : List XIdx) (sub a l : Nat) :
    (match is.find? (fun e => e.sub == sub) with
      | some e => matchTwo e a l
      | none => false) = matchTwo (xget is sub) a l := by
  unfold xget
  cases is.find? (fun e => e.sub == sub) <;> simp [matchTwo_xdef]

theorem xget_updSub_self (is : List XIdx) (sub : Nat) (g : XIdx → XIdx) (hg : ∀ e, (g e).sub = e.sub) :
    xget (updSub is sub g) sub = g (xget is sub) := by
  induction is with
  | nil => simp [updSub, xget, hg, xdef]
  | cons e rest ih =>
    by_cases he : e.sub = sub
    · simp [updSub, xget, hg, he]
    · simpa [updSub, xget, he] using ih

theorem xget_updSub_ne (is : List XIdx) {sub s : Nat} (g : XIdx → XIdx) (hg : ∀ e, (g e).sub = e.sub)
    (hs : s ≠ sub) : xget (updSub is sub g) s = xget is s := by
  induction is with
  | nil => simp [updSub, xget, hg, xdef, hs.symm]
  | cons e rest ih =>
    by_cases he : e.sub = sub
    · simp [updSub, xget, hg, he, hs.symm]
    · by_cases hes : e.sub = s
      · simp [updSub, xget, hes, hs]
      · simpa [updSub, xget, he, hes] using ih

theorem updSub_look (is : List XIdx) (sub : Nat) (g : XIdx → XIdx) (s a l : Nat) (h : Bool)
    (hsub : ∀ e, (g e).sub = e.sub) (hg : ∀ e, matchTwo (g e) a l = (matchTwo e a l || h)) :
    matchTwo (xget (updSub is sub g) s) a l = (matchTwo (xget is s) a l || (s == sub && h)) := by
  by_cases hs : s = sub
  · rw [hs, xget_updSub_self is sub g hsub, hg, beq_self_eq_true, Bool.true_and]
  · rw [xget_updSub_ne is g hsub hs, beq_eq_false_iff_ne.2 hs, Bool.false_and, Bool.or_false]

theorem matchTwo_perAS_eq (e : XIdx) (as la a l : Nat) (h : la ≤ 65535) :
    matchTwo { e with perAS := updAS e.perAS as (fun f l => f l || l == la) } a l
      = (matchTwo e a l || (a == as && l == la)) := by
  simp only [matchTwo_def, asLook_updAS e.perAS as (fun f l => f l || l == la) a l (l == la) (fun _ => rfl)]
  cases e.asOnly.contains a
  case true => simp
  case false =>
    by_cases h2 : l ≤ 65535
    · simp only [h2, Bool.false_eq_true, if_false, if_true, Bool.or_assoc]
    · have : (l == la) = false := by simp; omega
      simp [h2, this]

theorem matchTwo_highLA (e : XIdx) (as la a l : Nat) (h : ¬ la ≤ 65535) :
    matchTwo { e with highLA := (as, la) :: e.highLA } a l
      = (matchTwo e a l || (a == as && l == la)) := by
  simp only [matchTwo_def]
  cases e.asOnly.contains a
  case true => simp
  case false =>
    by_cases h2 : l ≤ 65535
    · have : (l == la) = false := by simp; omega
      simp [h2, this]
    · simp only [h2, Bool.false_eq_true, if_false, List.contains_cons]
      rw [Bool.or_comm]
      rfl

theorem matchTwo_asOnly (e : XIdx) (as a l : Nat) :
    matchTwo { e with asOnly := as :: e.asOnly } a l = (matchTwo e a l || a == as) := by
  simp only [matchTwo_def, List.contains_cons]
  by_cases h0 : a = as
  · simp [h0]
  · have : (a == as) = false := by simp [h0]
    simp [this]

theorem matchTwo_perAS_bm (e : XIdx) (as : Nat) (b : Nat → Bool) (a l : Nat) :
    matchTwo { e with perAS := updAS e.perAS as (fun f => orBm f b) } a l
      = (matchTwo e a l || (a == as && (decide (l ≤ 65535) && b l))) := by
  simp only [matchTwo_def, asLook_updAS e.perAS as (fun f => orBm f b) a l (b l) (fun _ => rfl)]
  cases e.asOnly.contains a
  case true => simp
  case false =>
    by_cases h2 : l ≤ 65535
    · simp only [h2, Bool.false_eq_true, if_false, if_true, Bool.or_assoc, decide_true,
        Bool.true_and]
    · simp [h2]

theorem matchTwo_global (e : XIdx) (b : Nat → Bool) (a l : Nat) :
    matchTwo { e with global := some (orBm (bmGet e.global) b) } a l
      = (matchTwo e a l || (decide (l ≤ 65535) && b l)) := by
  simp only [matchTwo_def]
  cases e.asOnly.contains a
  case true => simp
  case false =>
    by_cases h2 : l ≤ 65535
    · simp only [h2, Bool.false_eq_true, if_false, if_true, decide_true, Bool.true_and,
        bmGet, orBm]
      rw [Bool.or_right_comm]
    · simp [h2]

theorem xidxStep_look (st : List XIdx × Bool) (m : XM) (s a l : Nat) (t : Bool) (hm : m.mode < 4) :
    matchTwo (xget (xidxStep st m).1 s) a l
      = (matchTwo (xget st.1 s) a l || matchExt m (.two s t a l)) := by
  rcases m with ⟨sub, mode, as, la, bm, re⟩
  match mode, hm with
  | 0, _ =>
    simp only [xidxStep, matchExt, Bool.and_assoc]
    split
    · next hla => exact updSub_look _ _ _ _ _ _ _ (fun _ => rfl) (fun e => matchTwo_perAS_eq e as la a l hla)
    · next hla => exact updSub_look _ _ _ _ _ _ _ (fun _ => rfl) (fun e => matchTwo_highLA e as la a l hla)
  | 1, _ =>
    simp only [xidxStep, matchExt]
    exact updSub_look _ _ _ _ _ _ _ (fun _ => rfl) (fun e => matchTwo_asOnly e as a l)
  | 2, _ =>
    simp only [xidxStep, matchExt, Bool.and_assoc]
    exact updSub_look _ _ _ _ _ _ _ (fun _ => rfl) (fun e => matchTwo_perAS_bm e as (bmGet bm) a l)
  | 3, _ =>
    simp only [xidxStep, matchExt, Bool.and_assoc]
    exact updSub_look _ _ _ _ _ _ _ (fun _ => rfl) (fun e => matchTwo_global e (bmGet bm) a l)
  | n + 4, h => exact absurd h (by simp)

theorem matchExt_other (m : XM) (s : Nat) (t : Bool) (txt : Str) (hm : m.mode < 4) :
    matchExt m (.other s t txt) = false := by
  rcases m with ⟨sub, mode, as, la, bm, re⟩
  match mode, hm with
  | 0, _ | 1, _ | 2, _ | 3, _ => rfl
  | n + 4, h => exact absurd h (by simp)

/-- the index fast path for one extended community = some matcher matches it -/
theorem xfast_eq (ms : List XM) (x : EC) (hre : (buildXIdx ms).2 = false) :
    (x.trans &&
      match x with
      | .two sub _ a l =>
        match (buildXIdx ms).1.find? (fun e => e.sub == sub) with
        | some e => matchTwo e a l
        | none => false
      | _ => false) = ms.any (fun m => x.trans && matchExt m x) := by
  have hm := fast_of_any_false (by rw [← buildXIdx_needSlow]; exact hre)
  rw [any_and_const]
  congr 1
  cases x with
  | two s t a l =>
    simp only []
    rw [xLook_eq]
    exact (foldl_or (fun st : List XIdx × Bool => matchTwo (xget st.1 s) a l) ms ([], false)
      (fun st m h => xidxStep_look st m s a l t (hm m h))).trans (congrArg (· || _) (matchTwo_xdef s a l))
  | other s t txt =>
    exact (List.any_eq_false.2 fun m h => by rw [matchExt_other m s t txt (hm m h)]; exact Bool.false_ne_true).symm

theorem evaluateExt_eq_loop (opt : Nat) (list : List (Nat × Str)) (es : List EC) :
    evaluateExt opt (XSet.build list) es =
      finish opt (evalLoop opt (fun m => es.any (fun x => x.trans && matchExt m x))
        ((XSet.build list).matchers) false) := by
  simp only [evaluateExt, XSet.build]
  refine ite_eq_right_iff.2 fun hc => ?_
  simp only [Bool.and_eq_true, Bool.or_eq_true, beq_iff_eq, Bool.not_eq_true'] at hc
  obtain ⟨⟨hopt, hre⟩, _⟩ := hc
  have hne : opt ≠ 1 := by omega
  rw [evalLoop_any opt hne]
  congr 1
  rw [any_swap (fun m x => x.trans && matchExt m x)]
  congr 1
  funext x
  exact xfast_eq _ x hre

end CommMatch
