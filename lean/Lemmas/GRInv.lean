import Model.GR
/-!
Whole-history invariant of the GR / LLGR model (`Model/GR.lean`), property C12.

`Inv p` is the deadline rule of the harness oracle as a predicate on the model state; `inv_step` shows it
is preserved by EVERY event (`GR.step`), `inv_run` lifts it to every history.
Core Lean only.
-/
namespace GR

theorem ite_ind {α : Sort _} {P : α → Prop} {c : Prop} [Decidable c] {a b : α} (ha : P a) (hb : P b) :
    P (if c then a else b) := by
  split
  · exact ha
  · exact hb

/-- everything except the "a stale route has a live reason to be there" clause -/
structure InvCore (p : Peer) : Prop where
  /-- every route is of a configured family -/
  wf : ∀ r ∈ p.rib, r.fam ∈ famIds p
  /-- the restart timer is not running while the session is established -/
  estT : p.est = true → p.restartAt = none
  /-- a running restart timer was armed at the recorded loss instant with the advertised restart time -/
  rst : ∀ D, p.restartAt = some D → ∃ t0, p.downtime = some t0 ∧ D = t0 + p.restartTime
  /-- a family whose LLGR timer is marked running has a pending LLGR timer -/
  llSync : ∀ a ∈ p.fams, a.llRunning = true → ∃ D, (a.id, D) ∈ p.llTimers
  /-- the long-lived period is running only while some LLGR timer is pending -/
  llNE : p.llRun = true → p.llTimers ≠ []
  /-- while the session is down every route held is stale (so a route that is not stale was announced
  in the current session) -/
  down : p.est = false → ∀ r ∈ p.rib, r.stale = true
  /-- LLGR_STALE is carried at most once, only by stale routes, only during the long-lived period, and
  such a route has a pending LLGR timer of its own family -/
  nll : ∀ r ∈ p.rib, r.nLL ≤ 1 ∧ (r.nLL = 1 → r.stale = true ∧ p.llRun = true ∧ ∃ D, (r.fam, D) ∈ p.llTimers)

def StaleW (p : Peer) : Prop := ∀ r ∈ p.rib, r.stale = true → p.peerRestarting = true

/-- a stale route exists only while the peer is restarting AND something is still going to end it:
the session is up (End-of-RIB awaited), or the restart timer runs, or an LLGR timer runs -/
def StaleS (p : Peer) : Prop :=
  ∀ r ∈ p.rib, r.stale = true →
    p.peerRestarting = true ∧ (p.est = true ∨ p.restartAt ≠ none ∨ p.llTimers ≠ [])

structure Inv (p : Peer) : Prop where
  core : InvCore p
  stale : StaleS p

theorem StaleS.weak {p : Peer} (h : StaleS p) : StaleW p := fun r hr hs => (h r hr hs).1

/-- the `llSync` clause on its own -/
def LLSyncP (q : Peer) : Prop := ∀ a ∈ q.fams, a.llRunning = true → ∃ D, (a.id, D) ∈ q.llTimers

/-- the clauses of the invariant that speak of a single route -/
structure RouteOK (p : Peer) (r : Route) : Prop where
  wf : r.fam ∈ famIds p
  down : p.est = false → r.stale = true
  nll : r.nLL ≤ 1 ∧ (r.nLL = 1 → r.stale = true ∧ p.llRun = true ∧ ∃ D, (r.fam, D) ∈ p.llTimers)
  stale : r.stale = true → p.peerRestarting = true ∧ (p.est = true ∨ p.restartAt ≠ none ∨ p.llTimers ≠ [])

theorem Inv.route {p : Peer} (h : Inv p) {r : Route} (hr : r ∈ p.rib) : RouteOK p r :=
  ⟨h.core.wf r hr, fun he => h.core.down he r hr, h.core.nll r hr, h.stale r hr⟩

theorem inv_of_routes (p : Peer) (estT : p.est = true → p.restartAt = none)
    (rst : ∀ D, p.restartAt = some D → ∃ t0, p.downtime = some t0 ∧ D = t0 + p.restartTime)
    (llSync : LLSyncP p) (llNE : p.llRun = true → p.llTimers ≠ []) (h : ∀ r ∈ p.rib, RouteOK p r) : Inv p :=
  ⟨⟨fun r hr => (h r hr).wf, estT, rst, llSync, llNE, fun he r hr => (h r hr).down he, fun r hr => (h r hr).nll⟩,
   fun r hr => (h r hr).stale⟩

theorem RouteOK.fresh {p : Peer} {r : Route} (wf : r.fam ∈ famIds p) (hs : r.stale = false) (h0 : r.nLL = 0)
    (he : p.est = true) : RouteOK p r := by
  refine ⟨wf, ?_, ?_, ?_⟩
  · intro hd
    rw [he] at hd
    contradiction
  · rw [h0]
    exact ⟨Nat.zero_le 1, fun h01 => nomatch h01⟩
  · intro hst
    rw [hs] at hst
    contradiction

theorem eq_zero_of_nll {n : Nat} {P : Prop} (h : n ≤ 1 ∧ (n = 1 → P)) (hP : ¬ P) : n = 0 := by
  by_cases h1 : n = 1
  · exact absurd (h.2 h1) hP
  · omega

theorem InvCore.fresh {p : Peer} (h : InvCore p) {r : Route} (hr : r ∈ p.rib) (hs : r.stale = false) :
    r.nLL = 0 ∧ p.est = true := by
  constructor
  · exact eq_zero_of_nll (h.nll r hr) (fun hx => Bool.false_ne_true (hs.symm.trans hx.1))
  · cases he : p.est
    · have hst := h.down he r hr
      rw [hs] at hst
      contradiction
    · rfl

/-- the part of a family record the invariant looks at -/
def fkey (a : Fam) : Nat × Bool := (a.id, a.llRunning)

theorem map_fkey_of (l : List Fam) (g : Fam → Fam) (hg : ∀ a, fkey (g a) = fkey a) :
    (l.map g).map fkey = l.map fkey := by
  rw [List.map_map]
  exact List.map_congr_left (fun a _ => hg a)

theorem map_id_of (l : List Fam) (g : Fam → Fam) (hg : ∀ a, (g a).id = a.id) :
    (l.map g).map (·.id) = l.map (·.id) := by
  rw [List.map_map]
  exact List.map_congr_left (fun a _ => hg a)

theorem ids_of_fkey {l l' : List Fam} (h : l'.map fkey = l.map fkey) :
    l'.map (·.id) = l.map (·.id) := by
  have := congrArg (List.map Prod.fst) h
  rw [List.map_map, List.map_map] at this
  exact this

theorem running_of_fkey {l l' : List Fam} (h : l'.map fkey = l.map fkey) :
    ∀ b ∈ l', b.llRunning = true → ∃ a ∈ l, a.id = b.id ∧ a.llRunning = true := by
  intro b hb hr
  have hm : fkey b ∈ l'.map fkey := List.mem_map.mpr ⟨b, hb, rfl⟩
  rw [h, List.mem_map] at hm
  obtain ⟨a, ha, hk⟩ := hm
  have h1 : a.id = b.id := congrArg Prod.fst hk
  have h2 : a.llRunning = b.llRunning := congrArg Prod.snd hk
  exact ⟨a, ha, h1, h2.trans hr⟩

theorem llSync_transfer {p q : Peer} (h : LLSyncP p) (hf : q.fams.map fkey = p.fams.map fkey)
    (hll : ∀ t ∈ p.llTimers, t ∈ q.llTimers) : LLSyncP q := by
  intro b hb hr
  obtain ⟨a, ha, h1, h2⟩ := running_of_fkey hf b hb hr
  obtain ⟨D, hD⟩ := h a ha h2
  exact ⟨D, h1 ▸ hll _ hD⟩

theorem famIds_stop (p : Peer) : famIds (stopPeerRestarting p) = famIds p :=
  map_id_of _ _ (fun _ => rfl)

theorem stop_not_running (p : Peer) : LLSyncP (stopPeerRestarting p) := by
  intro b hb hr
  obtain ⟨a, _, rfl⟩ := List.mem_map.mp hb
  contradiction

theorem dropFams_all_nil (ids : List Nat) (rib : List Route) (hwf : ∀ r ∈ rib, r.fam ∈ ids) :
    dropFams ids rib = [] := by
  rw [dropFams, List.filter_eq_nil_iff]
  intro r hr
  simp only [List.contains_eq_mem, hwf r hr, decide_true, Bool.not_true, Bool.false_eq_true,
    not_false_eq_true]

theorem dropFams_compl (ids keep : List Nat) (rib : List Route) (hwf : ∀ r ∈ rib, r.fam ∈ ids) :
    dropFams (ids.filter (fun f => !keep.contains f)) rib = rib.filter (fun r => keep.contains r.fam) := by
  apply List.filter_congr
  intro r hr
  simp only [List.contains_eq_mem, List.mem_filter, hwf r hr, true_and, Bool.not_eq_true', decide_eq_false_iff_not,
    decide_not, Bool.not_not]

theorem grFams_sub (p : Peer) {f : Nat} (h : f ∈ grFams p) : f ∈ famIds p := by
  obtain ⟨a, ha, rfl⟩ := List.mem_map.mp h
  exact List.mem_map.mpr ⟨a, (List.mem_filter.mp ha).1, rfl⟩

theorem inv_transfer (p p' : Peer) (h : Inv p)
    (hsub : ∀ r ∈ p'.rib, r ∈ p.rib) (hest : p'.est = p.est) (hra : p'.restartAt = p.restartAt)
    (hdt : p'.downtime = p.downtime) (hrt : p'.restartTime = p.restartTime)
    (hll : p'.llTimers = p.llTimers) (hlr : p'.llRun = p.llRun)
    (hpr : p'.peerRestarting = p.peerRestarting)
    (hf : p'.fams.map fkey = p.fams.map fkey) : Inv p' := by
  refine inv_of_routes p' ?_ ?_ (llSync_transfer h.core.llSync hf (fun t ht => hll ▸ ht)) ?_ ?_
  · rw [hest, hra]
    exact h.core.estT
  · rw [hra, hdt, hrt]
    exact h.core.rst
  · rw [hlr, hll]
    exact h.core.llNE
  · intro r hr
    have hok := h.route (hsub r hr)
    refine ⟨?_, ?_, ?_, ?_⟩
    · rw [famIds, ids_of_fkey hf]
      exact hok.wf
    · rw [hest]
      exact hok.down
    · rw [hlr, hll]
      exact hok.nll
    · rw [hpr, hest, hra, hll]
      exact hok.stale

theorem inv_unread (p : Peer) (lr : Bool) (dts : List (Nat × Nat)) (t : Nat) (h : Inv p) :
    Inv { p with localRestarting := lr, defTimers := dts, now := t } :=
  inv_transfer p _ h (fun _ hr => hr) rfl rfl rfl rfl rfl rfl rfl rfl

theorem inv_up (p : Peer) (rt : Nat) (h : Inv p) :
    Inv { p with est := true, restartAt := none, restartTime := rt } :=
  inv_of_routes _ (fun _ => rfl) (fun _ hD => nomatch hD) h.core.llSync h.core.llNE
    (fun _ hr => ⟨(h.route hr).wf, (fun he => nomatch he), (h.route hr).nll,
      fun hs => ⟨((h.route hr).stale hs).1, Or.inl rfl⟩⟩)

theorem inv_of_nil (q : Peer) (hrib : q.rib = [])
    (estT : q.est = true → q.restartAt = none)
    (rst : ∀ D, q.restartAt = some D → ∃ t0, q.downtime = some t0 ∧ D = t0 + q.restartTime)
    (llSync : LLSyncP q) (llNE : q.llRun = true → q.llTimers ≠ []) : Inv q :=
  inv_of_routes q estT rst llSync llNE (by rw [hrib]; exact fun r hr => nomatch hr)

/-- three ends of a restart (the last End-of-RIB, the last LLGR timer, an OPEN without GR families) are
`stopPeerRestarting` and a purge that keeps only routes that are not stale -/
theorem inv_stop_fresh (x : Peer) (rib' : List Route) (wf : ∀ r ∈ rib', r.fam ∈ famIds x)
    (estT : x.est = true → x.restartAt = none)
    (rst : ∀ D, x.restartAt = some D → ∃ t0, x.downtime = some t0 ∧ D = t0 + x.restartTime)
    (fresh : ∀ r ∈ rib', r.stale = false ∧ r.nLL = 0 ∧ x.est = true) :
    Inv { stopPeerRestarting x with rib := rib' } :=
  inv_of_routes _ estT rst (stop_not_running x) (fun hl => nomatch hl)
    (fun r hr => .fresh ((famIds_stop x).symm ▸ wf r hr) (fresh r hr).1 (fresh r hr).2.1 (fresh r hr).2.2)

theorem inv_stop_dropStale (p : Peer) (h : InvCore p) :
    Inv { stopPeerRestarting p with rib := dropStale (stopPeerRestarting p).rib } := by
  have hmem : ∀ r ∈ dropStale p.rib, r ∈ p.rib ∧ r.stale = false := by
    intro r hr
    rw [dropStale, List.mem_filter, Bool.not_eq_true'] at hr
    exact hr
  exact inv_stop_fresh p _ (fun r hr => h.wf r (hmem r hr).1) h.estT h.rst
    (fun r hr => ⟨(hmem r hr).2, h.fresh (hmem r hr).1 (hmem r hr).2⟩)

theorem inv_announce (p : Peer) (fam key ver : Nat) (noLL rej : Bool) (h : Inv p) :
    Inv (onAnnounce p fam key ver noLL 0 rej) := by
  unfold onAnnounce
  split
  · exact h
  · rename_i hg
    simp only [Bool.or_eq_true, Bool.not_eq_true', not_or, Bool.not_eq_false, List.contains_eq_mem,
      decide_eq_true_eq] at hg
    obtain ⟨he, hf⟩ := hg
    refine inv_of_routes _ h.core.estT h.core.rst h.core.llSync h.core.llNE ?_
    intro r hr
    have hr' : r ∈ announce p.rib fam key ver noLL 0 rej := hr
    rw [announce, List.mem_append, List.mem_filter, List.mem_singleton] at hr'
    rcases hr' with hr0 | rfl
    · have hok := h.route hr0.1
      exact ⟨hok.wf, hok.down, hok.nll, hok.stale⟩
    · exact .fresh hf rfl rfl he

theorem inv_withdraw (p : Peer) (fam key : Nat) (h : Inv p) : Inv (onWithdraw p fam key) :=
  ite_ind h (inv_transfer p _ h (fun _ hr => (List.mem_filter.mp hr).1) rfl rfl rfl rfl rfl rfl rfl rfl)

theorem inv_markEOR (p : Peer) (f : Nat) (h : Inv p) : Inv (markEOR p f) :=
  inv_transfer p _ h (fun _ hr => hr) rfl rfl rfl rfl rfl rfl rfl
    (map_fkey_of _ _ (fun _ => ite_ind (P := fun b => fkey b = _) rfl rfl))

theorem inv_eorLocal (p p1 : Peer) (h : Inv p1) : Inv (eorLocal p p1) :=
  ite_ind (inv_unread p1 false _ _ h) h

theorem inv_eorPeer (q : Peer) (h : Inv q) : Inv (eorPeer q) :=
  ite_ind (ite_ind (inv_stop_dropStale q h.core) h) h

theorem inv_onEOR (p : Peer) (f : Nat) (h : Inv p) : Inv (onEOR p f) :=
  ite_ind h (inv_eorPeer _ (inv_eorLocal _ _ (inv_markEOR p f h)))

theorem onStateChange_up (p : Peer) (g ad : Bool) (he : p.est = true) :
    onStateChange p .idle g ad = peerDown p g := by
  show (if p.est = true then peerDown p g else _) = _
  exact if_pos he

theorem onDown_down (p : Peer) (g : Bool) (he : p.est = false) : onDown p g = p := by
  rw [onDown, he]
  rfl

theorem onDown_up (p : Peer) (g : Bool) (he : p.est = true) :
    onDown p g = peerDown (if g = true then { p with restartAt := some (p.now + p.restartTime) } else p) g := by
  unfold onDown
  rw [if_neg (by rw [he]; exact Bool.false_ne_true)]
  exact onStateChange_up _ g false (ite_ind (P := fun q : Peer => q.est = true) he he)

theorem peerDown_hard_rib (p : Peer) (hwf : ∀ r ∈ p.rib, r.fam ∈ famIds p) : (peerDown p false).rib = [] :=
  dropFams_all_nil _ _ (fun r hr => (famIds_stop p).symm ▸ hwf r hr)

theorem inv_peerDown_hard (p : Peer) (h : Inv p) (he : p.est = true) : Inv (peerDown p false) := by
  apply inv_of_nil _ (peerDown_hard_rib p h.core.wf)
  · intro h1
    contradiction
  · intro D hD
    rw [show (peerDown p false).restartAt = p.restartAt from rfl, h.core.estT he] at hD
    contradiction
  · intro b hb hr
    obtain ⟨a, ha, rfl⟩ := List.mem_map.mp hb
    exact stop_not_running p a ha hr
  · intro hl
    contradiction

theorem peerDown_graceful_rib (p : Peer) (hwf : ∀ r ∈ p.rib, r.fam ∈ famIds p) :
    (peerDown p true).rib =
      (p.rib.filter (fun r => (grFams p).contains r.fam)).map (fun r => { r with stale := true }) := by
  have hfam : ∀ r : Route, (if (grFams p).contains r.fam = true then { r with stale := true } else r).fam = r.fam :=
    fun r => ite_ind (P := fun x : Route => x.fam = r.fam) rfl rfl
  show dropFams ((famIds p).filter (fun f => !(grFams p).contains f)) (staleAll (grFams p) p.rib) = _
  unfold staleAll
  rw [dropFams_compl, List.filter_map]
  · simp only [Function.comp_def, hfam]
    apply List.map_congr_left
    intro r hr
    exact if_pos (List.mem_filter.mp hr).2
  · intro r' hr'
    obtain ⟨r, hr, rfl⟩ := List.mem_map.mp hr'
    rw [hfam]
    exact hwf r hr

theorem inv_peerDown_graceful (p : Peer) (h : Inv p) :
    Inv (peerDown { p with restartAt := some (p.now + p.restartTime) } true) := by
  have hfk : (peerDown { p with restartAt := some (p.now + p.restartTime) } true).fams.map fkey = p.fams.map fkey :=
    map_fkey_of _ _ (fun _ => rfl)
  refine inv_of_routes _ ?_ ?_ (llSync_transfer h.core.llSync hfk (fun _ ht => ht)) h.core.llNE ?_
  · intro h1
    contradiction
  · intro D hD
    exact ⟨p.now, rfl, (Option.some.inj hD).symm⟩
  · intro r' hr
    rw [peerDown_graceful_rib { p with restartAt := some (p.now + p.restartTime) } h.core.wf] at hr
    obtain ⟨r, hr0, rfl⟩ := List.mem_map.mp hr
    have hok := h.route (List.mem_filter.mp hr0).1
    refine ⟨?_, fun _ => rfl, ⟨hok.nll.1, fun h3 => ⟨rfl, (hok.nll.2 h3).2⟩⟩,
      fun _ => ⟨rfl, Or.inr (Or.inl (fun hn => nomatch hn))⟩⟩
    rw [famIds, ids_of_fkey hfk]
    exact hok.wf

theorem inv_onDown (p : Peer) (g : Bool) (h : Inv p) : Inv (onDown p g) := by
  cases he : p.est
  · rw [onDown_down p g he]
    exact h
  · rw [onDown_up p g he]
    cases g
    · exact inv_peerDown_hard p h he
    · exact inv_peerDown_graceful p h

theorem foldl_startLL_frame (ll : List Nat) : ∀ q : Peer,
    ll.foldl startLL q = { q with fams := (ll.foldl startLL q).fams, llTimers := (ll.foldl startLL q).llTimers } := by
  induction ll with
  | nil => intro q; rfl
  | cons a t ih => intro q; exact ih (startLL q a)

/-- what folding `startLL` over a list of families keeps and adds -/
structure FoldP (q q' : Peer) : Prop where
  ids : famIds q' = famIds q
  old : ∀ t ∈ q.llTimers, t ∈ q'.llTimers
  sync : LLSyncP q → LLSyncP q'

theorem foldP_refl (q : Peer) : FoldP q q :=
  ⟨rfl, fun _ h => h, fun h => h⟩

theorem foldP_trans {a b c : Peer} (h1 : FoldP a b) (h2 : FoldP b c) : FoldP a c :=
  ⟨h2.ids.trans h1.ids, fun t ht => h2.old t (h1.old t ht), fun h => h2.sync (h1.sync h)⟩

theorem startLL_new (q : Peer) (f : Nat) : ∃ D, (f, D) ∈ (startLL q f).llTimers :=
  ⟨_, List.mem_append_right _ (List.mem_singleton.mpr rfl)⟩

theorem foldP_startLL (q : Peer) (f : Nat) : FoldP q (startLL q f) := by
  refine ⟨?_, fun t ht => List.mem_append_left _ ht, ?_⟩
  · exact map_id_of _ _ (fun a => ite_ind (P := fun b : Fam => b.id = a.id) rfl rfl)
  · intro hs b hb hr
    obtain ⟨a, ha, rfl⟩ := List.mem_map.mp hb
    by_cases hc : (a.id == f) = true
    · rw [if_pos hc]
      rw [eq_of_beq hc]
      exact startLL_new q f
    · rw [if_neg hc] at hr ⊢
      obtain ⟨D, hD⟩ := hs a ha hr
      exact ⟨D, List.mem_append_left _ hD⟩

theorem foldP_foldl (ll : List Nat) : ∀ q : Peer, FoldP q (ll.foldl startLL q) ∧
    ∀ f ∈ ll, ∃ D, (f, D) ∈ (ll.foldl startLL q).llTimers := by
  induction ll with
  | nil => intro q; exact ⟨foldP_refl q, fun f hf => nomatch hf⟩
  | cons a t ih =>
    intro q
    obtain ⟨h1, h2⟩ := ih (startLL q a)
    refine ⟨foldP_trans (foldP_startLL q a) h1, ?_⟩
    intro f hf
    rcases List.mem_cons.mp hf with rfl | hf
    · obtain ⟨D, hD⟩ := startLL_new q f
      exact ⟨D, h1.old _ hD⟩
    · exact h2 f hf

theorem mem_markLLGR (ids ll : List Nat) (rib : List Route) (hwf : ∀ r ∈ rib, r.fam ∈ ids) (r' : Route) :
    r' ∈ markLLGR ll (dropFams (ids.filter (fun f => !ll.contains f)) rib) ↔
      ∃ r ∈ rib, r.fam ∈ ll ∧ r.noLL = false ∧ r' = { r with nLL := r.nLL + 1 } := by
  rw [markLLGR, dropFams_compl _ _ _ hwf, List.mem_map]
  constructor
  · rintro ⟨r, hr, rfl⟩
    obtain ⟨hr1, hno⟩ := List.mem_filter.mp hr
    obtain ⟨hr0, hc⟩ := List.mem_filter.mp hr1
    rw [hc, Bool.true_and, Bool.not_eq_true'] at hno
    exact ⟨r, hr0, List.contains_iff_mem.mp hc, hno, if_pos hc⟩
  · rintro ⟨r, hr0, hll, hno, rfl⟩
    have hc := List.contains_iff_mem.mpr hll
    refine ⟨r, List.mem_filter.mpr ⟨List.mem_filter.mpr ⟨hr0, hc⟩, ?_⟩, if_pos hc⟩
    rw [hno, Bool.and_false]
    rfl

/-- the state in which the long-lived period starts, before the timers are started -/
def llStart (p : Peer) : Peer :=
  { p with llRun := true, rib := markLLGR (llFams p) (dropFams ((famIds p).filter (fun f => !(llFams p).contains f)) p.rib) }

theorem idlePurge_ll_empty (p : Peer) (hll : p.longLived = true) (hrun : p.llRun = false)
    (he : (llFams p).isEmpty = true) : idlePurge p = stopPeerRestarting (llStart p) := by
  rw [idlePurge, if_pos (by rw [hll, hrun]; rfl)]
  exact if_pos he

theorem idlePurge_ll_start (p : Peer) (hll : p.longLived = true) (hrun : p.llRun = false)
    (he : ¬ (llFams p).isEmpty = true) : idlePurge p = (llFams p).foldl startLL (llStart p) := by
  rw [idlePurge, if_pos (by rw [hll, hrun]; rfl)]
  exact if_neg he

theorem idlePurge_no_ll (p : Peer) (hll : p.longLived = false) :
    idlePurge p = { p with peerRestarting := false, fams := p.fams.map (fun f => { f with running := false }),
                           rib := dropFams (famIds p) p.rib } := by
  rw [idlePurge, if_neg (by rw [hll]; exact Bool.false_ne_true), if_pos (by rw [hll]; rfl)]

theorem idlePurge_running (p : Peer) (hll : p.longLived = true) (hrun : p.llRun = true) : idlePurge p = p := by
  rw [idlePurge, if_neg (by rw [hll, hrun]; exact Bool.false_ne_true),
    if_neg (by rw [hll]; exact Bool.false_ne_true)]

theorem inv_idlePurge (p : Peer) (h : InvCore p) (hs : StaleW p) (he : p.est = false) :
    Inv (idlePurge p) := by
  have hestT : p.est = true → p.restartAt = none := fun h1 => by rw [he] at h1; contradiction
  cases hll : p.longLived
  · -- no LLGR: everything goes
    rw [idlePurge_no_ll p hll]
    exact inv_of_nil _ (dropFams_all_nil _ _ h.wf) hestT h.rst
      (llSync_transfer h.llSync (map_fkey_of _ _ (fun _ => rfl)) (fun _ ht => ht)) h.llNE
  · cases hrun : p.llRun
    · have hmem := fun r' => (mem_markLLGR (famIds p) (llFams p) p.rib h.wf r').mp
      by_cases hempty : (llFams p).isEmpty = true
      · -- LLGR covers no family: nothing is retained
        rw [idlePurge_ll_empty p hll hrun hempty]
        refine inv_of_nil (stopPeerRestarting (llStart p)) (List.eq_nil_iff_forall_not_mem.mpr fun r' hr => ?_)
          hestT h.rst (stop_not_running _) (fun hl => nomatch hl)
        obtain ⟨_, _, hfam, _⟩ := hmem r' hr
        rw [List.isEmpty_iff.mp hempty] at hfam
        cases hfam
      · rw [idlePurge_ll_start p hll hrun hempty, foldl_startLL_frame]
        obtain ⟨hf, hnew⟩ := foldP_foldl (llFams p) (llStart p)
        generalize (llFams p).foldl startLL (llStart p) = s at hf hnew ⊢
        have hnonempty : s.llTimers ≠ [] := by
          obtain ⟨a, ha⟩ := List.exists_mem_of_ne_nil _ (mt List.isEmpty_iff.mpr hempty)
          obtain ⟨D, hD⟩ := hnew a ha
          exact List.ne_nil_of_mem hD
        refine inv_of_routes _ hestT h.rst (hf.sync h.llSync) (fun _ => hnonempty) ?_
        -- a route here was a stale route of an LLGR family that did not carry LLGR_STALE; now it does
        intro r' hr
        obtain ⟨r, hr0, hfam, _, rfl⟩ := hmem r' hr
        have hst := h.down he r hr0
        have h0 : r.nLL = 0 :=
          eq_zero_of_nll (h.nll r hr0) (fun hx => Bool.false_ne_true (hrun.symm.trans hx.2.1))
        refine ⟨?_, fun _ => hst, ⟨by rw [h0]; exact Nat.le_refl 1, fun _ => ⟨hst, rfl, hnew r.fam hfam⟩⟩,
          fun _ => ⟨hs r hr0 hst, Or.inr (Or.inr hnonempty)⟩⟩
        show r.fam ∈ famIds s
        rw [hf.ids]
        exact h.wf r hr0
    · rw [idlePurge_running p hll hrun]
      exact ⟨h, fun r hr hst => ⟨hs r hr hst, Or.inr (Or.inr (h.llNE hrun))⟩⟩

theorem onStateChange_down (p : Peer) (n : Next) (g ad : Bool) (he : p.est = false) (hn : n ≠ .established) :
    onStateChange p n g ad = if (p.peerRestarting && n == .idle && ad) = true then idlePurge p else p := by
  unfold onStateChange
  rw [he, if_neg (by rw [beq_iff_eq]; exact hn)]
  rfl

/-- an FSM transition below ESTABLISHED changes something only when it is the transition to IDLE of a
restarting peer by an administrative shutdown (`fsmAdminDown`); the restart timer takes `onRestartExpire` -/
theorem goto_eq (p : Peer) (n : Next) (ad : Bool) :
    stepRaw p (.goto n ad) =
      if p.est = false ∧ p.peerRestarting = true ∧ n = .idle ∧ ad = true then idlePurge p else p := by
  show (if (p.est || n == .established) = true then p else onStateChange p n false ad) = _
  split
  · rename_i hc
    refine (if_neg fun h => ?_).symm
    rw [h.1, h.2.2.1] at hc
    exact Bool.false_ne_true hc
  · rename_i hc
    rw [Bool.or_eq_true, not_or, Bool.not_eq_true, beq_iff_eq] at hc
    rw [onStateChange_down p n false ad hc.1 hc.2]
    simp only [Bool.and_eq_true, beq_iff_eq, hc.1, true_and, and_assoc]

theorem inv_goto (p : Peer) (n : Next) (ad : Bool) (h : Inv p) : Inv (stepRaw p (.goto n ad)) := by
  rw [goto_eq]
  split
  · rename_i hc
    exact inv_idlePurge p h.core h.stale.weak hc.1
  · exact h

/-- the restart timer fires: a transition to IDLE with reason `fsmRestartTimerExpired` if the session is down
and the peer restarting; otherwise only the timer is cleared -/
theorem onRestartExpire_eq (p : Peer) :
    onRestartExpire p =
      if p.est = false ∧ p.peerRestarting = true then idlePurge { p with restartAt := none }
      else { p with restartAt := none } := by
  show (if p.est = true then { p with restartAt := none }
      else if p.peerRestarting = true then onStateChange { p with restartAt := none } .idle false true
      else { p with restartAt := none }) = _
  by_cases h : p.est = false ∧ p.peerRestarting = true
  · rw [if_pos h, if_neg (by rw [h.1]; exact Bool.false_ne_true), if_pos h.2,
      onStateChange_down { p with restartAt := none } .idle false true h.1 (fun hn => nomatch hn)]
    exact if_pos (by rw [show ({ p with restartAt := none } : Peer).peerRestarting = true from h.2]; rfl)
  · rw [if_neg h]
    by_cases he : p.est = true
    · exact if_pos he
    · rw [if_neg he, if_neg (fun hpr => h ⟨(Bool.not_eq_true _).mp he, hpr⟩)]

theorem inv_onRestartExpire (p : Peer) (h : Inv p) : Inv (onRestartExpire p) := by
  have hcore : InvCore { p with restartAt := none } :=
    ⟨h.core.wf, fun _ => rfl, (fun _ hD => nomatch hD), h.core.llSync, h.core.llNE, h.core.down, h.core.nll⟩
  rw [onRestartExpire_eq]
  split
  · rename_i hc
    exact inv_idlePurge _ hcore h.stale.weak hc.1
  · rename_i hc
    -- a stale route means the peer is restarting, so the session is up
    refine ⟨hcore, fun r hr hs => ?_⟩
    have hpr := h.stale.weak r hr hs
    exact ⟨hpr, Or.inl ((Bool.eq_false_or_eq_true p.est).resolve_right fun he => hc ⟨he, hpr⟩)⟩

theorem onDeferralExpire_ind (P : Peer → Prop) (p : Peer) (dt : Nat) (h1 : P p)
    (h2 : P { p with localRestarting := false }) : P (onDeferralExpire p dt) :=
  ite_ind h1 (ite_ind h1 (ite_ind h2 h1))

theorem inv_onDeferralExpire (p : Peer) (dt : Nat) (h : Inv p) : Inv (onDeferralExpire p dt) :=
  onDeferralExpire_ind Inv p dt h (inv_unread p false _ _ h)

/-- `onLLExpire` before the "was it the last one" test -/
def llExpired1 (p : Peer) (f : Nat) : Peer :=
  { p with rib := dropStaleFam f p.rib, fams := p.fams.map (fun a => if a.id == f then { a with llExpired := true, llRunning := false } else a), llTimers := p.llTimers.filter (fun t => t.1 != f) }

theorem onLLExpire_eq (p : Peer) (f : Nat) :
    onLLExpire p f =
      if p.fams.all (fun a => a.id == f || !a.llRunning) = true then
        { stopPeerRestarting (llExpired1 p f) with rib := dropStale (stopPeerRestarting (llExpired1 p f)).rib }
      else llExpired1 p f := rfl

theorem mem_llExpired1 (p : Peer) (f : Nat) (r : Route) :
    r ∈ (llExpired1 p f).rib ↔ r ∈ p.rib ∧ ¬ (r.fam = f ∧ r.stale = true) := by
  refine List.mem_filter.trans (and_congr_right fun _ => ?_)
  rw [Bool.not_eq_true', ← Bool.not_eq_true, Bool.and_eq_true, beq_iff_eq]

theorem inv_onLLExpire (p : Peer) (f : Nat) (h : Inv p) : Inv (onLLExpire p f) := by
  rw [onLLExpire_eq]
  have hsub := fun r => (mem_llExpired1 p f r).mp
  have hids : famIds (llExpired1 p f) = famIds p :=
    map_id_of _ _ (fun a => ite_ind (P := fun b : Fam => b.id = a.id) rfl rfl)
  have hwf : ∀ r ∈ (llExpired1 p f).rib, r.fam ∈ famIds (llExpired1 p f) :=
    fun r hr => hids ▸ h.core.wf r (hsub r hr).1
  split
  · have hmem : ∀ r ∈ dropStale (llExpired1 p f).rib, r ∈ p.rib ∧ r.stale = false := by
      intro r hr
      rw [dropStale, List.mem_filter, Bool.not_eq_true'] at hr
      exact ⟨(hsub r hr.1).1, hr.2⟩
    exact inv_stop_fresh _ _ (fun r hr => hwf r (List.mem_filter.mp hr).1) h.core.estT h.core.rst
      (fun r hr => ⟨(hmem r hr).2, h.core.fresh (hmem r hr).1 (hmem r hr).2⟩)
  · rename_i hall
    have hkeep : ∀ t ∈ p.llTimers, t.1 ≠ f → t ∈ (llExpired1 p f).llTimers :=
      fun t ht hne => List.mem_filter.mpr ⟨ht, bne_iff_ne.mpr hne⟩
    -- some other family's timer is still running, hence still pending
    have hne : (llExpired1 p f).llTimers ≠ [] := by
      rw [Bool.not_eq_true, List.all_eq_false] at hall
      obtain ⟨a, ha, hc⟩ := hall
      rw [Bool.not_eq_true, Bool.or_eq_false_iff, beq_eq_false_iff_ne, Bool.not_eq_false'] at hc
      obtain ⟨D, hD⟩ := h.core.llSync a ha hc.2
      exact List.ne_nil_of_mem (hkeep _ hD hc.1)
    refine inv_of_routes _ h.core.estT h.core.rst ?_ (fun _ => hne) ?_
    · intro b hb hr
      obtain ⟨a, ha, rfl⟩ := List.mem_map.mp hb
      by_cases hc : (a.id == f) = true
      · rw [if_pos hc] at hr
        contradiction
      · rw [if_neg hc] at hr ⊢
        obtain ⟨D, hD⟩ := h.core.llSync a ha hr
        exact ⟨D, hkeep _ hD (fun hfe => hc (beq_iff_eq.mpr hfe))⟩
    · intro r hr
      obtain ⟨hr0, hnf⟩ := hsub r hr
      have hok := h.route hr0
      refine ⟨hwf r hr, hok.down, ⟨hok.nll.1, fun h3 => ?_⟩, fun hs => ⟨(hok.stale hs).1, Or.inr (Or.inr hne)⟩⟩
      obtain ⟨h4, h5, D, hD⟩ := hok.nll.2 h3
      exact ⟨h4, h5, D, hkeep _ hD (fun hfe => hnf ⟨hfe, h4⟩)⟩

/-- what the negotiation leaves alone -/
structure SceP (p q : Peer) : Prop where
  rib : q.rib = p.rib
  est : q.est = p.est
  pr : q.peerRestarting = p.peerRestarting
  llRun : q.llRun = p.llRun
  lls : q.llTimers = p.llTimers
  dt : q.downtime = p.downtime
  fk : q.fams.map fkey = p.fams.map fkey

/-- `stateChangeEst` after the reset, first step: the GR capability.  GR tuples of families the session
does not carry are skipped; a restarting speaker that sees the R bit awaits no End-of-RIB. -/
def negGR (c : Caps) (q : Peer) : Peer :=
  if q.cfgGR && c.gr then
    { q with enabled := true, restartTime := c.time,
             fams := if q.localRestarting && c.rbit then
                       (applyTuples q.fams (c.tuples.filter (fun t => c.mp.contains t))).map (fun f => { f with eor := true })
                     else applyTuples q.fams (c.tuples.filter (fun t => c.mp.contains t)),
             notif := q.cfgNotif && c.nbit }
  else q

/-- second step: the LLGR capability -/
def negLL (c : Caps) (q : Peer) : Peer :=
  if q.cfgLL && c.gr && c.llgr then { q with longLived := true, fams := c.ltuples.foldl applyLTuple q.fams } else q

theorem stateChangeEst_eq (p : Peer) (c : Caps) :
    stateChangeEst p c =
      { negLL c (negGR c (resetNegotiated p)) with
        negotiated := ((negLL c (negGR c (resetNegotiated p))).fams.map (·.id)).filter (fun f => c.mp.contains f),
        fwdClear := if c.gr then c.noFwd else [] } := rfl

theorem negGR_flags (c : Caps) (q : Peer) :
    (negGR c q).enabled = (q.cfgGR && c.gr || q.enabled) ∧
    (negGR c q).notif = (if q.cfgGR && c.gr then q.cfgNotif && c.nbit else q.notif) ∧
    (negGR c q).cfgLL = q.cfgLL ∧ (negGR c q).longLived = q.longLived := by
  unfold negGR
  cases q.cfgGR && c.gr <;> exact ⟨rfl, rfl, rfl, rfl⟩

theorem negLL_flags (c : Caps) (q : Peer) :
    (negLL c q).enabled = q.enabled ∧ (negLL c q).notif = q.notif ∧
    (negLL c q).longLived = (q.cfgLL && c.gr && c.llgr || q.longLived) := by
  unfold negLL
  cases q.cfgLL && c.gr && c.llgr <;> exact ⟨rfl, rfl, rfl⟩

theorem fkey_applyTuples (l : List Fam) (ts : List Nat) : (applyTuples l ts).map fkey = l.map fkey :=
  map_fkey_of _ _ (fun a => ite_ind (P := fun b => fkey b = fkey a) rfl rfl)

theorem fkey_foldl_applyLTuple (ts : List (Nat × Nat)) : ∀ l : List Fam,
    (ts.foldl applyLTuple l).map fkey = l.map fkey := by
  induction ts with
  | nil => intro l; rfl
  | cons t ts ih =>
    intro l
    exact (ih _).trans (map_fkey_of _ _ (fun a => ite_ind (P := fun b => fkey b = fkey a) rfl rfl))

theorem sceP_resetNegotiated (p : Peer) : SceP p (resetNegotiated p) :=
  ⟨rfl, rfl, rfl, rfl, rfl, rfl, map_fkey_of _ _ (fun _ => rfl)⟩

theorem sceP_negGR (c : Caps) {p q : Peer} (h : SceP p q) : SceP p (negGR c q) :=
  ite_ind
    ⟨h.rib, h.est, h.pr, h.llRun, h.lls, h.dt,
      (ite_ind (P := fun l : List Fam => l.map fkey = q.fams.map fkey)
        ((map_fkey_of _ (fun f => { f with eor := true }) (fun _ => rfl)).trans (fkey_applyTuples _ _))
        (fkey_applyTuples _ _)).trans h.fk⟩
    h

theorem sceP_negLL (c : Caps) {p q : Peer} (h : SceP p q) : SceP p (negLL c q) :=
  ite_ind ⟨h.rib, h.est, h.pr, h.llRun, h.lls, h.dt, (fkey_foldl_applyLTuple _ _).trans h.fk⟩ h

theorem sceP_stateChangeEst (p : Peer) (c : Caps) : SceP p (stateChangeEst p c) := by
  have h := sceP_negLL c (sceP_negGR c (sceP_resetNegotiated p))
  rw [stateChangeEst_eq]
  exact ⟨h.rib, h.est, h.pr, h.llRun, h.lls, h.dt, h.fk⟩

theorem onStateChange_est (q : Peer) (g ad : Bool) (hq : q.est = false) :
    onStateChange q .established g ad = onEstablished { q with est := true } := by
  simp [onStateChange, hq]

theorem estPurge_idle (q : Peer) (hpr : q.peerRestarting = false) : estPurge q = q := by
  rw [estPurge, hpr]
  rfl

theorem estPurge_keep (q : Peer) (hpr : q.peerRestarting = true) (hg : ¬ (grFams q).isEmpty = true) :
    estPurge q = { q with rib := dropStaleUnlisted q } := by
  rw [estPurge, if_pos hpr, if_neg hg]

theorem estPurge_stop (q : Peer) (hpr : q.peerRestarting = true) (hg : (grFams q).isEmpty = true) :
    estPurge q = { stopPeerRestarting q with rib := dropStaleUnlisted q } := by
  rw [estPurge, if_pos hpr, if_pos hg]

theorem mem_dropStaleUnlisted (p : Peer) (r : Route) :
    r ∈ dropStaleUnlisted p ↔ r ∈ p.rib ∧ (r.stale = true → r.fam ∈ keepFams p) := by
  rw [dropStaleUnlisted, List.mem_filter, Bool.not_eq_true', ← Bool.not_eq_true, Bool.and_eq_true,
    Bool.not_eq_true', ← Bool.not_eq_true, List.contains_iff_mem, not_and, Decidable.not_not]

theorem keepFams_nil (p : Peer) (hg : (grFams p).isEmpty = true) : keepFams p = [] := by
  rw [keepFams, List.isEmpty_iff.mp hg]
  rfl

theorem estDefer_ind (P : Peer → Prop) (q : Peer)
    (h : ∀ lr dts, P { q with localRestarting := lr, defTimers := dts }) : P (estDefer q) :=
  ite_ind (h q.localRestarting q.defTimers) (ite_ind (h false q.defTimers) (h q.localRestarting _))

theorem onEst_eq (p : Peer) (c : Caps) :
    onEst p c = if p.est = true then p
      else { estDefer (estPurge { stateChangeEst p c with est := true }) with restartAt := none } := by
  show (if p.est = true then p
      else { onStateChange (stateChangeEst p c) .established false with restartAt := none }) = _
  split
  · rfl
  · rename_i he
    rw [onStateChange_est _ false false ((sceP_stateChangeEst p c).est.trans ((Bool.not_eq_true _).mp he))]
    rfl

theorem inv_onEst (p : Peer) (c : Caps) (h : Inv p) : Inv (onEst p c) := by
  rw [onEst_eq]
  refine ite_ind h ?_
  have hs := sceP_stateChangeEst p c
  generalize stateChangeEst p c = q at hs ⊢
  have hsub : ∀ r ∈ dropStaleUnlisted { q with est := true }, r ∈ p.rib :=
    fun r hr => hs.rib ▸ ((mem_dropStaleUnlisted _ r).mp hr).1
  apply estDefer_ind (fun x => Inv { x with restartAt := none })
  intro lr dts
  -- the state the session would come up in if the purge were left out
  have hup := inv_up p q.restartTime h
  rcases Bool.eq_false_or_eq_true q.peerRestarting with hpr | hpr
  · by_cases hem : (grFams { q with est := true }).isEmpty = true
    · -- the new OPEN lists no GR family: the restart ends, every stale route goes
      rw [estPurge_stop { q with est := true } hpr hem]
      have hfresh : ∀ r ∈ dropStaleUnlisted { q with est := true }, r.stale = false := by
        intro r hr
        cases hst : r.stale
        · rfl
        · have hk := ((mem_dropStaleUnlisted _ r).mp hr).2 hst
          rw [keepFams_nil _ hem] at hk
          cases hk
      refine inv_unread _ lr dts q.now
        (inv_stop_fresh { q with est := true, restartAt := none } (dropStaleUnlisted { q with est := true })
          ?_ (fun _ => rfl) (fun _ hD => nomatch hD)
          (fun r hr => ⟨hfresh r hr, (h.core.fresh (hsub r hr) (hfresh r hr)).1, rfl⟩))
      intro r hr
      show r.fam ∈ q.fams.map (·.id)
      rw [ids_of_fkey hs.fk]
      exact h.core.wf r (hsub r hr)
    · rw [estPurge_keep { q with est := true } hpr hem]
      exact inv_transfer _ _ hup hsub rfl rfl hs.dt rfl hs.lls hs.llRun hs.pr hs.fk
  · rw [estPurge_idle { q with est := true } hpr]
    exact inv_transfer _ _ hup (fun r hr => hs.rib ▸ hr) rfl rfl hs.dt rfl hs.lls hs.llRun hs.pr hs.fk

theorem inv_now (p : Peer) (t : Nat) (h : Inv p) : Inv { p with now := t } :=
  inv_unread p _ _ t h

theorem inv_fire (p : Peer) (d : Nat) (k : Due) (h : Inv p) : Inv (fire p d k) := by
  cases k with
  | ll f => exact inv_onLLExpire _ f (inv_now p d h)
  | defer dt => exact inv_onDeferralExpire _ dt (inv_unread p _ _ d h)
  | restart => exact inv_onRestartExpire _ (inv_now p d h)

theorem advanceTo_ind {P : Peer → Prop} (hnow : ∀ p t, P p → P { p with now := t })
    (hfire : ∀ p d k, P p → P (fire p d k)) (fuel : Nat) :
    ∀ (p : Peer) (limit : Nat), P p → P (advanceTo fuel p limit) := by
  induction fuel with
  | zero => intro p limit h; exact hnow p limit h
  | succ n ih =>
    intro p limit h
    unfold advanceTo
    split
    · exact hnow p limit h
    · exact ih _ _ (hfire p _ _ h)

theorem inv_tick (p : Peer) (d : Nat) (h : Inv p) : Inv (tick p d) := advanceTo_ind inv_now inv_fire _ p _ h

/-- an event is its effect, followed (but for a clock step, which is its own effect) by the timers it
makes due at once -/
theorem step_ind {P : Peer → Prop} (htick : ∀ q d, P q → P (tick q d)) (p : Peer) (e : Ev)
    (h : P (stepRaw p e)) : P (step p e) := by
  cases e with
  | tick d => exact h
  | _ => exact htick _ 0 h

theorem run_ind {P : Peer → Prop} {Q : Ev → Prop} (hstep : ∀ p e, Q e → P p → P (step p e)) (es : List Ev) :
    ∀ p : Peer, (∀ e ∈ es, Q e) → P p → P (run p es) := by
  induction es with
  | nil => intro p _ h; exact h
  | cons e es ih =>
    intro p hok h
    exact ih (step p e) (fun e' he' => hok e' (List.mem_cons_of_mem _ he')) (hstep p e (hok e (List.mem_cons_self ..)) h)

/-- the one assumption on the events of a history: the peer does not itself announce routes that
already carry LLGR_STALE (the harness never does) -/
def EvOK : Ev → Prop
  | .ann _ _ _ _ n _ => n = 0
  | _ => True

theorem inv_stepRaw (p : Peer) (e : Ev) (he : EvOK e) (h : Inv p) : Inv (stepRaw p e) := by
  cases e with
  | est c => exact inv_onEst p c h
  | loss k => exact inv_onDown p _ h
  | goto n ad => exact inv_goto p n ad h
  | ann f k v noLL n rj =>
    have : n = 0 := he
    subst this
    exact inv_announce p f k v noLL rj h
  | wd f k => exact inv_withdraw p f k h
  | eor f => exact inv_onEOR p f h
  | tick d => exact inv_tick p d h
  | del =>
    refine inv_of_nil (onDelete p) rfl (fun he => nomatch he) (fun _ hD => nomatch hD) ?_ (fun hl => nomatch hl)
    intro a ha hr
    obtain ⟨b, _, rfl⟩ := List.mem_map.mp ha
    exact absurd hr Bool.false_ne_true

theorem inv_step (p : Peer) (e : Ev) (he : EvOK e) (h : Inv p) : Inv (step p e) :=
  step_ind inv_tick p e (inv_stepRaw p e he h)

/-- a neighbour before its first session -/
structure Init (p : Peer) : Prop where
  est : p.est = false
  rib : p.rib = []
  ra : p.restartAt = none
  lls : p.llTimers = []
  llRun : p.llRun = false
  running : ∀ a ∈ p.fams, a.llRunning = false

theorem inv_init (p : Peer) (hi : Init p) : Inv p := by
  apply inv_of_nil p hi.rib
  · intro h; rw [hi.est] at h; contradiction
  · intro D hD; rw [hi.ra] at hD; contradiction
  · intro a ha hr; rw [hi.running a ha] at hr; contradiction
  · intro hl; rw [hi.llRun] at hl; contradiction

theorem inv_run (es : List Ev) : ∀ (p : Peer), (∀ e ∈ es, EvOK e) → Inv p → Inv (run p es) :=
  run_ind inv_step es

end GR
