/-
  C17: what an RTC peer holds. `ViewOK t s v` says that `v` is, destination by destination, what the memberships `s`
  entitle the peer to of the best paths of `t`. A table update, a membership event and the deferred table transfer
  each send a batch of messages; all three keep `ViewOK` for one reason (`apply_eq`): every message of the batch
  tells the truth about its NLRI under the new state, and where the batch is silent nothing had to change.
-/
import Lemmas.VrfRtcVrf
namespace VrfRtc

/-- HasRouteTarget ↔ some member -/
theorem has_iff (s : Rtm) (k : Nat) : s.has k = true ↔ ∃ m, m ∈ s ∧ m.rt = k := by
  simp only [Rtm.has, List.any_eq_true, beq_iff_eq]

theorem has_sync_other (s : Rtm) (m : Mem) (wd : Bool) (k : Nat) (hk : k ≠ m.rt) :
    (s.sync m wd).has k = s.has k := by
  rw [Bool.eq_iff_iff, has_iff, has_iff]
  have hne : ∀ x : Mem, x.rt = k → m ≠ x := fun x hx e => hk (e ▸ hx.symm)
  constructor
  · rintro ⟨x, hx, hr⟩
    exact ⟨x, (rtm_mem_sync_other s m x wd (hne x hr)).1 hx, hr⟩
  · rintro ⟨x, hx, hr⟩
    exact ⟨x, (rtm_mem_sync_other s m x wd (hne x hr)).2 hx, hr⟩

namespace ViewAux

theorem sync_false (s : Rtm) (m : Mem) : s.sync m false = s.add m := rfl
theorem sync_true (s : Rtm) (m : Mem) : s.sync m true = s.sub m := rfl

theorem has_mono {s s' : Rtm} (h : ∀ x, x ∈ s → x ∈ s') (k : Nat) (hk : s.has k = true) :
    s'.has k = true := by
  rw [has_iff] at hk ⊢
  obtain ⟨x, hx, hr⟩ := hk
  exact ⟨x, h x hx, hr⟩

theorem has_sub_le (s : Rtm) (m : Mem) (k : Nat) : (s.sub m).has k = true → s.has k = true :=
  has_mono (fun x hx => ((rtm_mem_sub s m x).1 hx).1) k

theorem has_add_ge (s : Rtm) (m : Mem) (k : Nat) : s.has k = true → (s.add m).has k = true :=
  has_mono (fun x hx => (rtm_mem_add s m x).2 (Or.inr hx)) k

theorem has_add_self (s : Rtm) (m : Mem) : (s.add m).has m.rt = true :=
  (has_iff _ _).2 ⟨m, (rtm_mem_add s m m).2 (Or.inl rfl), rfl⟩

theorem sync_same_has (s : Rtm) (m : Mem) (wd : Bool)
    (hsame : (s.sync m wd).has m.rt = s.has m.rt) (k : Nat) : (s.sync m wd).has k = s.has k := by
  by_cases hk : k = m.rt
  · rw [hk]; exact hsame
  · exact has_sync_other s m wd k hk

theorem interested_iff (s : Rtm) (ecs : List EC) :
    interested s ecs = true ↔ s.has 0 = true ∨ ∃ k, k ∈ keys ecs ∧ s.has k = true := by
  simp only [interested, Bool.or_eq_true, List.any_eq_true]

theorem interested_mono (s s' : Rtm) (ecs : List EC)
    (h : ∀ k, (k = 0 ∨ k ∈ keys ecs) → s.has k = true → s'.has k = true)
    (hi : interested s ecs = true) : interested s' ecs = true := by
  rw [interested_iff] at hi ⊢
  rcases hi with h0 | ⟨k, hk, hh⟩
  · exact Or.inl (h 0 (Or.inl rfl) h0)
  · exact Or.inr ⟨k, hk, h k (Or.inr hk) hh⟩

theorem interested_congr (s s' : Rtm) (ecs : List EC)
    (h : ∀ k, (k = 0 ∨ k ∈ keys ecs) → s'.has k = s.has k) :
    interested s' ecs = interested s ecs := by
  rw [Bool.eq_iff_iff]
  constructor
  · exact interested_mono s' s ecs (fun k hk hh => (h k hk).symm.trans hh)
  · exact interested_mono s s' ecs (fun k hk hh => (h k hk).trans hh)

theorem interested_sync_other (s : Rtm) (m : Mem) (wd : Bool) (ecs : List EC)
    (h0 : m.rt ≠ 0) (hk : m.rt ∉ keys ecs) : interested (s.sync m wd) ecs = interested s ecs := by
  apply interested_congr
  rintro k (rfl | hkk)
  · exact has_sync_other s m wd 0 h0.symm
  · exact has_sync_other s m wd k (fun e => hk (e ▸ hkk))

theorem interested_add (s : Rtm) (m : Mem) (ecs : List EC) (hc : m.rt ≠ 0 → m.rt ∈ keys ecs) :
    interested (s.add m) ecs = true := by
  rw [interested_iff]
  by_cases h0 : m.rt = 0
  · exact Or.inl (h0 ▸ has_add_self s m)
  · exact Or.inr ⟨m.rt, hc h0, has_add_self s m⟩

theorem bool_lt_of_mono_ne {a b : Bool} (hm : a = true → b = true) (hne : b ≠ a) : a = false ∧ b = true := by
  cases a <;> cases b <;> simp_all

theorem interested_sync_ne (s : Rtm) (m : Mem) (wd : Bool) (ecs : List EC)
    (hne : interested (s.sync m wd) ecs ≠ interested s ecs) :
    (m.rt ≠ 0 → m.rt ∈ keys ecs) ∧ interested (s.sync m wd) ecs = !wd := by
  refine ⟨fun h0 => Classical.byContradiction fun hk => hne (interested_sync_other s m wd ecs h0 hk), ?_⟩
  cases wd
  · exact (bool_lt_of_mono_ne (interested_mono s (s.add m) ecs fun k _ => has_add_ge s m k) hne).2
  · exact (bool_lt_of_mono_ne (interested_mono (s.sub m) s ecs fun k _ => has_sub_le s m k) hne.symm).1

theorem best_mem {t : Tbl} {n : Nat × Nat} {b : VPath} (hb : t.best n = some b) : b ∈ t.dest n :=
  List.mem_of_mem_head? hb

theorem best_nlri {t : Tbl} (h : TblWF t) {n : Nat × Nat} {b : VPath} (hb : t.best n = some b) :
    b.nlri = n := h.nlri_ok n b (best_mem hb)

theorem best_self {t : Tbl} (h : TblWF t) {n : Nat × Nat} {b : VPath} (hb : t.best n = some b) :
    t.best b.nlri = some b := by
  rw [best_nlri h hb]; exact hb

theorem best_of_uid {t : Tbl} (h : TblWF t) {p : VPath} (hp : p ∈ t.dest p.nlri)
    (hu : uidOf (t.best p.nlri) = some p.uid) : t.best p.nlri = some p := by
  cases hb : t.best p.nlri with
  | none => rw [hb] at hu; cases hu
  | some b =>
    rw [hb] at hu
    rw [h.uid_uniq _ _ b p (best_mem hb) hp (Option.some.inj hu)]

theorem mem_bests {t : Tbl} (h : TblWF t) (p : VPath) : p ∈ t.bests ↔ t.best p.nlri = some p := by
  unfold Tbl.bests
  rw [List.mem_filterMap]
  constructor
  · rintro ⟨n, _, hb⟩
    exact best_self h hb
  · intro hb
    exact ⟨p.nlri, h.listed _ (List.ne_nil_of_mem (best_mem hb)), hb⟩

/-- rtcVPNCandidates: best paths, those carrying the RT if it is a specific one; the last conjunct is the
    pre-filtered wildcard scan of a withdrawal -/
theorem mem_cands (t : Tbl) (s' : Rtm) (k : Nat) (wd : Bool) (h : TblWF t) (hi : IdxInv t) (p : VPath) :
    p ∈ rtcCandidates t s' k wd ↔
      (t.best p.nlri = some p ∧ (k ≠ 0 → k ∈ keys p.ecs) ∧
        (k = 0 → wd = true → interested s' p.ecs = false)) := by
  unfold rtcCandidates
  by_cases hk : k = 0
  · subst hk
    cases wd <;> simp [mem_bests h]
  · have hk' : (k != 0) = true := by simpa using hk
    rw [if_pos hk', List.mem_filter, mem_byRT, hi k p]
    constructor
    · rintro ⟨⟨hm, hkk, _⟩, hu⟩
      exact ⟨best_of_uid h hm (by simpa using hu), fun _ => hkk, fun e => absurd e hk⟩
    · rintro ⟨hb, hkk, _⟩
      exact ⟨⟨best_mem hb, hkk hk, Or.inr hb⟩, by simp [hb, uidOf]⟩

theorem rtcStep_fst (t : Tbl) (s : Rtm) (e : Bool) (m : Mem) (wd : Bool) :
    (rtcStep t s e m wd).1 = s.sync m wd := by
  simp only [rtcStep, apply_ite Prod.fst, ite_self]

theorem rtcStep_unchanged (t : Tbl) (s : Rtm) (e : Bool) (m : Mem) (wd : Bool)
    (hsame : (s.sync m wd).has m.rt = s.has m.rt) : (rtcStep t s e m wd).2 = [] := by
  unfold rtcStep
  dsimp only
  rw [hsame, if_pos (beq_self_eq_true _)]

theorem rtcStep_ann (t : Tbl) (s : Rtm) (m : Mem) (hb : s.has m.rt = false) :
    (rtcStep t s false m false).2 =
      (rtcCandidates t (s.add m) m.rt false).flatMap (fun p => rtcFilter (s.add m) p false none) := by
  unfold rtcStep
  dsimp only
  rw [sync_false, has_add_self, hb]
  rfl

theorem rtcStep_wd (t : Tbl) (s : Rtm) (e : Bool) (m : Mem) (hb : s.has m.rt = true)
    (ha : (s.sub m).has m.rt = false) :
    (rtcStep t s e m true).2 =
      ((rtcCandidates t (s.sub m) m.rt true).filter (fun p => !interested (s.sub m) p.ecs)).map
        (fun p => Msg.wd p.nlri) := by
  unfold rtcStep
  dsimp only
  rw [sync_true, ha, hb]
  rfl

theorem rtcFilter_none (s : Rtm) (p : VPath) :
    rtcFilter s p false none = if interested s p.ecs then [Msg.adv p.nlri p.marker] else [] := rfl

/-- a list of paths sent through filterpath with no old path: the wanted ones are advertised -/
theorem mem_flatMap_rtcFilter (l : List VPath) (s : Rtm) (x : Msg) :
    x ∈ l.flatMap (fun p => rtcFilter s p false none) ↔
      ∃ b, b ∈ l ∧ interested s b.ecs = true ∧ x = Msg.adv b.nlri b.marker := by
  simp only [List.mem_flatMap, rtcFilter_none]
  constructor
  · rintro ⟨b, hb, hx⟩
    split at hx
    · exact ⟨b, hb, ‹_›, List.mem_singleton.1 hx⟩
    · cases hx
  · rintro ⟨b, hb, hi, rfl⟩
    exact ⟨b, hb, by rw [if_pos hi]; exact List.mem_singleton.2 rfl⟩

/-- messages of a first announcement (any RT, default included) -/
theorem ann_msgs (t : Tbl) (s : Rtm) (m : Mem) (h : TblWF t) (hi : IdxInv t)
    (hb : s.has m.rt = false) (x : Msg) :
    x ∈ (rtcStep t s false m false).2 ↔
      ∃ b, t.best b.nlri = some b ∧ (m.rt ≠ 0 → m.rt ∈ keys b.ecs) ∧ x = Msg.adv b.nlri b.marker := by
  rw [rtcStep_ann t s m hb, mem_flatMap_rtcFilter]
  constructor
  · rintro ⟨b, hbc, _, rfl⟩
    have hc := (mem_cands t _ _ _ h hi b).1 hbc
    exact ⟨b, hc.1, hc.2.1, rfl⟩
  · rintro ⟨b, hbb, hc, rfl⟩
    exact ⟨b, (mem_cands t _ _ _ h hi b).2 ⟨hbb, hc, fun _ e => nomatch e⟩, interested_add s m _ hc, rfl⟩

/-- messages of a last withdrawal (any RT, default included) -/
theorem wd_msgs (t : Tbl) (s : Rtm) (e : Bool) (m : Mem) (h : TblWF t) (hi : IdxInv t)
    (hb : s.has m.rt = true) (ha : (s.sub m).has m.rt = false) (x : Msg) :
    x ∈ (rtcStep t s e m true).2 ↔
      ∃ b, t.best b.nlri = some b ∧ (m.rt ≠ 0 → m.rt ∈ keys b.ecs) ∧
        interested (s.sub m) b.ecs = false ∧ x = Msg.wd b.nlri := by
  rw [rtcStep_wd t s e m hb ha, List.mem_map]
  constructor
  · rintro ⟨b, hbf, rfl⟩
    rw [List.mem_filter] at hbf
    have hc := (mem_cands t _ _ _ h hi b).1 hbf.1
    exact ⟨b, hc.1, hc.2.1, by simpa using hbf.2, rfl⟩
  · rintro ⟨b, hbb, hc, hif, rfl⟩
    exact ⟨b, List.mem_filter.2 ⟨(mem_cands t _ _ _ h hi b).2 ⟨hbb, hc, fun _ _ => hif⟩, by simp [hif]⟩, rfl⟩

def mNlri : Msg → Nat × Nat
  | .adv n _ => n
  | .wd n => n

def mVal : Msg → Option Nat
  | .adv _ c => some c
  | .wd _ => none

theorem apply1_eq (v : View) (x : Msg) (n : Nat × Nat) :
    (v.apply1 x) n = if n = mNlri x then mVal x else v n := by
  cases x <;> rfl

theorem apply_eq (v : View) (ms : List Msg) (f : Nat × Nat → Option Nat)
    (htrue : ∀ x, x ∈ ms → mVal x = f (mNlri x))
    (hrest : ∀ n, (∀ x, x ∈ ms → mNlri x ≠ n) → v n = f n) (n : Nat × Nat) : (v.apply ms) n = f n := by
  induction ms generalizing v with
  | nil => exact hrest n (fun _ hx => nomatch hx)
  | cons x r ih =>
    refine ih (v.apply1 x) (fun y hy => htrue y (List.mem_cons_of_mem _ hy)) (fun n' hn' => ?_)
    rw [apply1_eq]
    split
    · rename_i e
      rw [e]
      exact htrue x List.mem_cons_self
    · rename_i e
      refine hrest n' (fun y hy => ?_)
      rcases List.mem_cons.1 hy with rfl | hy
      · exact fun e' => e e'.symm
      · exact hn' y hy

/-- what `ViewOK` expects for a destination whose best path is `O` -/
def expect (s : Rtm) (O : Option VPath) : Option Nat :=
  match O with
  | some b => if interested s b.ecs then some b.marker else none
  | none => none

theorem expect_pos {s : Rtm} {b : VPath} (h : interested s b.ecs = true) : expect s (some b) = some b.marker :=
  if_pos h

theorem expect_neg {s : Rtm} {b : VPath} (h : interested s b.ecs = false) : expect s (some b) = none :=
  if_neg (h ▸ Bool.false_ne_true)

theorem viewOK_batch (t : Tbl) (s s' : Rtm) (v : View) (ms : List Msg) (h : TblWF t) (hv : ViewOK t s v)
    (htrue : ∀ x, x ∈ ms → ∃ b, t.best b.nlri = some b ∧ mNlri x = b.nlri ∧ mVal x = expect s' (some b))
    (hrest : ∀ b, t.best b.nlri = some b → interested s' b.ecs ≠ interested s b.ecs →
      ∃ x, x ∈ ms ∧ mNlri x = b.nlri) :
    ViewOK t s' (v.apply ms) := by
  refine apply_eq v ms (fun n => expect s' (t.best n)) ?_ ?_
  · intro x hx
    obtain ⟨b, hb, hn, hval⟩ := htrue x hx
    show mVal x = expect s' (t.best (mNlri x))
    rw [hn, hb]
    exact hval
  · intro n hno
    show v n = expect s' (t.best n)
    rw [hv n]
    cases hb : t.best n with
    | none => rfl
    | some b =>
      have hbn := best_nlri h hb
      have hsame : interested s' b.ecs = interested s b.ecs := Classical.byContradiction fun hne => by
        obtain ⟨x, hx, hxn⟩ := hrest b (best_self h hb) hne
        exact hno x hx (hxn.trans hbn)
      simp only [expect, hsame]

theorem rtcFilter_spec (s : Rtm) (p : VPath) (w : Bool) (old : Option VPath) (n0 : Nat × Nat)
    (hp : p.nlri = n0) (ho : ∀ o, old = some o → o.nlri = n0) :
    (∀ x, x ∈ rtcFilter s p w old → mNlri x = n0 ∧ mVal x = if w then none else expect s (some p)) ∧
    (rtcFilter s p w old = [] → interested s p.ecs = false ∧ expect s old = none) := by
  unfold rtcFilter
  cases hi : interested s p.ecs with
  | true =>
    rw [if_pos rfl]
    refine ⟨fun x hx => ?_, fun hnil => absurd hnil (List.cons_ne_nil _ _)⟩
    obtain rfl := List.mem_singleton.1 hx
    cases w
    · exact ⟨hp, (expect_pos hi).symm⟩
    · exact ⟨hp, rfl⟩
  | false =>
    rw [if_neg Bool.false_ne_true]
    cases old with
    | none => exact ⟨(fun x hx => nomatch hx), fun _ => ⟨rfl, rfl⟩⟩
    | some o =>
      dsimp only
      cases hio : interested s o.ecs with
      | true =>
        rw [if_pos rfl]
        refine ⟨fun x hx => ?_, fun hnil => absurd hnil (List.cons_ne_nil _ _)⟩
        obtain rfl := List.mem_singleton.1 hx
        refine ⟨ho o rfl, ?_⟩
        cases w
        · exact (expect_neg hi).symm
        · rfl
      | false =>
        rw [if_neg Bool.false_ne_true]
        exact ⟨(fun x hx => nomatch hx), fun _ => ⟨rfl, expect_neg hio⟩⟩

theorem onTableChange_spec (s : Rtm) (oldL newL : List VPath) (n0 : Nat × Nat)
    (hO : ∀ o, oldL.head? = some o → o.nlri = n0) (hN : ∀ b, newL.head? = some b → b.nlri = n0)
    (hsame : ∀ o b, oldL.head? = some o → newL.head? = some b → b.sameAs o = true →
      b.marker = o.marker ∧ b.ecs = o.ecs) :
    (∀ x, x ∈ onTableChange s oldL newL → mNlri x = n0 ∧ mVal x = expect s newL.head?) ∧
    (onTableChange s oldL newL = [] → expect s newL.head? = expect s oldL.head?) := by
  unfold onTableChange
  cases hb : newL.head? with
  | some b =>
    dsimp only
    split
    · rename_i hu
      refine ⟨(fun x hx => nomatch hx), fun _ => ?_⟩
      cases ho : oldL.head? with
      | none => rw [ho] at hu; cases hu
      | some o =>
        rw [ho] at hu
        obtain ⟨e1, e2⟩ := hsame o b ho hb hu
        simp only [expect, e1, e2]
    · have sp := rtcFilter_spec s b false oldL.head? n0 (hN b hb) hO
      refine ⟨sp.1, fun hnil => ?_⟩
      obtain ⟨h1, h2⟩ := sp.2 hnil
      rw [h2]
      exact expect_neg h1
  | none =>
    cases ho : oldL.head? with
    | none => exact ⟨(fun x hx => nomatch hx), fun _ => rfl⟩
    | some o =>
      have sp := rtcFilter_spec s o true (some o) n0 (hO o ho) (fun o' e => Option.some.inj e ▸ hO o ho)
      exact ⟨sp.1, fun hnil => (sp.2 hnil).2.symm⟩

end ViewAux
open ViewAux

theorem rtc_table_step (t : Tbl) (s : Rtm) (v : View) (p : VPath) (wd : Bool)
    (h : TblWF t) (hf : wd = false → Fresh t p) (hv : ViewOK t s v) :
    ViewOK (t.update p wd) s (v.apply (onTableChange s (t.dest p.nlri) ((t.update p wd).dest p.nlri))) := by
  have sp := onTableChange_spec s (t.dest p.nlri) ((t.update p wd).dest p.nlri) p.nlri
    (fun o ho => h.nlri_ok _ o (List.mem_of_head? ho))
    (fun b hb => (update_wf t p wd h hf).nlri_ok _ b (List.mem_of_head? hb))
    (update_head_sameAs t p wd h hf)
  refine apply_eq _ _ (fun n => expect s ((t.update p wd).best n)) (fun x hx => ?_) (fun n hno => ?_)
  · show mVal x = expect s ((t.update p wd).best (mNlri x))
    rw [(sp.1 x hx).1]
    exact (sp.1 x hx).2
  · show v n = expect s ((t.update p wd).dest n).head?
    by_cases hn : n = p.nlri
    · subst hn
      have hnil := List.eq_nil_iff_forall_not_mem.2 fun x hx => hno x hx (sp.1 x hx).1
      rw [sp.2 hnil]
      exact hv p.nlri
    · rw [update_dest_other _ _ _ _ hn]
      exact hv n

/-- the `false` handed to `rtcStep`: no RTC End-of-RIB wait pending -/
theorem rtc_member_step (t : Tbl) (s : Rtm) (v : View) (m : Mem) (wd : Bool)
    (h : TblWF t) (hi : IdxInv t) (hv : ViewOK t s v) :
    ViewOK t (rtcStep t s false m wd).1 (v.apply (rtcStep t s false m wd).2) := by
  rw [rtcStep_fst]
  by_cases hsame : (s.sync m wd).has m.rt = s.has m.rt
  · rw [rtcStep_unchanged t s false m wd hsame]
    refine viewOK_batch t s _ v [] h hv (fun x hx => nomatch hx) (fun b _ hne => absurd ?_ hne)
    exact interested_congr s _ b.ecs (fun k _ => sync_same_has s m wd hsame k)
  · cases wd
    · have hb := (bool_lt_of_mono_ne (has_add_ge s m m.rt) hsame).1
      apply viewOK_batch t s _ v _ h hv
      · intro x hx
        obtain ⟨b, hbb, hc, rfl⟩ := (ann_msgs t s m h hi hb x).1 hx
        exact ⟨b, hbb, rfl, (expect_pos (interested_add s m _ hc)).symm⟩
      · intro b hbb hne
        exact ⟨_, (ann_msgs t s m h hi hb _).2 ⟨b, hbb, (interested_sync_ne s m false b.ecs hne).1, rfl⟩, rfl⟩
    · obtain ⟨ha, hb⟩ := bool_lt_of_mono_ne (has_sub_le s m m.rt) (Ne.symm hsame)
      apply viewOK_batch t s _ v _ h hv
      · intro x hx
        obtain ⟨b, hbb, _, hif, rfl⟩ := (wd_msgs t s false m h hi hb ha x).1 hx
        exact ⟨b, hbb, rfl, (expect_neg hif).symm⟩
      · intro b hbb hne
        obtain ⟨hc, hif⟩ := interested_sync_ne s m true b.ecs hne
        exact ⟨_, (wd_msgs t s false m h hi hb ha _).2 ⟨b, hbb, hc, hif, rfl⟩, rfl⟩

end VrfRtc
