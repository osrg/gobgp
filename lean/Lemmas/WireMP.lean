import Model.WireMP
import Lemmas.Wire
/-! Round-trip lemmas for `Model/WireMP.lean`; path identifier and attribute header are shared with
the core codec (`Lemmas/Wire.lean`). -/
namespace Wire

theorem wfW_iff {w : Nat} {p : Prefix} : p.wfW w = true ↔ p.bits ≤ w * 8 ∧ p.addr.length = w ∧
    maskLast p.bits (p.addr.take (byteLen p.bits) ++ List.replicate (w - byteLen p.bits) 0) = p.addr := by
  simp only [Prefix.wfW, Bool.and_eq_true, decide_eq_true_eq, beq_iff_eq, and_assoc]

theorem serPrefix_length {w : Nat} {p : Prefix} (h : p.wfW w = true) :
    (serPrefix p).length = byteLen p.bits :=
  take_byteLen_length (wfW_iff.mp h).1 (wfW_iff.mp h).2.1

theorem decodePrefixW_ser {w : Nat} {p : Prefix} (h : p.wfW w = true) (rest : Bytes) :
    decodePrefixW w (serPrefix p ++ rest) p.bits = some p := by
  obtain ⟨hb, _, hm⟩ := wfW_iff.mp h
  have hl := serPrefix_length h
  rw [decodePrefixW, if_neg (not_short (Nat.le_of_eq hl.symm) rest), if_neg (Nat.not_lt.mpr hb),
    List.take_left' hl, serPrefix, hm]

theorem encPrefix_lengthW {w : Nat} {p : Prefix} (h : p.wfW w = true) :
    (encPrefix p).length = prefixLen p := by
  rw [prefixLen, ← serPrefix_length h, Nat.add_comm]; rfl

theorem decPrefixW_enc {w : Nat} {p : Prefix} (hw : w ≤ 16) (h : p.wfW w = true) (rest : Bytes) :
    decPrefixW w (encPrefix p ++ rest) = some p := by
  have hb := (wfW_iff.mp h).1
  show decodePrefixW w (serPrefix p ++ rest) (p.bits % 256) = some p
  rw [Nat.mod_eq_of_lt (by omega), decodePrefixW_ser h]

/-- a stack Serialize/Decode agree on: the single withdraw label, or 20-bit labels of which only the
    bottom one may be 0 or 0x80000 (the two values whose shifted form reads as a withdraw label) -/
def LabelsWF (ls : List Nat) : Prop :=
  ls = [WITHDRAW_LABEL] ∨
  (ls ≠ [] ∧ (∀ l ∈ ls, l < 1048576) ∧ ∀ l ∈ ls.dropLast, l ≠ 0 ∧ l ≠ 524288)

theorem labelsWF_length_ne_zero {ls : List Nat} (h : LabelsWF ls) : ls.length ≠ 0 := by
  rcases h with rfl | ⟨hne, _, _⟩
  · exact Nat.succ_ne_zero 0
  · exact fun h0 => hne (List.eq_nil_of_length_eq_zero h0)

theorem lor_one_mul16 (k : Nat) (h : k < 16) : Nat.lor (16 * k) 1 = 16 * k + 1 := by
  have : ∀ k : Fin 16, Nat.lor (16 * k.val) 1 = 16 * k.val + 1 := by decide
  exact this ⟨k, h⟩

theorem lastByte (l : Nat) : Nat.lor (l * 16 % 256) 1 = l * 16 % 256 + 1 := by
  rw [Nat.mul_comm l 16, show (256 : Nat) = 16 * 16 from rfl, Nat.mul_mod_mul_left]
  exact lor_one_mul16 _ (Nat.mod_lt _ (by decide))

theorem inner_word {l : Nat} (h0 : l ≠ 0) (h1 : l ≠ 524288) :
    l * 16 ≠ WITHDRAW_LABEL ∧ l * 16 ≠ 0 ∧ ¬ l * 16 % 2 = 1 ∧ l * 16 / 16 = l := by
  unfold WITHDRAW_LABEL; omega

theorem bottom_word (l : Nat) :
    l * 16 + 1 ≠ WITHDRAW_LABEL ∧ l * 16 + 1 ≠ 0 ∧ (l * 16 + 1) % 2 = 1 ∧ (l * 16 + 1) / 16 = l := by
  unfold WITHDRAW_LABEL; omega

theorem encLabelsRaw_length : ∀ ls : List Nat, (encLabelsRaw ls).length = 3 * ls.length
  | [] => rfl
  | [_] => rfl
  | a :: b :: ls => by
    show (encLabel a ++ encLabelsRaw (b :: ls)).length = _
    rw [List.length_append, encLabelsRaw_length (b :: ls), List.length_cons (a := a), Nat.mul_succ,
      Nat.add_comm]; rfl

theorem no_withdraw_of_lt {ls : List Nat} (h : ∀ l ∈ ls, l < 1048576) :
    ls.any (· == WITHDRAW_LABEL) = false := by
  simp only [List.any_eq_false, beq_iff_eq]
  intro l hl e
  exact absurd (e ▸ h l hl) (by decide)

theorem encLabels_length {ls : List Nat} (h : LabelsWF ls) : (encLabels ls).length = labelsLen ls := by
  rcases h with rfl | ⟨_, hlt, _⟩
  · rfl
  · rw [encLabels, no_withdraw_of_lt hlt, if_neg Bool.false_ne_true, encLabelsRaw_length, labelsLen]

/-- scanning the raw encoding: every label but the last continues, the last has the bottom bit -/
theorem scan_raw : ∀ (ls : List Nat) (fuel : Nat) (rest : Bytes), ls ≠ [] →
    (∀ l ∈ ls, l < 1048576) → (∀ l ∈ ls.dropLast, l ≠ 0 ∧ l ≠ 524288) → ls.length ≤ fuel →
    scanLabels true fuel (encLabelsRaw ls ++ rest) = .run ls true
  | [], _, _, h, _, _, _ => absurd rfl h
  | _ :: _, 0, _, _, _, _, hf => absurd hf (Nat.not_succ_le_zero _)
  | [l], fuel + 1, rest, _, hlt, _, _ => by
    have hl : l * 16 < 16777216 := Nat.mul_lt_mul_of_pos_right (hlt l (List.mem_cons_self ..)) (by decide)
    obtain ⟨w1, w2, w3, w4⟩ := bottom_word l
    have c3 : ¬ (l * 16 / 65536 % 256 :: l * 16 / 256 % 256 :: (l * 16 % 256 + 1) :: rest).length < 3 :=
      Nat.not_lt.mpr (Nat.le_add_left 3 _)
    simp only [encLabelsRaw, lastByte, List.cons_append, List.nil_append, scanLabels, c3, if_false,
      List.getD_cons_zero, List.getD_cons_succ, ← Nat.add_assoc, Octets.horner24 hl, w1, w2, w3, w4,
      decide_false, Bool.or_false, Bool.false_eq_true, Bool.not_true, if_true]
  | a :: b :: ls, fuel + 1, rest, _, hlt, hnb, hf => by
    have ha : a * 16 < 16777216 := Nat.mul_lt_mul_of_pos_right (hlt a (List.mem_cons_self ..)) (by decide)
    obtain ⟨w1, w2, w3, w4⟩ := inner_word (hnb a (List.mem_cons_self ..)).1 (hnb a (List.mem_cons_self ..)).2
    have ih := scan_raw (b :: ls) fuel rest (List.cons_ne_nil _ _)
      (fun l hl => hlt l (List.mem_cons_of_mem _ hl)) (fun l hl => hnb l (List.mem_cons_of_mem _ hl))
      (Nat.le_of_succ_le_succ hf)
    have c3 : ¬ (a * 16 / 65536 % 256 :: a * 16 / 256 % 256 :: a * 16 % 256 ::
        (encLabelsRaw (b :: ls) ++ rest)).length < 3 := Nat.not_lt.mpr (Nat.le_add_left 3 _)
    simp only [encLabelsRaw, encLabel, List.cons_append, List.nil_append, scanLabels, c3, if_false,
      List.getD_cons_zero, List.getD_cons_succ, Octets.horner24 ha, w1, w2, w3, w4, decide_false,
      Bool.or_false, Bool.false_eq_true, Bool.not_true, List.drop_succ_cons, List.drop_zero, ih]

theorem decLabels_enc {ls : List Nat} (h : LabelsWF ls) (rest : Bytes) :
    decLabels true (encLabels ls ++ rest) = some ls := by
  rcases h with rfl | ⟨hne, hlt, hnb⟩
  · have c : ¬ (rest.length + 1 + 1 + 1 < 3) := Nat.not_lt.mpr (Nat.le_add_left 3 _)
    simp [decLabels, encLabels, WITHDRAW_LABEL, scanLabels, c]
  · have hl : ls.length ≤ (encLabelsRaw ls ++ rest).length := by
      rw [List.length_append, encLabelsRaw_length]; omega
    simp only [decLabels, encLabels, no_withdraw_of_lt hlt, Bool.false_eq_true, if_false,
      scan_raw ls _ rest hne hlt hnb hl]

def RDWF : RD → Prop
  | .as2 a b => a < 65536 ∧ b < 4294967296
  | .ip4 a b => a < 4294967296 ∧ b < 65536
  | .as4 a b => a < 4294967296 ∧ b < 65536
  | .unknown t v => 3 ≤ t ∧ t < 65536 ∧ v.length = 6

theorem encRD_length {rd : RD} (h : RDWF rd) : (encRD rd).length = 8 := by
  cases rd with
  | as2 a b => rfl
  | ip4 a b => rfl
  | as4 a b => rfl
  | unknown t v =>
    rw [encRD, List.length_append, be16_length, List.length_append, List.length_take,
      List.length_replicate, h.2.2]; rfl

theorem decRD_enc {rd : RD} (h : RDWF rd) (rest : Bytes) : decRD (encRD rd ++ rest) = rd := by
  cases rd with
  | as2 a b =>
    simp only [decRD, encRD, List.append_assoc, rd16_be16 0 (by decide), if_true]
    simp only [drop_be16, List.drop_zero, rd16_be16 a h.1, rd32_be32 b h.2]
  | ip4 a b =>
    simp only [decRD, encRD, List.append_assoc, rd16_be16 1 (by decide), Nat.reduceEqDiff, if_false,
      if_true]
    simp only [drop_be16, drop_be32, List.drop_zero, rd32_be32 a h.1, rd16_be16 b h.2]
  | as4 a b =>
    simp only [decRD, encRD, List.append_assoc, rd16_be16 2 (by decide), Nat.reduceEqDiff, if_false,
      if_true]
    simp only [drop_be16, drop_be32, List.drop_zero, rd32_be32 a h.1, rd16_be16 b h.2]
  | unknown t v =>
    obtain ⟨h3, ht, hv⟩ := h
    have c0 : ¬ t = 0 := Nat.ne_of_gt (Nat.lt_of_lt_of_le (by decide) h3)
    have c1 : ¬ t = 1 := Nat.ne_of_gt (Nat.lt_of_lt_of_le (by decide) h3)
    have c2 : ¬ t = 2 := Nat.ne_of_gt (Nat.lt_of_lt_of_le (by decide) h3)
    simp only [decRD, encRD, hv, Nat.sub_self, List.replicate, List.append_nil,
      List.take_of_length_le (Nat.le_of_eq hv), List.append_assoc, rd16_be16 t ht, c0, c1, c2, if_false,
      drop_be16, List.drop_zero, List.take_left' hv]

def kindOf : NlriX → Kind
  | .ip _ => .ip
  | .labelled _ _ => .labelled
  | .vpn _ _ _ => .vpn

/-- what the constructors build for address width w: masked prefix of at most 8w bits, a label
    stack Serialize and Decode agree on, an RD with in-range fields, and a total bit length that
    fits the one-octet length field -/
def NlriXWF (w : Nat) : NlriX → Prop
  | .ip p => p.wfW w = true
  | .labelled ls p => LabelsWF ls ∧ p.wfW w = true ∧ 8 * labelsLen ls + p.bits ≤ 255
  | .vpn ls rd p => LabelsWF ls ∧ RDWF rd ∧ p.wfW w = true ∧ 8 * (labelsLen ls + 8) + p.bits ≤ 255

theorem byteLen_add (k bits : Nat) : byteLen (8 * k + bits) = k + byteLen bits := by
  rw [byteLen, Nat.add_assoc, Nat.mul_add_div (by decide)]; rfl

theorem encNlriX_length {w : Nat} {n : NlriX} (h : NlriXWF w n) :
    (encNlriX n).length = nlriXLen n := by
  cases n with
  | ip p => exact encPrefix_lengthW h
  | labelled ls p =>
    obtain ⟨hl, hp, hb⟩ := h
    have h7 : p.bits + 7 < 256 := by unfold labelsLen at hb; have := labelsWF_length_ne_zero hl; omega
    rw [encNlriX, nlriXLen, List.length_cons, List.length_append, encLabels_length hl,
      serPrefix_length hp, Nat.mod_eq_of_lt (Nat.lt_of_le_of_lt (Nat.le_add_right ..) h7),
      Nat.mod_eq_of_lt h7, Nat.add_comm, Nat.add_assoc]; rfl
  | vpn ls rd p =>
    obtain ⟨hl, hr, hp, hb⟩ := h
    have hbits : p.bits < 256 := by omega
    rw [encNlriX, nlriXLen, List.length_cons, List.length_append, List.length_append,
      encLabels_length hl, encRD_length hr, serPrefix_length hp, Nat.mod_eq_of_lt hbits, Nat.add_comm,
      Nat.add_assoc, Nat.add_assoc]; rfl

theorem decNlriX_enc {w : Nat} (hw : w ≤ 16) {n : NlriX} (h : NlriXWF w n) (rest : Bytes) :
    decNlriX (kindOf n) w (encNlriX n ++ rest) = some n := by
  cases n with
  | ip p =>
    simp only [kindOf, decNlriX, encNlriX, decPrefixW_enc hw h rest, Option.map]
  | labelled ls p =>
    obtain ⟨hl, hp, hb⟩ := h
    have h1 := encLabels_length hl
    have hlen : (encLabels ls ++ serPrefix p).length = byteLen (8 * labelsLen ls + p.bits) := by
      rw [List.length_append, h1, serPrefix_length hp, byteLen_add]
    have c2 : ¬ (encLabels ls ++ serPrefix p).length < labelsLen ls := not_short (Nat.le_of_eq h1.symm) _
    have hbits : p.bits < 256 := Nat.lt_succ_of_le (Nat.le_trans (Nat.le_add_left ..) hb)
    have hd := decodePrefixW_ser hp []
    rw [List.append_nil] at hd
    simp only [kindOf, decNlriX, encNlriX, List.cons_append, decLabelled,
      Nat.mod_eq_of_lt (Nat.lt_succ_of_le hb), if_neg (not_short (Nat.le_of_eq hlen.symm) rest),
      List.take_left' hlen, decLabels_enc hl (serPrefix p), labelsWF_length_ne_zero hl,
      Nat.not_lt.mpr (Nat.le_add_right ..), c2, if_false, List.drop_left' h1,
      Nat.add_sub_cancel_left, Nat.mod_eq_of_lt hbits, hd]
  | vpn ls rd p =>
    obtain ⟨hl, hrd, hp, hb⟩ := h
    have h1 := encLabels_length hl
    have h3 := encRD_length hrd
    have hlen : (encLabels ls ++ (encRD rd ++ serPrefix p)).length =
        byteLen (8 * (labelsLen ls + 8) + p.bits) := by
      rw [List.length_append, List.length_append, h1, h3, serPrefix_length hp, byteLen_add,
        Nat.add_assoc]
    have c2 : ¬ (encLabels ls ++ (encRD rd ++ serPrefix p)).length < labelsLen ls + 8 := by
      rw [List.length_append, List.length_append, h1, h3, ← Nat.add_assoc]
      exact Nat.not_lt.mpr (Nat.le_add_right ..)
    have hbits : p.bits < 256 := Nat.lt_succ_of_le (Nat.le_trans (Nat.le_add_left ..) hb)
    have hr : (8 * (labelsLen ls + 8) + p.bits + 256 - 8 * (labelsLen ls + 8)) % 256 = p.bits := by
      rw [Nat.add_assoc, Nat.add_sub_cancel_left, Nat.add_mod_right, Nat.mod_eq_of_lt hbits]
    have hd := decodePrefixW_ser hp []
    rw [List.append_nil] at hd
    simp only [kindOf, decNlriX, encNlriX, List.cons_append, decVpn,
      Nat.mod_eq_of_lt (Nat.lt_succ_of_le hb), if_neg (not_short (Nat.le_of_eq hlen.symm) rest),
      List.take_left' hlen, decLabels_enc hl (encRD rd ++ serPrefix p),
      Nat.not_lt.mpr (Nat.le_trans (Nat.mul_le_mul_left 8 (Nat.le_add_right ..)) (Nat.le_add_right ..)),
      c2, if_false, List.drop_left' h1, List.drop_left' h3, hr, hd, decRD_enc hrd (serPrefix p)]

def PathNlriXWF (ap : Bool) (k : Kind) (w : Nat) (x : PathNlriX) : Prop :=
  kindOf x.n = k ∧ NlriXWF w x.n ∧ x.id < 4294967296 ∧ (ap = false → x.id = 0)

/-- octets one PathNLRI occupies: 4 for the path id when ADD-PATH is on, plus the NLRI's Len() -/
def pathNlriXLen (ap : Bool) (x : PathNlriX) : Nat := (if ap then 4 else 0) + nlriXLen x.n

def sumPathLens (ap : Bool) : List PathNlriX → Nat
  | [] => 0
  | x :: xs => pathNlriXLen ap x + sumPathLens ap xs

theorem encPathNlriX_length {ap : Bool} {k : Kind} {w : Nat} {x : PathNlriX}
    (h : PathNlriXWF ap k w x) : (encPathNlriX ap x).length = pathNlriXLen ap x := by
  rw [encPathNlriX, pathId_length, encNlriX_length h.2.1, pathNlriXLen]

theorem encPathNlrisX_length {ap : Bool} {k : Kind} {w : Nat} :
    ∀ xs : List PathNlriX, (∀ x ∈ xs, PathNlriXWF ap k w x) →
      (encPathNlrisX ap xs).length = sumPathLens ap xs
  | [], _ => rfl
  | x :: xs, h => by
    rw [encPathNlrisX, List.length_append, encPathNlriX_length (h x (List.mem_cons_self ..)),
      encPathNlrisX_length xs (fun y hy => h y (List.mem_cons_of_mem _ hy)), sumPathLens]

theorem nlriXLen_ne_zero (n : NlriX) : nlriXLen n ≠ 0 := by
  cases n <;> simp only [nlriXLen, prefixLen] <;> omega

theorem decNlriLoop_enc {ap : Bool} {k : Kind} {w : Nat} (hw : w ≤ 16) (xs : List PathNlriX)
    (fuel : Nat) (h : ∀ x ∈ xs, PathNlriXWF ap k w x) (hf : (encPathNlrisX ap xs).length ≤ fuel) :
    decNlriLoop ap k w fuel (encPathNlrisX ap xs) = some xs := by
  induction xs generalizing fuel with
  | nil => cases fuel <;> rfl
  | cons x xs ih =>
    obtain ⟨hk, hn, hid, hid0⟩ := h x (List.mem_cons_self ..)
    have hl := encPathNlriX_length (h x (List.mem_cons_self ..))
    have hne : pathNlriXLen ap x ≠ 0 :=
      Nat.ne_of_gt (Nat.lt_of_lt_of_le (Nat.pos_of_ne_zero (nlriXLen_ne_zero x.n)) (Nat.le_add_left ..))
    obtain ⟨c0, _, _⟩ := frame hl hne (encPathNlrisX ap xs)
    rw [encPathNlrisX, List.length_append, hl] at hf
    obtain ⟨fuel, rfl, hf'⟩ := fuel_step hne hf
    obtain ⟨_, c, e⟩ := frame (encNlriX_length hn) (nlriXLen_ne_zero x.n) (encPathNlrisX ap xs)
    rw [encPathNlrisX, decNlriLoop, if_neg c0, encPathNlriX, List.append_assoc]
    simp only [rdPathId_append hid hid0, ← hk, decNlriX_enc hw hn, c, if_false, e,
      hk ▸ ih fuel (fun y hy => h y (List.mem_cons_of_mem _ hy)) hf']

/-- the next hops Serialize and Decode agree on: an IPv4 address for an AFI other than IPv6, or a
    16-octet address alone or followed by a link-local one -/
def NexthopWF (afi : Nat) (nh ll : Bytes) : Prop :=
  (nh.length = 4 ∧ afi ≠ 2 ∧ ll = []) ∨
  (nh.length = 16 ∧ (ll = [] ∨ (ll.length = 16 ∧ isLinkLocal ll = true)))

/-- the zero route distinguisher in front of each next-hop address of a VPN family -/
def nhPad (safi : Nat) : Bytes := if safi = 128 then List.replicate 8 0 else []

theorem nhPad_length (safi : Nat) : (nhPad safi).length = if safi = 128 then 8 else 0 := by
  rw [nhPad]; split <;> rfl

theorem as16_self {a : Bytes} (h : a.length = 16) : as16 a = a := by rw [as16, h]; rfl

theorem isLinkLocal_nil : isLinkLocal [] = false := rfl

theorem encNexthop_eq {afi safi : Nat} {nh ll : Bytes} (h : NexthopWF afi nh ll)
    (hs : safi ≠ 133 ∧ safi ≠ 134) :
    encNexthop afi safi nh ll = nhPad safi ++ nh ++ (if ll = [] then [] else nhPad safi ++ ll) := by
  have pad (L : List Bytes) : (if safi = 133 ∨ safi = 134 then [] else
      if safi = 128 then L.flatMap (fun a => List.replicate 8 0 ++ a) else L.flatMap id) =
      L.flatMap (nhPad safi ++ ·) := by
    rw [if_neg (not_or.mpr hs), nhPad]; split <;> rfl
  simp only [encNexthop, pad]
  -- what is left is the list of addresses Serialize collects: `[nh]` or `[nh, ll]`
  rcases h with ⟨h4, ha, rfl⟩ | ⟨h16, rfl | ⟨hl, hll⟩⟩
  · simp [h4, ha]
  · simp [h16, as16_self h16, isLinkLocal_nil]
  · have hne : ll ≠ [] := fun e => by rw [e] at hl; cases hl
    simp [h16, as16_self h16, as16_self hl, hll, hne]

/-- the forms 4 / 16 / 32 and, with the zero RDs, 12 / 24 / 48 -/
theorem nexthop_roundtrip {afi safi : Nat} {nh ll : Bytes} (h : NexthopWF afi nh ll)
    (hs : safi ≠ 133 ∧ safi ≠ 134) :
    (encNexthop afi safi nh ll).length < 256 ∧ (encNexthop afi safi nh ll).length ≠ 0 ∧
    decNexthop safi (encNexthop afi safi nh ll).length (encNexthop afi safi nh ll) = some (nh, ll) := by
  rw [encNexthop_eq h hs]
  have hp : nhPad safi = [] ∨ (nhPad safi).length = 8 := by
    rw [nhPad]; split
    · exact .inr rfl
    · exact .inl rfl
  generalize nhPad safi = p at hp
  rcases h with ⟨h4, -, rfl⟩ | ⟨h16, rfl | ⟨hl, -⟩⟩
  · have t := List.take_of_length_le (Nat.le_of_eq h4)
    rcases hp with rfl | hp
    · simp [decNexthop, h4, t]
    · simp [decNexthop, h4, hp, t]
  · have t := List.take_of_length_le (Nat.le_of_eq h16)
    rcases hp with rfl | hp
    · simp [decNexthop, h16, t]
    · simp [decNexthop, h16, hp, t]
  · have hne : ll ≠ [] := fun e => by rw [e] at hl; cases hl
    have t := List.take_of_length_le (Nat.le_of_eq hl)
    rcases hp with rfl | hp
    · simp [decNexthop, h16, hl, hne, t]
    · have e24 : (p ++ (nh ++ (p ++ ll))).take 24 = p ++ nh := by
        rw [← List.append_assoc]; exact List.take_left' (by rw [List.length_append, hp, h16])
      have e32 : (p ++ (nh ++ (p ++ ll))).drop 32 = ll := by
        rw [← List.append_assoc, ← List.append_assoc]
        exact List.drop_left' (by simp only [List.length_append, hp, h16])
      simp [decNexthop, h16, hl, hp, hne, t, e24, e32]

theorem famKind_w {afi safi : Nat} {k : Kind} {w : Nat} (h : famKind afi safi = some (k, w)) :
    w ≤ 16 ∧ safi ≠ 133 ∧ safi ≠ 134 := by
  unfold famKind at h
  split at h
  · cases h
  · by_cases h1 : safi = 1 ∨ safi = 2
    · simp [h1] at h; obtain ⟨_, hw⟩ := h; subst hw; split <;> omega
    · by_cases h2 : safi = 4
      · simp [h2] at h; obtain ⟨_, hw⟩ := h; subst hw; split <;> omega
      · by_cases h3 : safi = 128 ∨ safi = 129
        · simp [h1, h2, h3] at h; obtain ⟨_, hw⟩ := h; subst hw; split <;> omega
        · simp [h1, h2, h3] at h

def MpUnreachWF (o : OptsX) (u : MpUnreach) : Prop :=
  u.afi < 65536 ∧ u.safi < 256 ∧ apRxFor o u.afi u.safi = apTxFor o u.afi u.safi ∧
  (∃ k w, famKind u.afi u.safi = some (k, w) ∧
    ∀ x ∈ u.nlri, PathNlriXWF (apTxFor o u.afi u.safi) k w x) ∧
  HdrWF 15 u.flags u.length (encMpUnreachVal o u)

def MpReachWF (o : OptsX) (r : MpReach) : Prop :=
  r.afi < 65536 ∧ r.safi < 256 ∧ apRxFor o r.afi r.safi = apTxFor o r.afi r.safi ∧
  NexthopWF r.afi r.nh r.ll ∧
  (∃ k w, famKind r.afi r.safi = some (k, w) ∧
    ∀ x ∈ r.nlri, PathNlriXWF (apTxFor o r.afi r.safi) k w x) ∧
  HdrWF 14 r.flags r.length (encMpReachVal o r)

theorem encMpUnreachVal_length (o : OptsX) (u : MpUnreach) : (encMpUnreachVal o u).length =
    3 + (encPathNlrisX (apTxFor o u.afi u.safi) u.nlri).length := by
  rw [encMpUnreachVal, List.length_append]; rfl

theorem encMpReachVal_length (o : OptsX) (r : MpReach) : (encMpReachVal o r).length =
    5 + (encNexthop r.afi r.safi r.nh r.ll).length +
      (encPathNlrisX (apTxFor o r.afi r.safi) r.nlri).length := by
  simp only [encMpReachVal, List.length_append, be16_length, List.length_cons, List.length_nil]
  omega

/-- ADD-PATH enters only through the NLRI loop: the value decodes as soon as the loop, run with the
    receive-side bit, recovers the list written with the send-side bit -/
theorem decMpUnreachVal_of_loop {o : OptsX} {u : MpUnreach} {k : Kind} {w : Nat} (ha : u.afi < 65536)
    (hs : u.safi < 256) (hk : famKind u.afi u.safi = some (k, w))
    (hloop : decNlriLoop (apRxFor o u.afi u.safi) k w
      (encPathNlrisX (apTxFor o u.afi u.safi) u.nlri).length
      (encPathNlrisX (apTxFor o u.afi u.safi) u.nlri) = some u.nlri) :
    decMpUnreachVal o u.flags (encMpUnreachVal o u).length (encMpUnreachVal o u) =
      .ok { u with length := (encMpUnreachVal o u).length } := by
  generalize hL : encPathNlrisX (apTxFor o u.afi u.safi) u.nlri = L at hloop
  have e : encMpUnreachVal o u = be16 u.afi ++ (u.safi :: L) := by
    rw [encMpUnreachVal, Nat.mod_eq_of_lt hs, hL]; rfl
  have c0 : ¬ (be16 u.afi ++ (u.safi :: L)).length < 3 := Nat.not_lt.mpr (Nat.le_add_left 3 _)
  have g2 : (be16 u.afi ++ (u.safi :: L)).getD 2 0 = u.safi := rfl
  have d3 : (be16 u.afi ++ (u.safi :: L)).drop 3 = L := rfl
  rw [e, decMpUnreachVal, if_neg c0]
  simp only [rd16_be16 u.afi ha, g2, d3, hk, hloop]

theorem decMpUnreachVal_enc {o : OptsX} {u : MpUnreach} (h : MpUnreachWF o u) :
    decMpUnreachVal o u.flags (encMpUnreachVal o u).length (encMpUnreachVal o u) =
      .ok { u with length := (encMpUnreachVal o u).length } := by
  obtain ⟨ha, hs, hap, ⟨k, w, hk, hx⟩, _⟩ := h
  refine decMpUnreachVal_of_loop ha hs hk ?_
  rw [hap]
  exact decNlriLoop_enc (famKind_w hk).1 u.nlri _ hx (Nat.le_refl _)

theorem decMpReachVal_enc {o : OptsX} {r : MpReach} (h : MpReachWF o r) :
    decMpReachVal o r.flags (encMpReachVal o r).length (encMpReachVal o r) =
      .ok { r with length := (encMpReachVal o r).length } := by
  obtain ⟨ha, hs, hap, hnh, ⟨k, w, hk, hx⟩, _⟩ := h
  have hfw := famKind_w hk
  obtain ⟨hn256, hn0, hdn⟩ := nexthop_roundtrip (safi := r.safi) hnh hfw.2
  generalize hN : encNexthop r.afi r.safi r.nh r.ll = N at hn256 hn0 hdn
  generalize hL : encPathNlrisX (apTxFor o r.afi r.safi) r.nlri = L
  have hloop := decNlriLoop_enc hfw.1 r.nlri _ hx (Nat.le_refl _)
  rw [hL] at hloop
  have e : encMpReachVal o r = be16 r.afi ++ (r.safi :: N.length :: (N ++ (0 :: L))) := by
    simp only [encMpReachVal, hN, Nat.mod_eq_of_lt hs, Nat.mod_eq_of_lt hn256, hL, List.append_assoc,
      List.cons_append, List.nil_append]
  have c0 : ¬ (be16 r.afi ++ (r.safi :: N.length :: (N ++ (0 :: L)))).length < 3 :=
    Nat.not_lt.mpr (Nat.le_add_left 3 _)
  have g2 : (be16 r.afi ++ (r.safi :: N.length :: (N ++ (0 :: L)))).getD 2 0 = r.safi := rfl
  have d3 : (be16 r.afi ++ (r.safi :: N.length :: (N ++ (0 :: L)))).drop 3 = N.length :: (N ++ (0 :: L)) :=
    rfl
  have c1 : ¬ (N.length :: (N ++ (0 :: L))).length < 1 := Nat.not_lt.mpr (Nat.le_add_left 1 _)
  have c2 : ¬ (N.length :: (N ++ (0 :: L))).length < 1 + N.length := by
    rw [List.length_cons, List.length_append, Nat.add_comm 1]
    exact Nat.not_lt.mpr (Nat.succ_le_succ (Nat.le_add_right ..))
  have dn : (N.length :: (N ++ (0 :: L))).drop (1 + N.length) = 0 :: L := by
    rw [Nat.add_comm, List.drop_succ_cons, List.drop_left]
  have c3 : ¬ (0 :: L).length = 0 := Nat.succ_ne_zero _
  rw [e, decMpReachVal, if_neg c0]
  simp only [rd16_be16 r.afi ha, g2, d3, c1, c2, if_false, List.getD_cons_zero, List.drop_succ_cons,
    List.drop_zero, List.take_left, dn, hdn, c3, hk, hap, hloop]

theorem decAttrX_unreach_of_val {o : OptsX} {u : MpUnreach}
    (hh : HdrWF 15 u.flags u.length (encMpUnreachVal o u))
    (hd : decMpUnreachVal o u.flags (encMpUnreachVal o u).length (encMpUnreachVal o u) =
      .ok { u with length := (encMpUnreachVal o u).length }) (rest : Bytes) :
    decAttrX o (encMpUnreach o u ++ rest) = .ok (.unreach u) := by
  rw [decAttrX, encMpUnreach, decAttrHdr_enc (by decide) hh rest]
  simp only [Nat.reduceEqDiff, if_false, if_true, hh.2.1, hd]
  rw [← hh.2.1]

theorem decAttrX_encMpUnreach {o : OptsX} {u : MpUnreach} (h : MpUnreachWF o u) (rest : Bytes) :
    decAttrX o (encMpUnreach o u ++ rest) = .ok (.unreach u) :=
  decAttrX_unreach_of_val h.2.2.2.2 (decMpUnreachVal_enc h) rest

theorem decAttrX_encMpReach {o : OptsX} {r : MpReach} (h : MpReachWF o r) (rest : Bytes) :
    decAttrX o (encMpReach o r ++ rest) = .ok (.reach r) := by
  have hh := h.2.2.2.2.2
  rw [decAttrX, encMpReach, decAttrHdr_enc (by decide) hh rest]
  simp only [if_true, hh.2.1, decMpReachVal_enc h]
  rw [← hh.2.1]

end Wire
