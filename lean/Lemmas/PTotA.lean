import Model.ParseTotal
import Lemmas.Wire
/-! C05 for `Wire.parse`, `PTot.parseL` and the loops of an UPDATE: octets beyond the declared length are not read; no
    loop is stopped by its fuel; what is handed back is no larger than the input and can be re-serialised. -/
namespace PTotL
open Wire PTot

/-- The header test that `parse`, `parseL` and `parseOpen` share: `none` on a header fault, otherwise the declared
    length, the type octet and the body octets `data[19:len]`. -/
def frame (data : Bytes) : Option (Nat × Nat × Bytes) :=
  if data.length % 65536 < 19 then none
  else if data.take 16 ≠ marker then none
  else if rd16 (data.drop 16) < 19 then none
  else if rd16 (data.drop 16) > data.length then none
  else some (rd16 (data.drop 16), data.getD 18 0, (data.take (rd16 (data.drop 16))).drop 19)

theorem frame_elim {ρ : Type} (rej : ρ) (k : Nat → Nat → Bytes → ρ) (bs : Bytes) :
    (if bs.length % 65536 < 19 then rej
     else if bs.take 16 ≠ marker then rej
     else if rd16 (bs.drop 16) < 19 then rej
     else if rd16 (bs.drop 16) > bs.length then rej
     else k (rd16 (bs.drop 16)) (bs.getD 18 0) ((bs.take (rd16 (bs.drop 16))).drop 19)) =
    match frame bs with
    | none => rej
    | some (len, typ, body) => k len typ body := by
  unfold frame
  by_cases h1 : bs.length % 65536 < 19
  · rw [if_pos h1, if_pos h1]
  rw [if_neg h1, if_neg h1]
  by_cases h2 : bs.take 16 ≠ marker
  · rw [if_pos h2, if_pos h2]
  rw [if_neg h2, if_neg h2]
  by_cases h3 : rd16 (bs.drop 16) < 19
  · rw [if_pos h3, if_pos h3]
  rw [if_neg h3, if_neg h3]
  by_cases h4 : rd16 (bs.drop 16) > bs.length
  · rw [if_pos h4, if_pos h4]
  rw [if_neg h4, if_neg h4]

theorem parse_frame (o : Opts) (bs : Bytes) :
    parse o bs = match frame bs with
      | none => .reject
      | some (len, typ, body) =>
        match decBody o typ body with
        | .ok b => .ok ⟨len, typ, b⟩
        | .reject => .reject
        | .unmodelled => .unmodelled :=
  (frame_elim _ _ bs).symm ▸ rfl

theorem parseL_frame (o : Opts) (bs : Bytes) :
    parseL o bs = match frame bs with
      | none => .reject
      | some (len, typ, body) =>
        if typ = 2 then
          match decUpdateL o body with
          | none => .unmodelled
          | some none => .reject
          | some (some (u, e)) => .msg ⟨len, typ, .update u⟩ e
        else
          match decBody o typ body with
          | .ok b => .msg ⟨len, typ, .other b⟩ none
          | .reject => .reject
          | .unmodelled => .unmodelled :=
  (frame_elim _ _ bs).symm ▸ rfl

theorem parseOpen_frame (bs : Bytes) :
    parseOpen bs = match frame bs with
      | none => .error .reject
      | some (_, typ, body) => if typ ≠ 1 then .error .reject else decOpen body := by
  refine Eq.trans ?_ (frame_elim _ _ bs)
  unfold parseOpen
  -- `parseOpen` tests the type before the length; both faults give the same answer
  by_cases hl : rd16 (bs.drop 16) > bs.length
  · simp only [if_pos hl, ite_self]
  · simp only [if_neg hl]

theorem frame_some {bs body : Bytes} {len typ : Nat} (h : frame bs = some (len, typ, body)) :
    19 ≤ len ∧ len ≤ bs.length ∧ len = rd16 (bs.drop 16) ∧ typ = bs.getD 18 0 ∧
    body = (bs.take len).drop 19 := by
  unfold frame at h
  by_cases h1 : bs.length % 65536 < 19
  · rw [if_pos h1] at h; cases h
  by_cases h2 : bs.take 16 ≠ marker
  · rw [if_neg h1, if_pos h2] at h; cases h
  by_cases h3 : rd16 (bs.drop 16) < 19
  · rw [if_neg h1, if_neg h2, if_pos h3] at h; cases h
  by_cases h4 : rd16 (bs.drop 16) > bs.length
  · rw [if_neg h1, if_neg h2, if_neg h3, if_pos h4] at h; cases h
  rw [if_neg h1, if_neg h2, if_neg h3, if_neg h4] at h
  cases h
  exact ⟨Nat.le_of_not_lt h3, Nat.le_of_not_lt h4, rfl, rfl, rfl⟩

theorem frame_body_le {bs body : Bytes} {len typ : Nat} (h : frame bs = some (len, typ, body)) :
    body.length + 19 ≤ bs.length := by
  obtain ⟨h19, hle, _, _, hb⟩ := frame_some h
  rw [hb, List.length_drop, List.length_take]
  omega

theorem rd16_append (a b : Bytes) (h : 2 ≤ a.length) : rd16 (a ++ b) = rd16 a := by
  match a, h with
  | x :: y :: t, _ => rfl

theorem frame_of_decl (bs : Bytes) (h19 : 19 ≤ rd16 (bs.drop 16)) (hdecl : rd16 (bs.drop 16) ≤ bs.length)
    (h64 : bs.length < 65536) :
    frame bs = if bs.take 16 ≠ marker then none
      else some (rd16 (bs.drop 16), bs.getD 18 0, (bs.take (rd16 (bs.drop 16))).drop 19) := by
  unfold frame
  rw [Nat.mod_eq_of_lt h64, if_neg (Nat.not_lt.mpr (Nat.le_trans h19 hdecl)), if_neg (Nat.not_lt.mpr h19),
    if_neg (Nat.not_lt.mpr hdecl)]

theorem frame_append (bs extra : Bytes)
    (h19 : 19 ≤ rd16 (bs.drop 16)) (hdecl : rd16 (bs.drop 16) ≤ bs.length)
    (h64 : (bs ++ extra).length < 65536) : frame (bs ++ extra) = frame bs := by
  have hl : (bs ++ extra).length = bs.length + extra.length := List.length_append
  have h1 : (bs ++ extra).take 16 = bs.take 16 := List.take_append_of_le_length (by omega)
  have h2 : rd16 ((bs ++ extra).drop 16) = rd16 (bs.drop 16) := by
    rw [List.drop_append_of_le_length (by omega)]
    exact rd16_append _ _ (by rw [List.length_drop]; omega)
  have h3 : (bs ++ extra).getD 18 0 = bs.getD 18 0 := by
    simp only [List.getD, List.getElem?_append_left (show 18 < bs.length by omega)]
  have h4 : (bs ++ extra).take (rd16 (bs.drop 16)) = bs.take (rd16 (bs.drop 16)) :=
    List.take_append_of_le_length hdecl
  rw [frame_of_decl (bs ++ extra) (h2 ▸ h19) (by rw [h2]; omega) h64,
    frame_of_decl bs h19 hdecl (by omega), h1, h2, h3, h4]

theorem take_decl (bs : Bytes)
    (h19 : 19 ≤ rd16 (bs.drop 16)) (hdecl : rd16 (bs.drop 16) ≤ bs.length) :
    rd16 ((bs.take (rd16 (bs.drop 16))).drop 16) = rd16 (bs.drop 16) ∧
    (bs.take (rd16 (bs.drop 16))).length = rd16 (bs.drop 16) := by
  have hlen : (bs.take (rd16 (bs.drop 16))).length = rd16 (bs.drop 16) := by
    rw [List.length_take]; omega
  refine ⟨?_, hlen⟩
  generalize hn : rd16 (bs.drop 16) = n at *
  have hsplit : bs = bs.take n ++ bs.drop n := (List.take_append_drop n bs).symm
  have : bs.drop 16 = (bs.take n).drop 16 ++ bs.drop n := by
    conv => lhs; rw [hsplit]
    exact List.drop_append_of_le_length (by omega)
  rw [← rd16_append ((bs.take n).drop 16) (bs.drop n) (by rw [List.length_drop]; omega), ← this]
  exact hn

theorem frame_prefix_irrelevant (bs extra : Bytes)
    (h19 : 19 ≤ rd16 (bs.drop 16)) (hdecl : rd16 (bs.drop 16) ≤ bs.length)
    (h64 : (bs ++ extra).length < 65536) :
    frame (bs ++ extra) = frame bs ∧ frame bs = frame (bs.take (rd16 (bs.drop 16))) := by
  refine ⟨frame_append bs extra h19 hdecl h64, ?_⟩
  obtain ⟨ht, htl⟩ := take_decl bs h19 hdecl
  have hl : (bs ++ extra).length = bs.length + extra.length := List.length_append
  -- `bs` is its declared-length prefix followed by further octets
  have := frame_append (bs.take (rd16 (bs.drop 16))) (bs.drop (rd16 (bs.drop 16)))
    (by rw [ht]; exact h19) (by rw [ht, htl]; exact Nat.le_refl _)
    (by rw [List.take_append_drop]; omega)
  rw [List.take_append_drop] at this
  exact this

/-- a 23-octet UPDATE followed by 3 foreign octets: hypotheses hold, the tail is not read -/
example :
    let bs : Bytes := List.replicate 16 255 ++ [0, 23, 2, 0, 0, 0, 0]
    let extra : Bytes := [9, 9, 9]
    19 ≤ rd16 (bs.drop 16) ∧ rd16 (bs.drop 16) ≤ bs.length ∧ (bs ++ extra).length < 65536 := by
  decide

example :
    parse ⟨false, false, false, false⟩ (List.replicate 16 255 ++ [0, 23, 2, 0, 0, 0, 0] ++ [9, 9, 9])
      = .ok ⟨23, 2, .update ⟨0, [], 0, [], []⟩⟩ := by
  decide

/-- A fuelled loop does not depend on the fuel once it reaches the measure `μ` of the state, if one turn calls the
    loop only on states of smaller measure: that is `hs`, a turn with fuel `f + 1` and one with `g + 1` agree as soon
    as the loops with `f` and `g` agree on all such states.  `I` is an invariant the turns may rely on. -/
theorem fuel_indep_inv {σ ρ : Type} {loop : Nat → σ → ρ} {μ : σ → Nat} {I : σ → Prop}
    (h0 : ∀ f s, μ s = 0 → loop (f + 1) s = loop 0 s)
    (hs : ∀ f g s, I s → (∀ s', I s' → μ s' < μ s → loop f s' = loop g s') →
      loop (f + 1) s = loop (g + 1) s) :
    ∀ f g s, I s → μ s ≤ f → μ s ≤ g → loop f s = loop g s := by
  intro f
  induction f with
  | zero =>
    intro g s _ hf _
    cases g with
    | zero => rfl
    | succ g => exact (h0 g s (Nat.le_zero.mp hf)).symm
  | succ f ih =>
    intro g s hi hf hg
    cases g with
    | zero => exact h0 f s (Nat.le_zero.mp hg)
    | succ g => exact hs f g s hi (fun s' hi' hlt => ih g s' hi' (by omega) (by omega))

theorem fuel_indep {σ ρ : Type} {loop : Nat → σ → ρ} {μ : σ → Nat}
    (h0 : ∀ f s, μ s = 0 → loop (f + 1) s = loop 0 s)
    (hs : ∀ f g s, (∀ s', μ s' < μ s → loop f s' = loop g s') → loop (f + 1) s = loop (g + 1) s) :
    ∀ f g s, μ s ≤ f → μ s ≤ g → loop f s = loop g s :=
  fun f g s => fuel_indep_inv (I := fun _ => True) h0 (fun f g s _ ih => hs f g s fun s' => ih s' trivial)
    f g s trivial

theorem fuel_indep_ctr {α ρ : Type} {loop : Nat → Nat → α → ρ} {I : α → Prop}
    (h0 : ∀ f a, loop (f + 1) 0 a = loop 0 0 a)
    (hs : ∀ f g n a, I a → (∀ n' a', I a' → n' < n → loop f n' a' = loop g n' a') →
      loop (f + 1) n a = loop (g + 1) n a)
    {f g n : Nat} (a : α) (hi : I a) (hf : n ≤ f) (hg : n ≤ g) : loop f n a = loop g n a :=
  fuel_indep_inv (loop := fun f (s : Nat × α) => loop f s.1 s.2) (μ := (·.1)) (I := fun s => I s.2)
    (fun f ⟨_, a⟩ (h : _ = 0) => h ▸ h0 f a) (fun f g ⟨n, a⟩ hi ih => hs f g n a hi fun n' a' => ih (n', a'))
    f g (n, a) hi hf hg

theorem ite_else_congr {α : Type} {c : Prop} [Decidable c] {x a b : α} (h : ¬ c → a = b) :
    (if c then x else a) = if c then x else b :=
  ite_congr rfl (fun _ => rfl) h

theorem rdPathId_len {ap : Bool} {d d1 : Bytes} {id : Nat} (h : rdPathId ap d = some (id, d1)) :
    d1.length + (if ap then 4 else 0) = d.length := by
  unfold rdPathId at h
  cases ap with
  | false => cases h; rfl
  | true =>
    rw [if_pos rfl] at h
    split at h
    · cases h
    · cases h; rw [List.length_drop, if_pos rfl]; omega

theorem segLen_ge (s : Seg) : 2 ≤ segLen s := by unfold segLen; omega
theorem lattrLen_ge (a : LAttr) : 3 ≤ a.len := by
  cases a with
  | full a => exact attrLen_ge a
  | half f t l => simp only [LAttr.len]; split <;> omega

theorem decWithdrawn_fuel (ap : Bool) {f g rl : Nat} (d : Bytes) (hf : rl ≤ f) (hg : rl ≤ g) :
    decWithdrawn ap f rl d = decWithdrawn ap g rl d := by
  refine fuel_indep_ctr (I := fun _ => True) (fun _ _ => rfl) (fun f g rl d _ ih => ?_)
    d trivial hf hg
  simp only [decWithdrawn]
  refine ite_else_congr fun _ => ?_
  split
  · rfl
  split
  · rfl
  rename_i w _
  refine ite_else_congr fun _ => ?_
  refine ite_else_congr fun _ => ?_
  have := prefixLen_pos w
  rw [ih _ _ trivial (show rl - _ < rl by omega)]

theorem decNlriTail_fuel (ap : Bool) {f g : Nat} (d : Bytes) (hf : d.length ≤ f) (hg : d.length ≤ g) :
    decNlriTail ap f d = decNlriTail ap g d := by
  refine fuel_indep (loop := decNlriTail ap) (μ := List.length) ?_ ?_ f g d hf hg
  · intro f d h
    simp only [decNlriTail, h, if_true]
  · intro f g d ih
    simp only [decNlriTail]
    refine ite_else_congr fun _ => ?_
    split
    · rfl
    rename_i d1 hr
    split
    · rfl
    rename_i w _
    refine ite_else_congr fun _ => ?_
    refine ite_else_congr fun _ => ?_
    have := prefixLen_pos w
    have := rdPathId_len hr
    rw [ih _ (by rw [List.length_drop]; omega)]

theorem validateAsLoop_fuel (w4 : Bool) {f g : Nat} (d : Bytes) (hf : d.length ≤ f) (hg : d.length ≤ g) :
    validateAsLoop w4 f d = validateAsLoop w4 g d := by
  refine fuel_indep (loop := validateAsLoop w4) (μ := List.length) ?_ ?_ f g d hf hg
  · intro f d h
    simp only [validateAsLoop, h, if_true, decide_true]
  · intro f g d ih
    simp only [validateAsLoop]
    refine ite_else_congr fun _ => ?_
    refine ite_else_congr fun _ => ?_
    refine ite_else_congr fun _ => ?_
    refine ite_else_congr fun _ => ?_
    refine ite_else_congr fun _ => ?_
    rw [ih _ (by rw [List.length_drop, List.length_drop]; omega)]

theorem decSegs_fuel (w4 : Bool) {f g : Nat} (v : Bytes) (hf : v.length ≤ f) (hg : v.length ≤ g) :
    decSegs w4 f v = decSegs w4 g v := by
  refine fuel_indep (loop := decSegs w4) (μ := List.length) ?_ ?_ f g v hf hg
  · intro f v h
    simp only [decSegs, h, if_true]
  · intro f g v ih
    simp only [decSegs]
    refine ite_else_congr fun _ => ?_
    split
    · rfl
    rename_i s _
    refine ite_else_congr fun _ => ?_
    have := segLen_ge s
    rw [ih _ (by rw [List.length_drop]; omega)]

/-- a turn of either attribute loop past its two length tests, on data shorter than 2^16: `uint16(n)` did not wrap -/
theorem attr_turn {n pl dl : Nat} (h1 : ¬ n % 65536 > pl) (h2 : ¬ dl < n) (hd : dl < 65536) (hn : 3 ≤ n) :
    n % 65536 = n ∧ n ≤ pl ∧ n ≤ dl ∧ dl - n < 65536 ∧ pl - n % 65536 < pl := by
  have hm : n % 65536 = n := Nat.mod_eq_of_lt (by omega)
  rw [hm] at h1 ⊢
  omega

/-- the lenient loop makes the two tests in one Boolean -/
theorem or_test {p q : Prop} [Decidable p] [Decidable q] (h : ¬ (decide p || decide q) = true) : ¬ p ∧ ¬ q := by
  simpa only [Bool.or_eq_true, decide_eq_true_eq, not_or] using h

theorem decAttrs_fuel (o : Opts) {f g pl : Nat} (d : Bytes) (hf : pl ≤ f) (hg : pl ≤ g)
    (hd : d.length < 65536) : decAttrs o f pl d = decAttrs o g pl d := by
  refine fuel_indep_ctr (I := fun d => d.length < 65536) (fun _ _ => rfl)
    (fun f g pl d hd ih => ?_) d hd hf hg
  simp only [decAttrs]
  refine ite_else_congr fun _ => ?_
  refine ite_else_congr fun _ => ?_
  refine ite_else_congr fun _ => ?_
  split
  · rfl
  · rfl
  rename_i a _
  refine ite_else_congr fun h1 => ?_
  refine ite_else_congr fun h2 => ?_
  obtain ⟨_, _, _, hd', hpl⟩ := attr_turn h1 h2 hd (attrLen_ge a)
  rw [ih _ _ (List.length_drop ▸ hd') hpl]

theorem decAttrsL_fuel (o : Opts) {f g pl : Nat} (d : Bytes) (cur : Option ErrH.MErr) (hf : pl ≤ f)
    (hg : pl ≤ g) (hd : d.length < 65536) : decAttrsL o f pl d cur = decAttrsL o g pl d cur := by
  refine fuel_indep_ctr (loop := fun f pl (s : Bytes × Option ErrH.MErr) => decAttrsL o f pl s.1 s.2)
    (I := fun s => s.1.length < 65536) (fun _ _ => rfl) ?_ (d, cur) hd hf hg
  intro f g pl ⟨d, cur⟩ (hd : d.length < 65536) ih
  show decAttrsL o (f + 1) pl d cur = decAttrsL o (g + 1) pl d cur
  simp only [decAttrsL]
  refine ite_else_congr fun _ => ?_
  refine ite_else_congr fun _ => ?_
  refine ite_else_congr fun _ => ?_
  split
  · rfl
  · rename_i a _
    refine ite_else_congr fun hw => ?_
    obtain ⟨_, _, _, hd', hpl⟩ := attr_turn (or_test hw).1 (or_test hw).2 hd (attrLen_ge a)
    rw [ih _ (_, _) (List.length_drop ▸ hd') hpl]
  · rename_i fl t l c s _
    refine ite_else_congr fun hw => ?_
    obtain ⟨_, _, _, hd', hpl⟩ := attr_turn (or_test hw).1 (or_test hw).2 hd (lattrLen_ge (.half fl t l))
    rw [ih _ (_, _) (List.length_drop ▸ hd') hpl]

/-- one withdrawn /24 (4 octets) decoded with far more fuel than the counter: same answer -/
example : decWithdrawn false 1000 4 [24, 10, 1, 2, 7, 7] = decWithdrawn false 4 4 [24, 10, 1, 2, 7, 7] :=
  decWithdrawn_fuel false _ (by decide) (by decide)
example : decWithdrawn false 4 4 [24, 10, 1, 2, 7, 7] = some ([⟨0, ⟨24, [10, 1, 2, 0]⟩⟩], [7, 7]) := by
  decide
/-- ORIGIN attribute, pathlen 4, data of 4 octets: hypotheses of `decAttrsL_fuel` hold -/
example : decAttrsL ⟨false, false, false, false⟩ 99 4 [64, 1, 1, 0] none
    = decAttrsL ⟨false, false, false, false⟩ 4 4 [64, 1, 1, 0] none :=
  decAttrsL_fuel _ _ none (by decide) (by decide) (by decide)

theorem decWithdrawn_count {ap : Bool} {f rl : Nat} {d : Bytes} {ws : List PathNLRI} {rest : Bytes}
    (h : decWithdrawn ap f rl d = some (ws, rest)) :
    ws.length ≤ rl ∧ ws.length + rest.length ≤ d.length := by
  revert ws rest
  fun_induction decWithdrawn ap f rl d
  all_goals intro ws rest h
  case case1 => cases h; exact ⟨Nat.le_refl _, Nat.le_of_eq (Nat.zero_add _)⟩
  case case3 => cases h; exact ⟨Nat.le_refl _, Nat.le_of_eq (Nat.zero_add _)⟩
  case case9 id d1 hr w _ wLen hw hl ws' rest' hrec ih =>
    cases h
    have := ih hrec
    have := rdPathId_len hr
    have := prefixLen_pos w
    rw [List.length_drop] at *
    rw [List.length_cons]
    omega
  all_goals cases h

theorem decNlriTail_count {ap : Bool} {f : Nat} {d : Bytes} {ns : List PathNLRI}
    (h : decNlriTail ap f d = some ns) : ns.length ≤ d.length := by
  revert ns
  fun_induction decNlriTail ap f d
  all_goals intro ns h
  case case1 => cases h; exact Nat.zero_le _
  case case3 => cases h; exact Nat.zero_le _
  case case9 id d1 hr w _ hl _ ns' hrec ih =>
    cases h
    have := ih hrec
    have := rdPathId_len hr
    have := prefixLen_pos w
    rw [List.length_drop] at *
    rw [List.length_cons]
    omega
  all_goals cases h

/-- a turn of either attribute loop takes the `n ≥ 3` octets of its attribute off the data, whether or not `uint16(n)`
    wrapped in the test against the declared length -/
theorem count_step {n dl k r : Nat} (h2 : ¬ dl < n) (hn : 3 ≤ n) (ih : k + r ≤ dl - n) : k + 1 + r ≤ dl := by
  omega

theorem decAttrsL_count {o : Opts} {f pl : Nat} {d : Bytes} {cur : Option ErrH.MErr}
    {as : List LAttr} {e : Option ErrH.MErr} {rest : Bytes}
    (h : decAttrsL o f pl d cur = .ok as e rest) : as.length + rest.length ≤ d.length := by
  revert as e rest
  fun_induction decAttrsL o f pl d cur
  all_goals intro as e rest h
  -- the loop stops and returns no attribute
  case case1 => cases h; exact Nat.le_of_eq (Nat.zero_add _)
  case case2 => cases h; exact Nat.le_of_eq (Nat.zero_add _)
  case case3 => cases h; simp
  case case6 => cases h; simp
  case case9 => cases h; simp
  -- an attribute was read and the remaining turns succeeded
  case case7 a _ hw as' _ _ hrec ih =>
    cases h
    have := @ih _ _ _ hrec
    rw [List.length_drop] at this
    exact count_step (or_test hw).2 (attrLen_ge a) this
  case case10 fl t l c s _ e0 cur' p hw as' _ _ hrec ih =>
    cases h
    have := @ih _ _ _ hrec
    rw [List.length_drop] at this
    have := count_step (or_test hw).2 (lattrLen_ge p) this
    -- a discard-class attribute is not kept
    split
    · omega
    · exact this
  case case8 hrec _ => exact (hrec _ _ _ h).elim
  case case11 hrec _ => exact (hrec _ _ _ h).elim
  all_goals cases h

theorem decAttrs_count {o : Opts} {f pl : Nat} {d : Bytes} {as : List Attr} {rest : Bytes}
    (h : decAttrs o f pl d = .ok (as, rest)) : as.length + rest.length ≤ d.length := by
  revert as rest
  fun_induction decAttrs o f pl d
  all_goals intro as rest h
  case case1 => cases h; exact Nat.le_of_eq (Nat.zero_add _)
  case case3 => cases h; exact Nat.le_of_eq (Nat.zero_add _)
  case case10 a _ pLen h1 h2 as' _ hrec ih =>
    cases h
    have := @ih _ _ hrec
    rw [List.length_drop] at this
    exact count_step h2 (attrLen_ge a) this
  all_goals cases h

theorem decUpdateL_ok {o : Opts} {data : Bytes} {u : LUpdate} {e : Option ErrH.MErr}
    (h : decUpdateL o data = some (some (u, e))) :
    ∃ d2 d4, 2 ≤ data.length ∧ 2 ≤ d2.length ∧
      decWithdrawn o.apRx (rd16 data) (rd16 data) (data.drop 2) = some (u.withdrawn, d2) ∧
      decAttrsL o (rd16 d2) (rd16 d2) (d2.drop 2) none = .ok u.attrs e d4 ∧
      decNlriTail o.apRx d4.length d4 = some u.nlri := by
  revert h
  fun_cases decUpdateL o data
  all_goals intro h
  case case9 h1 _ _ _ _ d2 hw h2 _ _ _ _ _ d4 ha _ hn =>
    cases h
    exact ⟨d2, d4, Nat.le_of_not_lt h1, Nat.le_of_not_lt h2, hw, ha, hn⟩
  all_goals cases h

theorem decUpdate_ok {o : Opts} {data : Bytes} {u : Update}
    (h : decUpdate o data = .ok u) :
    ∃ d2 d4, 2 ≤ data.length ∧ 2 ≤ d2.length ∧
      decWithdrawn o.apRx (rd16 data) (rd16 data) (data.drop 2) = some (u.withdrawn, d2) ∧
      decAttrs o (rd16 d2) (rd16 d2) (d2.drop 2) = .ok (u.attrs, d4) ∧
      decNlriTail o.apRx d4.length d4 = some u.nlri := by
  revert h
  fun_cases decUpdate o data
  all_goals intro h
  case case9 h1 _ _ _ _ d2 hw h2 _ _ _ _ d4 ha _ hn =>
    cases h
    exact ⟨d2, d4, Nat.le_of_not_lt h1, Nat.le_of_not_lt h2, hw, ha, hn⟩
  all_goals cases h

/-- an UPDATE body: the withdrawn routes, `k` attributes read from `d2[2:]` leaving `d4`, the NLRI in `d4` -/
theorem update_count {ap : Bool} {wl k : Nat} {data d2 d4 : Bytes} {ws ns : List PathNLRI}
    (h1 : 2 ≤ data.length) (h2 : 2 ≤ d2.length)
    (hw : decWithdrawn ap wl wl (data.drop 2) = some (ws, d2)) (ha : k + d4.length ≤ (d2.drop 2).length)
    (hn : decNlriTail ap d4.length d4 = some ns) : ws.length + k + ns.length + 4 ≤ data.length := by
  have c1 := decWithdrawn_count hw
  have c3 := decNlriTail_count hn
  rw [List.length_drop] at c1 ha
  omega

theorem decUpdateL_count {o : Opts} {data : Bytes} {u : LUpdate} {e : Option ErrH.MErr}
    (h : decUpdateL o data = some (some (u, e))) :
    u.withdrawn.length + u.attrs.length + u.nlri.length + 4 ≤ data.length := by
  obtain ⟨d2, d4, h1, h2, hw, ha, hn⟩ := decUpdateL_ok h
  exact update_count h1 h2 hw (decAttrsL_count ha) hn

theorem decUpdate_count {o : Opts} {data : Bytes} {u : Update}
    (h : decUpdate o data = .ok u) :
    u.withdrawn.length + u.attrs.length + u.nlri.length + 4 ≤ data.length := by
  obtain ⟨d2, d4, h1, h2, hw, ha, hn⟩ := decUpdate_ok h
  exact update_count h1 h2 hw (decAttrs_count ha) hn

theorem parseL_msg {o : Opts} {bs : Bytes} {m : LMsg} {e : Option ErrH.MErr}
    (h : parseL o bs = .msg m e) :
    ∃ body, frame bs = some (m.hlen, m.typ, body) ∧
      ((∃ u, m.body = .update u ∧ decUpdateL o body = some (some (u, e))) ∨
       (∃ b, m.body = .other b ∧ e = none ∧ decBody o m.typ body = .ok b)) := by
  rw [parseL_frame] at h
  split at h
  · cases h
  rename_i len typ body _
  refine ⟨body, ?_⟩
  split at h
  · split at h
    · cases h
    · cases h
    · rename_i u e' hu
      cases h
      exact ⟨by assumption, Or.inl ⟨u, rfl, hu⟩⟩
  · split at h
    · rename_i b hb
      cases h
      exact ⟨by assumption, Or.inr ⟨b, rfl, rfl, hb⟩⟩
    · cases h
    · cases h

theorem parse_msg {o : Opts} {bs : Bytes} {m : Msg} (h : parse o bs = .ok m) :
    ∃ body, frame bs = some (m.hlen, m.typ, body) ∧ decBody o m.typ body = .ok m.body := by
  rw [parse_frame] at h
  split at h
  · cases h
  rename_i len typ body _
  split at h
  · rename_i b hb
    cases h
    exact ⟨body, by assumption, hb⟩
  · cases h
  · cases h

theorem parseL_count {o : Opts} {bs : Bytes} {hl t : Nat} {u : LUpdate} {e : Option ErrH.MErr}
    (h : parseL o bs = .msg ⟨hl, t, .update u⟩ e) :
    u.withdrawn.length + u.attrs.length + u.nlri.length ≤ bs.length := by
  obtain ⟨body, hf, hb⟩ := parseL_msg h
  have := frame_body_le hf
  rcases hb with ⟨u', hu, hd⟩ | ⟨b, hb, _⟩
  · cases hu
    have := decUpdateL_count hd
    omega
  · cases hb

theorem decBody_update {o : Opts} {t : Nat} {d : Bytes} {u : Update}
    (h : decBody o t d = .ok (.update u)) : decUpdate o d = .ok u := by
  revert h
  fun_cases decBody o t d
  all_goals intro h
  case case2 u' hu => cases h; exact hu
  all_goals cases h

theorem parse_count {o : Opts} {bs : Bytes} {hl t : Nat} {u : Update}
    (h : parse o bs = .ok ⟨hl, t, .update u⟩) :
    u.withdrawn.length + u.attrs.length + u.nlri.length ≤ bs.length := by
  obtain ⟨body, hf, hb⟩ := parse_msg h
  have := frame_body_le hf
  have := decUpdate_count (decBody_update hb)
  omega

/-- one withdrawn /24, no attributes, one announced /8 (29 octets): three items from 29 octets -/
example :
    parseL ⟨false, false, false, false⟩
      (List.replicate 16 255 ++ [0, 29, 2, 0, 4, 24, 10, 1, 2, 0, 0, 8, 10])
      = .msg ⟨29, 2, .update ⟨4, [⟨0, ⟨24, [10, 1, 2, 0]⟩⟩], 0, [], [⟨0, ⟨8, [10, 0, 0, 0]⟩⟩]⟩⟩ none := by
  rfl
example : decAttrsL ⟨false, false, false, false⟩ 4 4 [64, 1, 1, 0, 7] none
    = .ok [.full ⟨64, 1, 1, .origin 0⟩] none [7] := by
  rfl

theorem render_total {o : Opts} {bs : Bytes} {m : LMsg} {e : Option ErrH.MErr}
    (h : parseL o bs = .msg m e) :
    19 ≤ m.hlen ∧ m.hlen ≤ bs.length ∧
    serializeL o m = some (encHeader m.hlen m.typ ++ encBodyL o m.body) := by
  obtain ⟨_, hf, _⟩ := parseL_msg h
  obtain ⟨h19, hle, _⟩ := frame_some hf
  refine ⟨h19, hle, ?_⟩
  unfold serializeL
  rw [if_neg (show ¬ m.hlen = 0 by omega)]

theorem render_total_strict {o : Opts} {bs : Bytes} {m : Msg} (h : parse o bs = .ok m) :
    19 ≤ m.hlen ∧ m.hlen ≤ bs.length ∧
    ∃ m', serialize o m = some (encHeader m.hlen m.typ ++ encBody o m.body, m') ∧
      m'.hlen = m.hlen ∧ m'.typ = m.typ := by
  obtain ⟨_, hf, _⟩ := parse_msg h
  obtain ⟨h19, hle, _⟩ := frame_some hf
  refine ⟨h19, hle, { m with body := normBody o m.body }, ?_, rfl, rfl⟩
  unfold serialize
  rw [if_neg (show ¬ m.hlen = 0 by omega)]

/-- a stored error is never session-reset class and never class-less -/
def Mild (c : Option ErrH.MErr) : Prop := ∀ e, c = some e → e.h ≠ .reset ∧ e.h ≠ .none

theorem mild_keep {cur : Option ErrH.MErr} {x : ErrH.MErr} (hc : Mild cur)
    (hx : x.h ≠ .reset ∧ x.h ≠ .none) : Mild (ErrH.keep cur x) := by
  unfold ErrH.keep
  split
  · intro e he
    cases he
    exact hx
  · exact hc

theorem attrClass_mild (t : Nat) : ErrH.attrClass t ≠ .reset ∧ ErrH.attrClass t ≠ .none := by
  unfold ErrH.attrClass
  split <;> exact ⟨by decide, by decide⟩

theorem attrErr_mild (t c s : Nat) : (attrErr t c s).h ≠ .reset ∧ (attrErr t c s).h ≠ .none := by
  unfold attrErr
  simp only
  split
  · exact ⟨by decide, by decide⟩
  · exact attrClass_mild t

theorem lenErr_mild : ErrH.lenErr.h ≠ .reset ∧ ErrH.lenErr.h ≠ .none :=
  ⟨by decide, by decide⟩

theorem decAttrsL_mild {o : Opts} {f pl : Nat} {d : Bytes} {cur : Option ErrH.MErr}
    {as : List LAttr} {e : Option ErrH.MErr} {rest : Bytes}
    (h : decAttrsL o f pl d cur = .ok as e rest) (hc : Mild cur) : Mild e := by
  revert as e rest
  fun_induction decAttrsL o f pl d cur
  all_goals intro as e rest h
  -- the loop stops, with the stored error or with a length error on top of it
  case case1 => cases h; exact hc
  case case2 => cases h; exact hc
  case case3 => cases h; exact mild_keep hc lenErr_mild
  case case6 => cases h; exact mild_keep hc lenErr_mild
  case case9 => cases h; exact mild_keep (mild_keep hc (attrErr_mild _ _ _)) lenErr_mild
  -- the remaining turns start from the stored error, with the error of a faulty attribute on top
  case case7 hrec ih => cases h; exact ih hc hrec
  case case10 hrec ih => cases h; exact ih (mild_keep hc (attrErr_mild _ _ _)) hrec
  case case8 hrec _ => exact (hrec _ _ _ h).elim
  case case11 hrec _ => exact (hrec _ _ _ h).elim
  all_goals cases h

/-- a malformed ORIGIN (length 2): the UPDATE is handed back with a treat-as-withdraw error,
    the half-decoded attribute stays in the list, and the message still serialises -/
example :
    parseL ⟨false, false, false, false⟩
      (List.replicate 16 255 ++ [0, 28, 2, 0, 0, 0, 5, 64, 1, 2, 0, 0])
      = .msg ⟨28, 2, .update ⟨0, [], 5, [.half 64 1 2], []⟩⟩ (some ⟨3, 1, .withdraw⟩) := by
  rfl
example :
    (serializeL ⟨false, false, false, false⟩
      ⟨28, 2, .update ⟨0, [], 5, [.half 64 1 2], []⟩⟩).isSome = true := by
  rfl

end PTotL
