/-
C13 — the declarative semantics `Match` of the regular expressions of Model/Regex.lean and the proof
that the executable matcher `ends` / `search` computes exactly it.
-/
import Model.Regex
namespace Regex

/-- `Match t r i j`: `r` matches the text `t` between positions `i` and `j`.
(`starS` iterates non-empty matches only; `Match.star_step` below shows the textbook rule follows.) -/
inductive Match (t : List Nat) : R → Nat → Nat → Prop where
  | eps (i : Nat) : Match t .eps i i
  | chr {s : CS} {i c : Nat} : t[i]? = some c → s.mem c = true → Match t (.chr s) i (i + 1)
  | bot : Match t .bot 0 0
  | eot : Match t .eot t.length t.length
  | cat {a b : R} {i k j : Nat} : Match t a i k → Match t b k j → Match t (.cat a b) i j
  | altl {a b : R} {i j : Nat} : Match t a i j → Match t (.alt a b) i j
  | altr {a b : R} {i j : Nat} : Match t b i j → Match t (.alt a b) i j
  | star0 {a : R} (i : Nat) : Match t (.star a) i i
  | starS {a : R} {i k j : Nat} : Match t a i k → i < k → Match t (.star a) k j → Match t (.star a) i j

theorem Match.le {t : List Nat} {r : R} {i j : Nat} (h : Match t r i j) :
    i ≤ j ∧ (i < j → j ≤ t.length) := by
  induction h with
  | eps | bot | star0 => exact ⟨Nat.le_refl _, fun h => absurd h (Nat.lt_irrefl _)⟩
  | @chr s i c h1 _ =>
    have : i < t.length := (List.getElem?_eq_some_iff.1 h1).1
    exact ⟨Nat.le_succ _, fun _ => this⟩
  | eot => exact ⟨Nat.le_refl _, fun _ => Nat.le_refl _⟩
  | cat _ _ ih1 ih2 | starS _ _ _ ih1 ih2 => exact ⟨by omega, fun h => by omega⟩
  | altl _ ih | altr _ ih => exact ih

/-- the textbook iteration rule (possibly empty iterations) is admissible -/
theorem Match.star_step {t : List Nat} {a : R} {i k j : Nat}
    (h1 : Match t a i k) (h2 : Match t (.star a) k j) : Match t (.star a) i j := by
  rcases Nat.lt_or_ge i k with h | h
  · exact .starS h1 h h2
  · have := h1.le.1
    have e : i = k := by omega
    subst e; exact h2

theorem match_eps {t : List Nat} {i j : Nat} : Match t .eps i j ↔ j = i := by
  constructor
  · intro h; cases h; rfl
  · rintro rfl; exact .eps _

theorem match_chr {t : List Nat} {s : CS} {i j : Nat} :
    Match t (.chr s) i j ↔ ∃ c, t[i]? = some c ∧ s.mem c = true ∧ j = i + 1 := by
  constructor
  · intro h; cases h with | chr hc hm => exact ⟨_, hc, hm, rfl⟩
  · rintro ⟨c, hc, hm, rfl⟩; exact .chr hc hm

theorem match_bot {t : List Nat} {i j : Nat} : Match t .bot i j ↔ i = 0 ∧ j = 0 := by
  constructor
  · intro h; cases h; exact ⟨rfl, rfl⟩
  · rintro ⟨rfl, rfl⟩; exact .bot

theorem match_eot {t : List Nat} {i j : Nat} : Match t .eot i j ↔ i = t.length ∧ j = t.length := by
  constructor
  · intro h; cases h; exact ⟨rfl, rfl⟩
  · rintro ⟨rfl, rfl⟩; exact .eot

theorem match_cat {t : List Nat} {a b : R} {i j : Nat} :
    Match t (.cat a b) i j ↔ ∃ k, Match t a i k ∧ Match t b k j := by
  constructor
  · intro h; cases h with | cat h1 h2 => exact ⟨_, h1, h2⟩
  · rintro ⟨k, h1, h2⟩; exact .cat h1 h2

theorem match_alt {t : List Nat} {a b : R} {i j : Nat} :
    Match t (.alt a b) i j ↔ Match t a i j ∨ Match t b i j := by
  constructor
  · intro h
    cases h with
    | altl h => exact .inl h
    | altr h => exact .inr h
  · rintro (h | h)
    · exact .altl h
    · exact .altr h

theorem match_star {t : List Nat} {a : R} {i j : Nat} :
    Match t (.star a) i j ↔ j = i ∨ ∃ k, (Match t a i k ∧ i < k) ∧ Match t (.star a) k j := by
  constructor
  · intro h
    cases h with
    | star0 => exact .inl rfl
    | starS h1 hlt h2 => exact .inr ⟨_, ⟨h1, hlt⟩, h2⟩
  · rintro (rfl | ⟨k, ⟨h1, hlt⟩, h2⟩)
    · exact .star0 _
    · exact .starS h1 hlt h2

/-- a non-empty iteration from `i` ends inside the text, so `t.length - i` iterations suffice -/
theorem mem_starEnds {t : List Nat} {a : R} {f : Nat → List Nat}
    (hf : ∀ i j, j ∈ f i ↔ Match t a i j) :
    ∀ fuel i j, t.length - i ≤ fuel → (j ∈ starEnds f fuel i ↔ Match t (.star a) i j) := by
  intro fuel
  induction fuel with
  | zero =>
    intro i j hl
    rw [match_star, starEnds, List.mem_singleton]
    refine ⟨.inl, fun h => h.elim id fun ⟨k, ⟨h1, hlt⟩, _⟩ => ?_⟩
    have := h1.le.2 hlt
    omega
  | succ n ih =>
    intro i j hl
    rw [match_star]
    simp only [starEnds, List.mem_cons, List.mem_eraseDups, List.mem_flatMap, List.mem_filter,
      decide_eq_true_eq, hf]
    refine or_congr Iff.rfl (exists_congr fun k => and_congr_right fun ⟨h1, hlt⟩ => ih k j ?_)
    have := h1.le.2 hlt
    omega

theorem mem_ends {t : List Nat} {r : R} {i j : Nat} : j ∈ ends t r i ↔ Match t r i j := by
  induction r generalizing i j with
  | eps => rw [match_eps, ends, List.mem_singleton]
  | chr s =>
    rw [match_chr, ends]
    cases t[i]? with
    | none => simp
    | some c => cases hm : s.mem c <;> simp [hm]
  | bot =>
    rw [match_bot, ends]
    by_cases h : i = 0 <;> simp [h]
  | eot =>
    rw [match_eot, ends]
    by_cases h : i = t.length <;> simp [h]
  | cat a b iha ihb => simp only [match_cat, ends, List.mem_eraseDups, List.mem_flatMap, iha, ihb]
  | alt a b iha ihb => simp only [match_alt, ends, List.mem_append, iha, ihb]
  | star a iha => exact mem_starEnds (fun _ _ => iha) _ _ _ (by omega)

/-- `search` (Go's `MatchString`) decides: some substring of the text matches -/
theorem search_iff {r : R} {t : List Nat} :
    search r t = true ↔ ∃ i j, i ≤ t.length ∧ Match t r i j := by
  simp only [search, List.any_eq_true, List.mem_range, Nat.lt_succ_iff, Bool.not_eq_true',
    List.isEmpty_eq_false_iff_exists_mem, mem_ends]
  exact ⟨fun ⟨i, hi, j, h⟩ => ⟨i, j, hi, h⟩, fun ⟨i, j, hi, h⟩ => ⟨i, hi, j, h⟩⟩

end Regex
