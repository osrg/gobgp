/-
  C17: VRF import / export, RT-membership history and the VRF-neighbor view step.
-/
import Lemmas.VrfRtcIdx
namespace VrfRtc

/-- CanImportToVrf ↔ some TRANSITIVE route-target-keyed community of the route is an import target -/
theorem canImport_iff (v : Vrf) (ecs : List EC) :
    canImport v ecs = true ↔ ∃ e, e ∈ ecs ∧ isTransitive e = true ∧ keyable e = true ∧ e ∈ v.imports := by
  simp only [canImport, List.any_eq_true, Bool.and_eq_true]
  refine exists_congr fun e => and_congr_right fun _ => and_congr_right fun _ => ?_
  by_cases hk : keyable e = true <;> simp [rtKey, hk]

/-- a VRF imports what it exports when one of its export targets is a transitive import target -/
theorem export_import_roundtrip (v : Vrf) (l : LPath) (e : EC) (he : e ∈ v.exports) (hi : e ∈ v.imports)
    (ht : isTransitive e = true) (hk : keyable e = true) :
    canImport v (toGlobal v l).ecs = true ∧ (toLocal (toGlobal v l)).pfx = l.pfx :=
  ⟨(canImport_iff v _).2 ⟨e, List.mem_append_right l.ecs he, ht, hk, hi⟩, rfl⟩

theorem rtm_mem_add (s : Rtm) (x m : Mem) : m ∈ s.add x ↔ m = x ∨ m ∈ s := by
  unfold Rtm.add
  split
  · exact ⟨Or.inr, fun h => h.elim (fun e => e ▸ ‹x ∈ s›) id⟩
  · exact List.mem_cons

theorem rtm_mem_sub (s : Rtm) (x m : Mem) : m ∈ s.sub x ↔ m ∈ s ∧ m ≠ x := by
  simp only [Rtm.sub, List.mem_filter, bne_iff_ne]

theorem rtm_mem_sync_self (s : Rtm) (m : Mem) (wd : Bool) : m ∈ s.sync m wd ↔ (!wd) = true := by
  cases wd
  · simp [Rtm.sync, rtm_mem_add]
  · simp [Rtm.sync, rtm_mem_sub]

theorem rtm_mem_sync_other (s : Rtm) (x m : Mem) (wd : Bool) (h : x ≠ m) :
    m ∈ s.sync x wd ↔ m ∈ s := by
  cases wd
  · simp [Rtm.sync, rtm_mem_add, Ne.symm h]
  · simp [Rtm.sync, rtm_mem_sub, Ne.symm h]

/-- the membership structure after any history from any start: an entry is present iff the last event
    about it was an announcement (or, with no event about it, it was there at the start) -/
theorem rtm_run_mem (evs : List MemEv) (s : Rtm) (m : Mem) :
    m ∈ s.run evs ↔ (match lastEv evs m with
      | some b => b = true
      | none => m ∈ s) := by
  induction evs generalizing s with
  | nil => exact Iff.rfl
  | cons e es ih =>
    show m ∈ Rtm.run (s.sync e.m e.wd) es ↔ _
    rw [ih, lastEv]
    cases lastEv es m with
    | some b => exact Iff.rfl
    | none =>
      by_cases hem : e.m = m
      · rw [if_pos hem, ← hem]
        exact rtm_mem_sync_self s e.m e.wd
      · rw [if_neg hem]
        exact rtm_mem_sync_other s e.m m e.wd hem

/-- what the VRF neighbor should hold for a destination whose best path is `o` -/
def ceExp (vr : Vrf) (o : Option VPath) : Option Nat :=
  match o with
  | some b => if canImport vr b.ecs then some b.marker else none
  | none => none

/-- the message that sets the neighbor's entry for prefix `c` -/
def LMsg.set (c : Nat) : Option Nat → LMsg
  | some m => .adv c m
  | none => .wd c

/-- `ms` brings the entry for prefix `c` from `e` to `e'` and touches no other: nothing is sent and nothing
    changes, or the one message that sets the entry is sent -/
def Moves (ms : List LMsg) (c : Nat) (e e' : Option Nat) : Prop :=
  (ms = [] ∧ e = e') ∨ ms = [LMsg.set c e']

theorem Moves.apply {ms : List LMsg} {c : Nat} {e e' : Option Nat} (h : Moves ms c e e') (v : LView)
    (hv : v c = e) : (v.apply ms) c = e' ∧ ∀ x, x ≠ c → (v.apply ms) x = v x := by
  rcases h with ⟨rfl, rfl⟩ | rfl
  · exact ⟨hv, fun _ _ => rfl⟩
  · cases e' <;> exact ⟨if_pos rfl, fun x hx => if_neg hx⟩

theorem vrfFilter_moves (vr : Vrf) (b : VPath) (isWd : Bool) (old : Option VPath) (c : Nat)
    (hb : b.pfx = c) (ho : ∀ o, old = some o → o.pfx = c) (hw : isWd = true → old = some b) :
    Moves (vrfFilter vr b isWd old) c (ceExp vr old) (if isWd then none else ceExp vr (some b)) := by
  unfold vrfFilter
  by_cases hc : canImport vr b.ecs = true
  · rw [if_pos hc, hb]
    cases isWd <;> exact Or.inr (by simp [ceExp, hc, LMsg.set])
  · rw [if_neg hc]
    rw [Bool.not_eq_true] at hc
    cases isWd with
    | true =>
      cases hw rfl
      exact Or.inl (by simp [ceExp, hc])
    | false =>
      cases old with
      | none => exact Or.inl (by simp [ceExp, hc])
      | some o =>
        by_cases hco : canImport vr o.ecs = true
        · exact Or.inr (by simp [ceExp, hc, hco, ho o rfl, LMsg.set])
        · exact Or.inl (by simp [ceExp, hc, hco])

/-- `Path.Equal`: the same object, or the same content (in particular marker and communities) -/
theorem sameAs_cases (a b : VPath) (h : a.sameAs b = true) :
    a.uid = b.uid ∨ (a.marker = b.marker ∧ a.ecs = b.ecs) := by
  unfold VPath.sameAs at h
  rw [Bool.or_eq_true] at h
  cases h with
  | inl h => exact Or.inl (by simpa using h)
  | inr h =>
    have h' := of_decide_eq_true h
    exact Or.inr ⟨(congrArg VPath.marker h' :), (congrArg VPath.ecs h' :)⟩

/-- when an update leaves a best path `Path.Equal` to the old one, a receiver sees no difference: it is the
    same object, stored or fed again, or has the same content -/
theorem update_head_sameAs (t : Tbl) (p : VPath) (wd : Bool) (h : TblWF t) (hf : wd = false → Fresh t p)
    (o b : VPath) (ho : (t.dest p.nlri).head? = some o) (hb : ((t.update p wd).dest p.nlri).head? = some b)
    (hs : b.sameAs o = true) : b.marker = o.marker ∧ b.ecs = o.ecs := by
  rcases sameAs_cases b o hs with hu | hc
  · rw [update_uid_inj t p wd h hf (List.mem_of_head? ho) (List.mem_of_head? hb) hu.symm]
    exact ⟨rfl, rfl⟩
  · exact hc

theorem ceOnTableChange_moves (vr : Vrf) (oldL newL : List VPath) (c : Nat)
    (hold : ∀ q, q ∈ oldL → q.pfx = c) (hnew : ∀ q, q ∈ newL → q.pfx = c)
    (hsame : ∀ o b, oldL.head? = some o → newL.head? = some b → b.sameAs o = true →
      b.marker = o.marker ∧ b.ecs = o.ecs) :
    Moves (ceOnTableChange vr oldL newL) c (ceExp vr oldL.head?) (ceExp vr newL.head?) := by
  have hoh : ∀ o, oldL.head? = some o → o.pfx = c := fun o h => hold o (List.mem_of_head? h)
  unfold ceOnTableChange
  cases hn : newL.head? with
  | some b =>
    simp only
    split
    · rename_i hu
      refine Or.inl ⟨rfl, ?_⟩
      cases ho : oldL.head? with
      | none => rw [ho] at hu; cases hu
      | some o =>
        rw [ho] at hu
        obtain ⟨e1, e2⟩ := hsame o b ho hn hu
        simp only [ceExp, e1, e2]
    · exact vrfFilter_moves vr b false oldL.head? c (hnew b (List.mem_of_head? hn)) hoh (fun h => nomatch h)
  | none =>
    cases ho : oldL.head? with
    | none => exact Or.inl ⟨rfl, rfl⟩
    | some o =>
      exact vrfFilter_moves vr o true (some o) c (hoh o ho) (fun _ h => Option.some.inj h ▸ hoh o ho) (fun _ => rfl)

theorem ce_table_step (t : Tbl) (vr : Vrf) (v : LView) (p : VPath) (wd : Bool)
    (h : TblWF t) (hf : wd = false → Fresh t p) (hinj : PfxInj (t.update p wd).nlris)
    (hv : CEViewOK t vr v) :
    CEViewOK (t.update p wd) vr
      (v.apply (ceOnTableChange vr (t.dest p.nlri) ((t.update p wd).dest p.nlri))) := by
  have hmem := mem_update_nlris t p wd
  have hself := (hmem p.nlri).2 (Or.inl rfl)
  have hother : ∀ n, n ∈ t.nlris → n ≠ p.nlri → n.2 ≠ p.nlri.2 :=
    fun n hn hne heq => hne (hinj n p.nlri ((hmem n).2 (Or.inr hn)) hself heq)
  have hv0 : v p.nlri.2 = ceExp vr (t.dest p.nlri).head? := by
    by_cases h0 : p.nlri ∈ t.nlris
    · exact hv.1 p.nlri h0
    · rw [dest_nil_of_unlisted t h p.nlri h0]
      exact hv.2 _ (fun n hn => hother n hn (fun e => h0 (e ▸ hn)))
  have hpfx : ∀ (T : Tbl), TblWF T → ∀ q, q ∈ T.dest p.nlri → q.pfx = p.nlri.2 :=
    fun T hT q hq => congrArg Prod.snd (hT.nlri_ok p.nlri q hq)
  have hc := (ceOnTableChange_moves vr _ _ p.nlri.2 (hpfx t h) (hpfx _ (update_wf t p wd h hf))
    (update_head_sameAs t p wd h hf)).apply v hv0
  constructor
  · intro n hn
    by_cases hnn : n = p.nlri
    · rw [hnn]
      exact hc.1
    · have hn' := ((hmem n).1 hn).resolve_left hnn
      rw [hc.2 n.2 (hother n hn' hnn), Tbl.best, update_dest_other t p wd n hnn]
      exact hv.1 n hn'
  · intro x hx
    rw [hc.2 x (fun e => hx p.nlri hself e.symm)]
    exact hv.2 x (fun n hn => hx n ((hmem n).2 (Or.inr hn)))

end VrfRtc
