import Props.C18X
import Lemmas.ApiConv
/-!
  C18 — API and native representations convert losslessly in both directions.

  What is PROVED here is about the model `Model/ApiConv.lean` (mirror of pkg/apiutil
  MarshalPathAttributes / UnmarshalAttribute / UnmarshalPathAttributes, MarshalNLRI / UnmarshalNLRI for
  IPv4 prefixes, MarshalCapability / unmarshalCapability) over the fragment shared with the wire model
  `Model/Wire.lean`: 14 attribute types, IPv4 prefixes, 9 capability kinds.  Extended communities,
  MP_REACH/UNREACH with unicast, labelled and VPN prefixes, and the api.Path / apiutil.Path / table.Path
  converters are in Props/C18X.lean.  Everything else of the protobuf surface (the other families,
  tunnel-encap, prefix-SID, BGP-LS, AIGP, PMSI, the config / policy converters, the rest of
  AddPath/ListPath) is only SAMPLED by the Go oracles of the C18 harnesses; props/C18.json says so.

  Reading guide:
   * `fromApi_toApi`       native -> API -> native is `rebuild` (stated independently in the model):
                           the value rebuilt by the New… constructor, i.e. flags/length recomputed,
                           AS numbers 4-octet, segment counts recomputed;
   * `rebuild_eq_self`     on the form the RIB holds (`Canonical`: well-formed, constructor flags,
                           4-octet AS kinds) `rebuild` is the identity, so the trip is lossless;
   * `wire_preserved`      hence the same octets are emitted after the trip;
   * `…_counterexample`    the hypotheses of `rebuild_eq_self` are needed: PARTIAL bit, an unneeded
                           EXTENDED_LENGTH bit, 2-octet AS_PATH / AGGREGATOR do not survive (the API has
                           no field for them) — the full-strength statement "for every native value" is false;
   * `toApi_fromApi`       API -> native -> API is the identity on API values within the ranges Marshal
                           produces (`ApiOk`), all of which are accepted;
   * `attrs_roundtrip`     the list level, with the duplicate-type rejection of UnmarshalPathAttributes;
   * `prefix_roundtrip`, `cap_fromApi_toApi`, `cap_wire_preserved` the same for IPv4 NLRI / capabilities.
-/
namespace C18
open Wire ApiConv

/-- 4-octet-AS session options: the form every attribute has inside the daemon -/
def o4 : Opts := ⟨false, false, false, false⟩

/-- the address-valued fields of a native attribute hold addresses (netip.Addr of the right family) -/
def AddrOk (a : Attr) : Prop :=
  match a.val with
  | .nextHop addr => addr.length = 4 ∨ addr.length = 16
  | .aggregator _ _ addr => addr < 4294967296
  | .originatorId x => x < 4294967296
  | .clusterList ids => ∀ v ∈ ids, v < 4294967296
  | .as4Aggregator _ addr => addr < 4294967296
  | _ => True

/-- **native -> API -> native.**  For every native attribute of a modelled type (any flags, any cached
    length, 2- or 4-octet AS numbers) UnmarshalAttribute accepts what MarshalPathAttributes produced and
    returns exactly `rebuild a`. -/
theorem fromApi_toApi (a : Attr) (h : AddrOk a) : fromApiAttr (toApiAttr a) = some (rebuild a) := by
  obtain ⟨flags, typ, length, val⟩ := a
  cases val with
  | asPath segs | as4Path segs =>
    simp only [toApiAttr, fromApiAttr, rebuild, map_fromApiSeg_toApiSeg]
  | clusterList ids =>
    have hid : (ids.map be32).map rd32 = ids := map_map_id_of fun v hv => rd32_be32_nil (h v hv)
    simp only [toApiAttr, fromApiAttr, rebuild, all_isV4_be32, hid, if_true]
  | nextHop addr => exact if_pos h
  | aggregator _ _ addr | originatorId addr | as4Aggregator _ addr =>
    simp only [toApiAttr, fromApiAttr, rebuild, isV4_be32, rd32_be32_nil h, if_true]
  | _ => rfl

example : AddrOk (mkAsPath [mkSeg false 2 [65001, 65002]]) := trivial
example : AddrOk ⟨224, 8, 8, .communities [1, 2]⟩ := trivial
example : AddrOk (mkClusterList [1, 2]) := by intro v hv; simp at hv; omega

/-- a NEXT_HOP whose address is not valid is refused on the way back (netip.Addr{} prints "invalid IP") -/
theorem fromApi_toApi_bad_nexthop (f t l : Nat) (addr : Bytes) (h : ¬(addr.length = 4 ∨ addr.length = 16)) :
    fromApiAttr (toApiAttr ⟨f, t, l, .nextHop addr⟩) = none := by
  simp [toApiAttr, fromApiAttr, h]

/-- The form attributes have in the RIB: well formed for a 4-octet session (`AttrWF` of Lemmas/Wire:
    cached length = emitted length, extended-length bit whenever needed, flags valid for the type, value
    in range, AS segments 4-octet with 1..255 members) and, for the known types, exactly the flags the
    constructor gives (no PARTIAL bit, no unneeded EXTENDED_LENGTH) and a 4-octet AGGREGATOR. -/
def Canonical (a : Attr) : Prop :=
  AttrWF o4 a ∧
  (match a.val with
   | .unknown _ => True
   | .aggregator as4 _ _ => as4 = true ∧ a.flags = getPathAttrFlags a.typ a.length
   | _ => a.flags = getPathAttrFlags a.typ a.length)

theorem addrOk_of_valWF {o : Opts} {a : Attr} (h : ValWF o a.typ a.val) : AddrOk a := by
  obtain ⟨flags, typ, length, val⟩ := a
  cases val with
  | nextHop addr => exact h.2
  | aggregator as4 as addr => exact h.2.2
  | originatorId x => exact h.2
  | clusterList ids => exact h.2
  | as4Aggregator as addr => exact h.2.2
  | _ => trivial

theorem canonical_addrOk {a : Attr} (h : Canonical a) : AddrOk a := addrOk_of_valWF h.1.2.2.2.2.2.2

/-- The left side is what every constructor of a known type `t` builds: flags and cached length
    computed from `L`, the constructor's own expression for the number of value octets. -/
theorem attr_eq_hdr {f t t' l : Nat} (L : Nat) {v : AttrVal} (ht : t' = t) (hL : (encVal v).length = L)
    (hl : l = (encVal v).length) (hlt : l < 65536) (hc : f = getPathAttrFlags t' l) :
    (⟨getPathAttrFlags t L, t, L % 65536, v⟩ : Attr) = ⟨f, t', l, v⟩ := by
  subst ht hL hl hc
  rw [Nat.mod_eq_of_lt hlt]

theorem mkUnknown_eq {f t : Nat} {v : Bytes} (h : v.length > 255 → hasBit f FLAG_EXT = true) :
    mkUnknown f t v = ⟨f, t, v.length % 65536, .unknown v⟩ := by
  by_cases hl : v.length > 255
  · rw [mkUnknown, h hl, Bool.not_true, Bool.and_false]; rfl
  · rw [mkUnknown, decide_eq_false hl]; rfl

theorem mkNextHop_eq {addr : Bytes} (h : addr.length = 4 ∨ addr.length = 16) :
    mkNextHop addr = ⟨getPathAttrFlags 3 addr.length, 3, addr.length % 65536, .nextHop addr⟩ := by
  rcases h with h | h <;> rw [mkNextHop, h] <;> rfl

/-- **lossless on RIB-form values**: the API trip rebuilds exactly the same object -/
theorem rebuild_eq_self (a : Attr) (h : Canonical a) : rebuild a = a := by
  obtain ⟨flags, typ, length, val⟩ := a
  obtain ⟨⟨hf, ht, hl, hlt, hext, _, hv⟩, hc⟩ := h
  cases val with
  | origin v =>
    show mkOrigin (v % 256) = _
    rw [Nat.mod_eq_of_lt hv.2]
    exact attr_eq_hdr 1 hv.1 rfl hl hlt hc
  | asPath segs | as4Path segs =>
    simp only [rebuild, map_id_of fun s hs => rebuildSeg_of_wf (hv.2 s hs)]
    exact attr_eq_hdr _ hv.1 (encSegs_length segs) hl hlt hc
  | nextHop addr =>
    show mkNextHop addr = _
    rw [mkNextHop_eq hv.2]
    exact attr_eq_hdr _ hv.1 rfl hl hlt hc
  | med v | localPref v | originatorId v => exact attr_eq_hdr 4 hv.1 rfl hl hlt hc
  | atomicAgg => exact attr_eq_hdr 0 hv rfl hl hlt hc
  | aggregator as4 as addr =>
    obtain ⟨rfl, hc⟩ := hc
    exact attr_eq_hdr 8 hv.1 rfl hl hlt hc
  | as4Aggregator as addr => exact attr_eq_hdr 8 hv.1 rfl hl hlt hc
  | communities vs | clusterList vs => exact attr_eq_hdr _ hv.1 (encU32s_length vs) hl hlt hc
  | largeComm vs => exact attr_eq_hdr _ hv.1 (encLarge_length vs) hl hlt hc
  | unknown v =>
    have hl : length = v.length := hl
    show mkUnknown (flags % 256) (typ % 256) v = _
    rw [Nat.mod_eq_of_lt hf, Nat.mod_eq_of_lt ht,
      mkUnknown_eq fun hgt => hext.resolve_right (Nat.not_le.mpr (hl ▸ hgt)), ← hl,
      Nat.mod_eq_of_lt hlt]

theorem fromApi_toApi_canonical {a : Attr} (h : Canonical a) : fromApiAttr (toApiAttr a) = some a := by
  rw [fromApi_toApi a (canonical_addrOk h), rebuild_eq_self a h]

/-- **same wire octets after the trip** (`encAttr` = PathAttribute….Serialize of Model/Wire.lean) -/
theorem wire_preserved (a : Attr) (h : Canonical a) :
    ∃ a', fromApiAttr (toApiAttr a) = some a' ∧ encAttr a' = encAttr a ∧ attrLen a' = attrLen a :=
  ⟨a, fromApi_toApi_canonical h, rfl, rfl⟩

/-- `Canonical` is satisfiable by non-trivial values: a two-segment AS_PATH, a communities attribute
    and an unknown optional transitive attribute with the PARTIAL bit (kept for unknown types) -/
example : Canonical (mkAsPath [mkSeg true 2 [65001, 4200000000], mkSeg true 1 [7]]) := by
  refine ⟨⟨by decide, by decide, by decide, by decide, by decide, by decide, ?_⟩, rfl⟩
  refine ⟨rfl, ?_⟩
  intro s hs
  simp only [List.mem_cons, List.mem_nil_iff, or_false] at hs
  rcases hs with rfl | rfl
  · refine ⟨rfl, by decide, by decide, by decide, by decide, by decide, ?_⟩
    intro a ha; simp [mkSeg] at ha; rcases ha with rfl | rfl <;> decide
  · refine ⟨rfl, by decide, by decide, by decide, by decide, by decide, ?_⟩
    intro a ha; simp [mkSeg] at ha; subst ha; decide

example : Canonical (mkUnknown 224 99 [1, 2, 3]) :=
  ⟨⟨by decide, by decide, by decide, by decide, by decide, by decide,
    (by show pathAttrFlags 99 = none; decide)⟩, trivial⟩

/-- full strength ("every native value converts to an API value that reproduces the same wire bytes")
    is FALSE of the faithful model; four witnesses, each replayed on the real code by the harness corpus. -/
theorem partial_flag_counterexample :
    let a : Attr := ⟨224, 8, 4, .communities [65001 * 65536 + 1]⟩      -- received with the PARTIAL bit
    AttrWF o4 a ∧ fromApiAttr (toApiAttr a) = some (mkCommunities [65001 * 65536 + 1]) ∧
    encAttr (mkCommunities [65001 * 65536 + 1]) ≠ encAttr a := by
  refine ⟨⟨by decide, by decide, by decide, by decide, by decide, by decide, ?_⟩, by decide +kernel,
    by decide +kernel⟩
  exact ⟨rfl, by intro v hv; simp at hv; omega⟩

theorem unneeded_ext_flag_counterexample :
    let a : Attr := ⟨80, 1, 1, .origin 0⟩                               -- EXTENDED_LENGTH on a 1-octet value
    AttrWF o4 a ∧ fromApiAttr (toApiAttr a) = some (mkOrigin 0) ∧ encAttr (mkOrigin 0) ≠ encAttr a := by
  refine ⟨⟨by decide, by decide, by decide, by decide, by decide, by decide, ?_⟩, by decide +kernel,
    by decide +kernel⟩
  exact ⟨rfl, by decide⟩

theorem two_octet_aspath_counterexample :
    let a : Attr := mkAsPath [mkSeg false 2 [65001]]                     -- AS_PATH as a 2-octet peer sends it
    fromApiAttr (toApiAttr a) = some (mkAsPath [mkSeg true 2 [65001]]) ∧
    encAttr (mkAsPath [mkSeg true 2 [65001]]) ≠ encAttr a := by
  exact ⟨by decide +kernel, by decide +kernel⟩

theorem two_octet_aggregator_counterexample :
    let a : Attr := mkAggregator false 65001 167772161
    fromApiAttr (toApiAttr a) = some (mkAggregator true 65001 167772161) ∧
    encAttr (mkAggregator true 65001 167772161) ≠ encAttr a := by
  exact ⟨by decide +kernel, by decide +kernel⟩

/-- API values within the ranges MarshalPathAttributes produces: uint8 fields below 256, address texts
    that parse to IPv4 where the code demands it, the extended-length bit present on long unknown values -/
def ApiOk : ApiAttr → Prop
  | .unknown f t v => f < 256 ∧ t < 256 ∧ (v.length > 255 → hasBit f FLAG_EXT = true)
  | .origin o => o < 256
  | .asPath segs => ∀ s ∈ segs, ApiSegOk s
  | .nextHop addr => addr.length = 4 ∨ addr.length = 16
  | .aggregator _ addr => Octets4 addr
  | .originatorId id => Octets4 id
  | .clusterList ids => ∀ b ∈ ids, Octets4 b
  | .as4Path segs => ∀ s ∈ segs, ApiSegOk s
  | .as4Aggregator _ addr => Octets4 addr
  | .unset => False
  | _ => True

/-- **API -> native -> API** is the identity on `ApiOk` values, and they are all accepted -/
theorem toApi_fromApi (x : ApiAttr) (h : ApiOk x) : ∃ a, fromApiAttr x = some a ∧ toApiAttr a = x := by
  cases x with
  | unknown f t v =>
    refine ⟨_, rfl, ?_⟩
    show toApiAttr (mkUnknown (f % 256) (t % 256) v) = _
    rw [Nat.mod_eq_of_lt h.1, Nat.mod_eq_of_lt h.2.1, mkUnknown_eq h.2.2]
    rfl
  | origin o => exact ⟨_, rfl, congrArg ApiAttr.origin (Nat.mod_eq_of_lt h)⟩
  | asPath segs | as4Path segs => exact ⟨_, rfl, congrArg _ (map_toApiSeg_fromApiSeg h)⟩
  | nextHop addr => exact ⟨_, if_pos h, rfl⟩
  | aggregator _ addr | originatorId addr | as4Aggregator _ addr =>
    exact ⟨_, if_pos (isV4_of_octets h), congrArg _ (be32_rd32_of addr h)⟩
  | clusterList ids =>
    exact ⟨_, if_pos (List.all_eq_true.mpr fun b hb => isV4_of_octets (h b hb)),
      congrArg ApiAttr.clusterList (map_map_id_of fun b hb => be32_rd32_of b (h b hb))⟩
  | unset => exact h.elim
  | _ => exact ⟨_, rfl, rfl⟩

example : ApiOk (.asPath [⟨2, [65001, 4200000000]⟩, ⟨1, []⟩]) := by
  intro s hs; simp at hs; rcases hs with rfl | rfl <;> simp [ApiSegOk]
example : ApiOk (.aggregator 65001 [10, 0, 0, 1]) := ⟨rfl, by intro x hx; simp at hx; omega⟩

/-- outside `ApiOk` the trip normalises: an ORIGIN of 256 comes back as 0 (uint8 conversion) -/
theorem origin_truncation_counterexample :
    ∃ a, fromApiAttr (.origin 256) = some a ∧ toApiAttr a = .origin 0 := ⟨_, rfl, rfl⟩

/-- the API value Marshal produces from a RIB-form attribute survives API -> native -> API (by
    `rebuild_eq_self`, not by `toApi_fromApi`: that such a value is `ApiOk` is not proved) -/
theorem toApi_fromApi_toApi (a : Attr) (h : Canonical a) :
    ∃ a', fromApiAttr (toApiAttr a) = some a' ∧ toApiAttr a' = toApiAttr a :=
  ⟨a, fromApi_toApi_canonical h, rfl⟩

theorem fromApiAttrsAux_toApi : ∀ (l : List Attr) (seen : List Nat),
    (∀ a ∈ l, AddrOk a) →
    (∀ a ∈ l, (rebuild a).typ ∉ seen) →
    (l.map fun a => (rebuild a).typ).Nodup →
    fromApiAttrsAux seen (toApiAttrs l) = some (l.map rebuild)
  | [], _, _, _, _ => rfl
  | a :: as, seen, hok, hseen, hnd => by
    have hnd' := List.nodup_cons.mp hnd
    have hns : seen.contains (rebuild a).typ = false := by simpa using hseen a (.head _)
    have ih := fromApiAttrsAux_toApi as ((rebuild a).typ :: seen) (fun x hx => hok x (.tail _ hx))
      (fun x hx hm => (List.mem_cons.mp hm).elim
        (fun he => hnd'.1 (List.mem_map.mpr ⟨x, hx, he⟩)) (hseen x (.tail _ hx)))
      hnd'.2
    simp only [toApiAttrs, List.map_cons, fromApiAttrsAux, fromApi_toApi a (hok a (.head _)),
      hns] at ih ⊢
    simp only [ih, Bool.false_eq_true, if_false]

/-- **lists of attributes**: when no attribute type occurs twice (after the rebuild: unknown types are
    taken mod 256) the whole list converts element-wise … -/
theorem attrs_roundtrip (l : List Attr) (hok : ∀ a ∈ l, AddrOk a)
    (hnd : (l.map fun a => (rebuild a).typ).Nodup) :
    fromApiAttrs (toApiAttrs l) = some (l.map rebuild) :=
  fromApiAttrsAux_toApi l [] hok (fun _ _ => by simp) hnd

/-- … and on RIB-form lists it is the identity and re-emits the same octets -/
theorem attrs_wire_preserved (l : List Attr) (hc : ∀ a ∈ l, Canonical a)
    (hnd : (l.map fun a => a.typ).Nodup) :
    fromApiAttrs (toApiAttrs l) = some l := by
  have hmap : l.map rebuild = l := map_id_of fun a ha => rebuild_eq_self a (hc a ha)
  have hty : (l.map fun a => (rebuild a).typ) = l.map fun a => a.typ :=
    List.map_congr_left fun a ha => by rw [rebuild_eq_self a (hc a ha)]
  exact (attrs_roundtrip l (fun a ha => canonical_addrOk (hc a ha)) (hty ▸ hnd)).trans
    (congrArg some hmap)

/-- a second attribute of the same type makes UnmarshalPathAttributes fail (a native list with two
    unknown attributes of one type, which the wire decoder accepts, cannot be listed back) -/
theorem duplicate_type_rejected :
    fromApiAttrs (toApiAttrs [mkUnknown 192 99 [1], mkUnknown 192 99 [2]]) = none := by decide +kernel

example : ((([mkOrigin 0, mkMed 5, mkUnknown 192 99 [1]] : List Attr).map fun a => (rebuild a).typ)).Nodup := by
  decide

/-- MarshalNLRI / UnmarshalNLRI on an IPv4 prefix as NewIPAddrPrefix or the decoder builds it -/
theorem prefix_roundtrip (p : Prefix) (h : p.wf = true) : fromApiPrefix (toApiPrefix p) = some p := by
  obtain ⟨hb, hl, hm⟩ := Prefix.wf_iff.mp h
  have hb' : ¬ p.bits > 32 := Nat.not_lt.mpr hb
  simp only [fromApiPrefix, toApiPrefix, hl, hb', ne_eq, not_true_eq_false, if_false, maskAddr, hm]

theorem prefix_wire_preserved (p : Prefix) (h : p.wf = true) :
    ∃ p', fromApiPrefix (toApiPrefix p) = some p' ∧ encPrefix p' = encPrefix p :=
  ⟨p, prefix_roundtrip p h, rfl⟩

/-- the API accepts unmasked addresses and masks them (NewIPAddrPrefix): not the identity there -/
theorem prefix_masking_counterexample :
    fromApiPrefix ⟨8, [10, 1, 2, 3]⟩ = some ⟨8, [10, 0, 0, 0]⟩ := by decide +kernel

/-- a length beyond 32 is refused -/
theorem prefix_len_rejected (n : Nat) (addr : Bytes) (h : n > 32) : fromApiPrefix ⟨n, addr⟩ = none := by
  simp [fromApiPrefix, h]

example : (⟨24, [192, 168, 1, 0]⟩ : Prefix).wf = true := by decide

/-- field ranges of the Go structs (uint16 AFI, uint8 SAFI / mode / flags / code; the restart time
    only has to fit its uint16 field, the 12 bits of the wire format are not required) -/
def CapOk : Cap → Prop
  | .multiProtocol afi safi => afi < 65536 ∧ safi < 256
  | .addPath ts => ∀ t ∈ ts, t.1 < 65536 ∧ t.2.1 < 256 ∧ t.2.2 < 256
  | .gracefulRestart flags time ts =>
    flags < 256 ∧ time < 65536 ∧ ∀ t ∈ ts, t.1 < 65536 ∧ t.2.1 < 256 ∧ t.2.2 < 256
  | .llgr ts => ∀ t ∈ ts, t.1 < 65536 ∧ t.2.1 < 256 ∧ t.2.2.1 < 256
  | .unknown code _ => code < 256
  | _ => True

theorem tuple3_id {t : Nat × Nat × Nat} (h : t.1 < 65536 ∧ t.2.1 < 256 ∧ t.2.2 < 256) :
    (t.1 % 65536, t.2.1 % 256, t.2.2 % 256) = t := by
  rw [Nat.mod_eq_of_lt h.1, Nat.mod_eq_of_lt h.2.1, Nat.mod_eq_of_lt h.2.2]

theorem tuple4_id {t : Nat × Nat × Nat × Nat} (h : t.1 < 65536 ∧ t.2.1 < 256 ∧ t.2.2.1 < 256) :
    (t.1 % 65536, t.2.1 % 256, t.2.2.1 % 256, t.2.2.2) = t := by
  rw [Nat.mod_eq_of_lt h.1, Nat.mod_eq_of_lt h.2.1, Nat.mod_eq_of_lt h.2.2]

/-- **capabilities, native -> API -> native** is the identity on values of the Go field ranges
    (every flag bit included: see fix commit "apiutil keeps every flag bit of the graceful-restart …") -/
theorem cap_fromApi_toApi (c : Cap) (h : CapOk c) : fromApiCap (toApiCap c) = some c := by
  cases c with
  | multiProtocol afi safi =>
    show some (Cap.multiProtocol (afi % 65536) (safi % 256)) = _
    rw [Nat.mod_eq_of_lt h.1, Nat.mod_eq_of_lt h.2]
  | addPath ts =>
    exact congrArg (some ∘ Cap.addPath) (map_map_id_of fun t ht => tuple3_id (h t ht))
  | gracefulRestart flags time ts =>
    show some (Cap.gracefulRestart (flags % 256) (time % 65536) _) = _
    rw [Nat.mod_eq_of_lt h.1, Nat.mod_eq_of_lt h.2.1]
    exact congrArg (some ∘ Cap.gracefulRestart flags time)
      (map_map_id_of fun t ht => tuple3_id (h.2.2 t ht))
  | llgr ts =>
    exact congrArg (some ∘ Cap.llgr) (map_map_id_of fun t ht => tuple4_id (h t ht))
  | unknown code value =>
    show some (Cap.unknown (code % 256) value) = _
    rw [Nat.mod_eq_of_lt h]
  | _ => rfl

example : CapOk (.gracefulRestart 15 4095 [(1, 1, 255), (25, 70, 128)]) := by
  refine ⟨by decide, by decide, ?_⟩
  intro t ht; simp at ht; rcases ht with rfl | rfl <;> decide

/-- **capabilities re-emit the same octets** — for EVERY value, in range or not (Serialize truncates
    the same way the conversions do) -/
theorem cap_wire_preserved (c : Cap) : ∃ c', fromApiCap (toApiCap c) = some c' ∧ encCap c' = encCap c := by
  cases c <;> refine ⟨_, rfl, ?_⟩
  case multiProtocol afi safi =>
    show encCapHdr 1 (be16 (afi % 65536) ++ [0, safi % 256 % 256]) = _
    rw [be16_mod, Nat.mod_mod]; rfl
  case addPath ts =>
    show encCapHdr 69 (encTuples3 ((ts.map _).map _)) = _
    rw [List.map_map]; exact congrArg (encCapHdr 69) (encTuples3_norm ts)
  case gracefulRestart flags time ts =>
    simp only [encCap, grFlags, Nat.mod_mod, List.map_map]
    exact congrArg (fun b => encCapHdr 64 (be16 _ ++ b)) (encTuples3_norm ts)
  case llgr ts =>
    show encCapHdr 71 (encLlgrTuples ((ts.map _).map _)) = _
    rw [List.map_map]; exact congrArg (encCapHdr 71) (encLlgr_norm ts)
  case unknown code value => exact congrArg (· :: _) (Nat.mod_mod code 256)
  all_goals rfl

end C18
