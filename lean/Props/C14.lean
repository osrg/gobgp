import Lemmas.As4
/-!
# C14 — the 2-octet / 4-octet AS transition (RFC 6793) loses nothing

All theorems are about `Model/As4.lean`, the hand-written mirror of
`internal/pkg/table/message.go` (`UpdatePathAttrs2ByteAs` = `down`, `UpdatePathAttrs4ByteAs` = `up`
/ `upAttr`, `UpdatePathAggregator2ByteAs/4ByteAs` = `aggDown` / `aggUp`) and of
`validateAsPathValueBytes` (`validateBytes`), as the code stands AFTER the four `fix:` commits
854f9a2, b927be8, 9bfc30b, 13bf635.  The tie model ↔ code is the correspondence run of `./check C14`
(sampled), not a proof.

The pinned commit does NOT have the property; its behaviour is kept in the model as `downOld`,
`upOld`, `upAttrOld` and the four `…_counterexample` theorems below state the defects on the
concrete witnesses that the harness replays on the real code.

Vocabulary (`Model/As4.lean`): `Wire p` – every segment has a type 1..4 and 1..255 members (what
the wire can carry); `flat p` – the AS_PATH as a sequence of items, one per AS of an AS_SEQUENCE,
one per AS_SET / confederation segment (so it does not see where AS_SEQUENCEs are cut);
`confedTrans p` – `p` with the 4-octet members of confederation segments replaced by AS_TRANS;
`asLen` – the AS count of route selection (SET = 1, confederation = 0).
-/
namespace C14
open As4

/-- For every wire-valid AS_PATH: the 2-octet AS_PATH keeps the segment structure, is wire-valid
and all its members fit 16 bits; an AS4_PATH, when one is emitted, has at least one segment, is
wire-valid and holds no confederation segment. -/
theorem down_wf (p : Path) (h : Wire p) :
    Wire (down p).1 ∧ (∀ s ∈ (down p).1, ∀ a ∈ s.as, a < 65536) ∧
    (∀ q, (down p).2 = some q → q ≠ [] ∧ Wire q ∧ ∀ s ∈ q, isConfed s.typ = false) := by
  refine ⟨Wire_down2 h, down2_lt p, fun q hq => ?_⟩
  rw [down_snd] at hq
  split at hq
  · next hc =>
    cases hq
    exact ⟨hc.2, Wire_filter _ h, down4_plain p⟩
  · cases hq

/-- …and octet for octet: the serialised values pass `validateAsPathValueBytes` with the width
the receiver will use (2 for AS_PATH towards an OLD speaker, 4 for AS4_PATH). -/
theorem down_bytes_valid (p : Path) (h : Wire p) :
    validateBytes 2 (serSegs 2 (down p).1) = true ∧
    (∀ q, (down p).2 = some q → validateBytes 4 (serSegs 4 q) = true) := by
  have hw := down_wf p h
  exact ⟨validateBytes_ser 2 (Nat.dvd_refl 2) _ hw.1,
    fun q hq => validateBytes_ser 4 ⟨2, rfl⟩ q (hw.2.2 q hq).2.1⟩

example : Wire [⟨3, [70000, 2]⟩, ⟨1, [7, 80000]⟩, ⟨2, [1, 70000, 23456]⟩] := by
  unfold Wire; decide

example : down [⟨3, [70000, 2]⟩, ⟨1, [7, 80000]⟩, ⟨2, [1, 70000, 23456]⟩] =
    ([⟨3, [23456, 2]⟩, ⟨1, [7, 23456]⟩, ⟨2, [1, 23456, 23456]⟩],
     some [⟨1, [7, 80000]⟩, ⟨2, [1, 70000, 23456]⟩]) := by decide

/-- **Round trip.** For every RFC-valid AS_PATH `c ++ q` – a leading run `c` of confederation
segments, then any mix `q` of AS_SEQUENCE / AS_SET segments (a leading SET included), every
segment with 1..255 members, members of any size – reconstructing from the form sent to a 2-octet
peer gives back the same sequence of ASes, sets and confederation segments, except that 4-octet
members of confederation segments come back as AS_TRANS (AS4_PATH must not carry them). -/
theorem up_down (c q : Path)
    (hc : ∀ s ∈ c, isConfed s.typ = true) (hq : ∀ s ∈ q, isConfed s.typ = false)
    (hw : Wire (c ++ q)) :
    flat (up (down (c ++ q)).1 (down (c ++ q)).2) = flat (confedTrans (c ++ q)) := by
  rw [up_down_eq c q hc hq (Wire_append.mp hw).2, confedTrans_run hc hq]
  split
  · rw [merge_flat, flat_append]
  · rfl

/-- **Round trip, segment for segment.** If in addition the AS_SEQUENCE segments of the path are
packed (of two adjacent AS_SEQUENCEs the first has 255 members — the shape the reconstruction
itself produces), the very same segment list comes back.  Without that hypothesis only `up_down`
holds: adjacent AS_SEQUENCEs are concatenated and re-cut at 255 whenever an AS4_PATH was needed. -/
theorem up_down_exact (c q : Path)
    (hc : ∀ s ∈ c, isConfed s.typ = true) (hq : ∀ s ∈ q, isConfed s.typ = false)
    (hw : Wire (c ++ q)) (hp : Packed q) :
    up (down (c ++ q)).1 (down (c ++ q)).2 = confedTrans (c ++ q) := by
  have hwq := (Wire_append.mp hw).2
  rw [up_down_eq c q hc hq hwq, confedTrans_run hc hq]
  split
  · -- the confederation run ends in a confederation segment, which the loop never joins
    refine merge_packed _ q hwq hp fun last hl h2 => ?_
    obtain ⟨v, hv, rfl⟩ := List.mem_map.mp (List.mem_of_getLast? hl)
    exact absurd ((show v.typ = 2 from h2) ▸ hc v hv : isConfed 2 = true) (by decide)
  · rfl

/-- the hypotheses of `up_down` / `up_down_exact` are satisfiable by a non-trivial path: a
confederation run with a 4-octet member, a leading AS_SET, AS_SEQUENCEs separated by a set -/
example :
    let c : Path := [⟨3, [70000, 2]⟩, ⟨4, [9]⟩]
    let q : Path := [⟨1, [7, 80000]⟩, ⟨2, [70000, 65536]⟩, ⟨1, [4]⟩, ⟨2, [1, 70000]⟩]
    up (down (c ++ q)).1 (down (c ++ q)).2 = confedTrans (c ++ q) :=
  up_down_exact _ _ (by decide) (by decide) (by unfold Wire; decide)
    ⟨nofun, nofun, nofun, trivial⟩

/-- the segmentation CAN change when the path is not packed (here 2 + 1 members become 3) -/
theorem up_down_resegments :
    up (down [⟨2, [1, 2]⟩, ⟨2, [70000]⟩]).1 (down [⟨2, [1, 2]⟩, ⟨2, [70000]⟩]).2 =
      [⟨2, [1, 2, 70000]⟩] := by decide

example : Packed [⟨1, [7, 80000]⟩, ⟨2, [1, 70000]⟩, ⟨1, [5]⟩] := ⟨nofun, nofun, trivial⟩

example : up (down [⟨3, [70000, 2]⟩, ⟨1, [7, 80000]⟩, ⟨2, [1, 70000]⟩]).1
             (down [⟨3, [70000, 2]⟩, ⟨1, [7, 80000]⟩, ⟨2, [1, 70000]⟩]).2 =
    [⟨3, [23456, 2]⟩, ⟨1, [7, 80000]⟩, ⟨2, [1, 70000]⟩] := by decide

/-- **Safety of the reconstruction** for every independently chosen wire-valid pair
(AS_PATH `a` with members already widened, AS4_PATH `a4`, confederation segments allowed anywhere
in either): the result is wire-valid (no empty segment, none above 255 members, known types);
its AS count equals that of the AS_PATH (so it is never longer); an AS4_PATH that counts more ASes
than the AS_PATH is ignored; otherwise the result reads as a leading part of the AS_PATH followed
by the AS4_PATH without its confederation segments (RFC 6793 §4.2.3). -/
theorem up_safe (a a4 : Path) (ha : Wire a) (h4 : Wire a4) :
    Wire (up a (some a4)) ∧
    asLen (up a (some a4)) = asLen a ∧
    (asLen a < asLen (dropConfed a4) → up a (some a4) = a) ∧
    (asLen (dropConfed a4) ≤ asLen a →
      ∃ lead rest, flat (up a (some a4)) = lead ++ flat (dropConfed a4) ∧ flat a = lead ++ rest) := by
  have h4' : Wire (dropConfed a4) := Wire_filter _ h4
  rw [up_some]
  by_cases hlt : asLen a < asLen (dropConfed a4)
  · rw [if_pos hlt]
    exact ⟨ha, rfl, fun _ => rfl, fun hle => absurd hlt (Nat.not_lt.mpr hle)⟩
  · rw [if_neg hlt]
    refine ⟨merge_wire _ _ (keep_wire _ a ha) h4', ?_, fun h => absurd h hlt, fun _ => ?_⟩
    · rw [merge_asLen, keep_asLen _ a (Nat.sub_le _ _)]
      exact Nat.sub_add_cancel (Nat.le_of_not_gt hlt)
    · obtain ⟨t, ht⟩ := keep_flat_prefix (asLen a - asLen (dropConfed a4)) a
      exact ⟨_, t, merge_flat _ _, ht.symm⟩

/-- without AS4_PATH the AS_PATH is taken as it is -/
theorem up_none (a : Path) : up a none = a := rfl

example : up [⟨3, [1, 2, 3]⟩, ⟨2, [65000, 23456, 23456, 5]⟩] (some [⟨4, [9]⟩, ⟨2, [70000, 80000, 5]⟩]) =
    [⟨3, [1, 2, 3]⟩, ⟨2, [65000, 70000, 80000, 5]⟩] := by decide

example : up [⟨2, [1, 2]⟩] (some [⟨2, [70000, 80000, 90000]⟩]) = [⟨2, [1, 2]⟩] := by decide

/-- every AGGREGATOR AS comes back; what is sent in the 2-octet field fits 16 bits, and an
AS4_AGGREGATOR is sent exactly when the AS needs 4 octets -/
theorem agg_roundtrip (as : Nat) :
    aggUp (aggDown as).1 (aggDown as).2 = as ∧ (aggDown as).1 < 65536 ∧
    ((aggDown as).2.isSome ↔ as > 65535) := by
  by_cases h : as > 65535
  · rw [aggDown, if_pos h]
    exact ⟨rfl, (by decide : asTrans < 65536), iff_of_true rfl h⟩
  · rw [aggDown, if_neg h]
    exact ⟨rfl, Nat.lt_succ_of_le (Nat.le_of_not_gt h), iff_of_false Bool.false_ne_true h⟩

example : aggDown 70000 = (23456, some 70000) ∧ aggDown 64999 = (64999, none) := by decide

/-- after `UpdatePathAttrs4ByteAs` the attribute's `Len()` equals the number of octets `Serialize()`
emits, whatever `Length` the received attribute carried and with or without AS4_PATH -/
theorem len_cache_consistent (a : Attr) (a4? : Option Path) :
    attrLen (upAttr a a4?) = serLen (upAttr a a4?) :=
  attrLen_mkAttr 4 _

example : attrLen (upAttr (mkAttr 2 [⟨2, [1, 2, 3, 4, 5, 6, 7, 8, 9, 10]⟩]) none) = 45 := by decide

/-! ## the pinned commit (before the fixes) does not have the property -/

/-- stale `Length`: a 10-AS path from a 2-octet peer, no AS4_PATH: `Len()` 25, serialised 45 -/
theorem len_cache_counterexample :
    attrLen (upAttrOld (mkAttr 2 [⟨2, [1, 2, 3, 4, 5, 6, 7, 8, 9, 10]⟩]) none) = 25 ∧
    serLen (upAttrOld (mkAttr 2 [⟨2, [1, 2, 3, 4, 5, 6, 7, 8, 9, 10]⟩]) none) = 45 := by decide

/-- leading AS_SET: the old keep walk leaves a zero-member segment in front -/
theorem up_leading_set_counterexample :
    upOld (down [⟨1, [70000, 2]⟩]).1 (down [⟨1, [70000, 2]⟩]).2 = [⟨1, []⟩, ⟨1, [70000, 2]⟩] := by
  decide

/-- leading confederation run: the old count keeps the ASes AS4_PATH replaces (path grows 2 → 4) -/
theorem up_confed_counterexample :
    upOld (down [⟨3, [1, 2, 3]⟩, ⟨2, [70000, 5]⟩]).1 (down [⟨3, [1, 2, 3]⟩, ⟨2, [70000, 5]⟩]).2 =
      [⟨3, [1, 2, 3]⟩, ⟨2, [23456, 5, 70000, 5]⟩] := by decide

/-- only confederation segments hold a 4-octet AS: the old code emits an AS4_PATH of no segment -/
theorem down_empty_as4_counterexample : (downOld [⟨3, [70000, 2, 3]⟩]).2 = some [] := by decide

end C14
