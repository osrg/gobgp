/-
  C02 — RIBs hold exactly the latest un-withdrawn route per source and path-id.

  Models: World.adjAnnounce / adjWithdraw (adj.go AdjRib.Update, Drop), BestPath.calcStep
  (destination.go Calculate), World.recvAnn (peer.go handleUpdate + server.go propagateUpdate).
  Tied to the code by go/overlay/pkg/server/zz_verif_c01_test.go (TestVerifC01: Adj-RIB-In dumps,
  counters and Loc-RIB order compared after every flush point of random histories).
-/
import Lemmas.Adj
import Lemmas.BestPathHist
import Lemmas.WorldAdj
namespace C02
open BestPath World

/-- **Adj-RIB-In refinement.** After any history of announcements (accepted or loop-rejected),
    replacements, withdrawals (also duplicate / of unknown keys) and session ends, looking up
    (prefix, path-id) in the stored entry list gives exactly the abstract map "latest
    un-withdrawn announcement of the current session" (`adjSpecStep`). -/
theorem adjin_refines (ops : List AdjOp) :
    (ops.foldl adjStep {}).abs = ops.foldl adjSpecStep (fun _ _ => none) :=
  adj_refines ops

/-- one entry per (prefix, path-id), and the accepted counter equals the number of stored
    non-rejected entries after every history (reject↔accept flips included) -/
theorem adjin_unique_and_counted (ops : List AdjOp) :
    (ops.foldl adjStep {}).Nodup ∧
      (ops.foldl adjStep {}).accepted =
        (((ops.foldl adjStep {}).entries.filter (fun e => !e.rejected)).length : Int) :=
  adj_invariants ops

/-- **Loc-RIB refinement (per destination).** After any history of announcements, implicit
    replacements and withdrawals the path list is sorted best-first (C03), holds at most one
    entry per (source, path-id), and is a permutation of the latest un-withdrawn candidate per
    (source, path-id). -/
theorem locrib_refines (o : Opts) (ops : List Op) (wf : SetWF o (opCands ops)) :
    Sorted o (run o ops) ∧ NodupKey (run o ops) ∧ (run o ops).Perm (spec ops) :=
  run_inv o ops wf

/-- a withdrawal removes the entry of its (source, path-id) — in particular the withdrawal that
    `recvAnn` hands to the Loc-RIB when the loop checks reject a replacement (the fixed C02
    defect: the pinned tree dropped the rejected path without withdrawing its predecessor). -/
theorem withdraw_removes (l : List Cand) (x : Cand) (hn : NodupKey l) :
    ∀ y ∈ explicitWithdraw l x, sameKey y x = false := by
  rw [explicitWithdraw_eq_filter l x hn]
  intro y hy
  have := (List.mem_filter.mp hy).2
  simpa using this

/-- **World level: nothing outlives its Adj-RIB-In entry.** For every configuration of peers
    with pairwise different addresses and EVERY history of session up / down, announcements,
    replacements (accepted or loop-rejected), withdrawals, locally injected routes, AddPeer and
    DeletePeer: each path in the Loc-RIB sits under its own prefix, is the only one there with
    its (source, path-id), and is either locally injected or was learned from a peer that is
    still configured AND still stores a non-rejected Adj-RIB-In entry with that (prefix,
    path-id). So a withdrawn route, a route replaced by a loop-rejected one, the routes of a
    session that went down and the routes of a deleted peer are all gone from the Loc-RIB. -/
theorem locrib_within_adjin (g : Global) (cfgs : List PeerCfg)
    (haddr : cfgs.Pairwise (fun a b => a.addr ≠ b.addr))
    (hidx : cfgs.Pairwise (fun a b => a.idx ≠ b.idx)) (ops : List WOp) :
    let w := ops.foldl step (init g cfgs)
    ∀ pfx, NodupKey (w.ribOf pfx) ∧ ∀ r ∈ w.ribOf pfx, r.pfx = pfx ∧
      (r.src = localSrc ∨ ∃ ps ∈ w.peers, r.src = ps.cfg.srcInfo w.g ∧
        ∃ a ∈ ps.adj.entries, a.rejected = false ∧ a.r.pfx = pfx ∧ a.r.pathId = r.pathId) := by
  intro w pfx
  have hf := run_full (init g cfgs) ops (init_full g cfgs haddr hidx)
  refine ⟨ribOf_nodup w hf.inv pfx, ?_⟩
  intro r hr
  obtain ⟨e, he, hep, hre⟩ := mem_ribOf w pfx r hr
  obtain ⟨hp, hs⟩ := hf.inv.rib e he r hre
  refine ⟨hp.trans hep, hs.imp id ?_⟩
  rintro ⟨ps, hps, hsrc⟩
  obtain ⟨a, ha, h1, h2, h3⟩ := ((hf.adj ps hps).2 pfx r.pathId).mp ⟨e, he, hep, r, hre, hsrc, rfl⟩
  exact ⟨ps, hps, hsrc, a, ha, h1, h2, h3⟩

/-- **World level: nothing accepted is lost.** Under the same quantifiers: every non-rejected
    Adj-RIB-In entry of every configured peer is represented in the Loc-RIB of its prefix by a
    path with that peer as source and the same path-id — across replacements, other peers'
    and local updates of the same destination, session ends and deletions of OTHER peers. With
    `locrib_within_adjin`: the (source, path-id) keys of a destination's Loc-RIB are exactly the
    accepted Adj-RIB-In keys of the configured peers plus the locally injected routes. -/
theorem adjin_within_locrib (g : Global) (cfgs : List PeerCfg)
    (haddr : cfgs.Pairwise (fun a b => a.addr ≠ b.addr))
    (hidx : cfgs.Pairwise (fun a b => a.idx ≠ b.idx)) (ops : List WOp) :
    let w := ops.foldl step (init g cfgs)
    ∀ ps ∈ w.peers, ∀ a ∈ ps.adj.entries, a.rejected = false →
      ∃ r ∈ w.ribOf a.r.pfx, r.src = ps.cfg.srcInfo w.g ∧ r.pathId = a.r.pathId := by
  intro w ps hps a ha hr
  have hf := run_full (init g cfgs) ops (init_full g cfgs haddr hidx)
  exact (ribKey_iff w hf.inv.keys _ _ _).mp
    (((hf.adj ps hps).2 _ _).mpr ⟨a, ha, hr, rfl, rfl⟩)

/-! ### non-vacuity -/

def rt (pfx pid marker : Nat) : Cand := { (default : Cand) with pfx := pfx, pathId := pid, marker := marker }

example : ((([AdjOp.ann (rt 1 0 7) false, .ann (rt 1 0 8) true, .ann (rt 2 0 9) false, .wd (rt 2 0 0)]).foldl
    adjStep {}).entries.map (fun e => (e.r.marker, e.rejected))) = [(8, true)] := by decide

example : (([AdjOp.ann (rt 1 0 7) false, .ann (rt 1 0 8) true]).foldl adjStep {}).accepted = 0 := by decide

/-- a world history: peer 1's route is replaced by a loop-rejected one (own AS in the path) and
    leaves the Loc-RIB; peer 0's route and the local route stay; then peer 0 is deleted -/
def g0 : Global := ⟨65000, 1⟩
def p0 : PeerCfg := { idx := 0, kind := .ebgp, as := 65001, rid := 10, addr := 100 }
def p1 : PeerCfg := { idx := 1, kind := .ebgp, as := 65002, rid := 11, addr := 101 }
def wh : List WOp :=
  [.up 0, .up 1,
   .ann 0 { (default : Cand) with pfx := 7, marker := 1, origin := some 0, segs := [⟨2, [65001]⟩] },
   .ann 1 { (default : Cand) with pfx := 7, marker := 2, origin := some 0, segs := [⟨2, [65002]⟩] },
   .localAdd { (default : Cand) with pfx := 7, marker := 3, origin := some 0 },
   .ann 1 { (default : Cand) with pfx := 7, marker := 4, origin := some 0, segs := [⟨2, [65002, 65000]⟩] }]

example : ((wh.foldl step (init g0 [p0, p1])).ribOf 7).map (·.marker) = [3, 1] := by decide
example : ((wh.foldl step (init g0 [p0, p1])).peers.map (fun ps => ps.adj.entries.map (fun e => (e.r.marker, e.rejected))))
    = [[(1, false)], [(4, true)]] := by decide
example : (((wh ++ [WOp.del 0]).foldl step (init g0 [p0, p1])).ribOf 7).map (·.marker) = [3] := by decide

end C02
