/-
  C09 — per-peer-type export rewriting and loop prevention; producing a peer's copy never alters
  the stored route.

  Property theorems only; the lemmas they rest on are in Lemmas/Export*.lean and Lemmas/GoSlice.lean.
  Everything below is about the executable model Model/Export.lean, a branch-for-branch mirror of
    table.UpdatePathAttrs and the Path mutators / overlay readers           (`updatePathAttrs`, `getAttr`, `getAttrs`, …)
    filterpath, filterPathFromSourcePeer, (*BgpServer).filterpath            (`filter`, `fromSource`, `exportPath`)
    the loop checks of (*peer).handleUpdate, hasOwnASLoop                    (`inboundReject`, `hasOwnASLoop`)
  which is tied to the Go code on every run by the correspondence harnesses
  go/overlay/internal/pkg/table/zz_verif_c09_test.go and go/overlay/pkg/server/zz_verif_c09_test.go.

  Reading guide.  `rewrite g peer p` is what a peer is sent for a stored route `p` that passed the
  filters: UpdatePathAttrs followed by the LOCAL_PREF rule of postFilterpath (no export policy).
  `getAttr q t` is Path.getPathAttr(t); `getAttrs q` is Path.GetPathAttrs(), the list that is put on
  the wire; `list_view` says the two agree.  `exportPath g peer p old` is (*BgpServer).filterpath:
  `.update q` = q is announced, `.withdrawOld` / `.withdrawSelf` = a withdrawal, `.nothing`.

  Not modelled (so not covered by any theorem here): export policy, VRF peers, the Route-Target
  Constraint block of filterpath and the RTC special case of prePolicyFilterpath, the 2-octet AS
  conversion at send time, AS_PATH segments longer than 255 ASes (cannot come off the wire).
-/
import Lemmas.ExportThm
import Lemmas.ExportFilter
import Lemmas.GoSlice
import Lemmas.ExportReplay
namespace C09
open Export

theorem list_view (p : Path) (t : Nat) : findTyp t (getAttrs p) = getAttr p t := findTyp_getAttrs p t

/-- To an eBGP peer the AS_PATH is: the stored AS_PATH after the remove-private-as option, without
    its confederation segments unless the peer is a confederation member (`ebgpBase`), with the
    session's local AS prepended exactly once — into the first segment when it has the right type
    (AS_SEQUENCE, or AS_CONFED_SEQUENCE toward a member) and fewer than 255 ASes, else as a new
    leading segment. -/
theorem ebgp_prepends_once (g : Global) (peer : Peer) (p : Path)
    (hrs : peer.rsClient = false) (ht : peer.peerType = 1) :
    getAsPath (rewrite g peer p) = some (ebgpSegs g peer (getAsPath p)) ∧
    allAS (ebgpSegs g peer (getAsPath p)) = peer.localAS :: allAS (ebgpBase g peer (getAsPath p)) ∧
    (allAS (ebgpSegs g peer (getAsPath p))).count peer.localAS =
      (allAS (ebgpBase g peer (getAsPath p))).count peer.localAS + 1 := by
  refine ⟨ebgp_asPath g peer p hrs ht, allAS_ebgpSegs g peer _, ?_⟩
  rw [allAS_ebgpSegs, List.count_cons_self]

/-- Of the segment list `ebgpSegs` itself, which by `ebgp_prepends_once` is the AS_PATH an eBGP
    peer is sent: the first segment starts with the local AS and has the type the peer's
    confederation membership asks for, and no segment exceeds 255 ASes when none of the stored
    ones did. -/
theorem ebgp_segments_wellformed (g : Global) (peer : Peer) (p : Path)
    (hb : ∀ segs, getAsPath p = some segs → ∀ s ∈ segs, s.as.length ≤ 255) :
    (∃ hd tl, ebgpSegs g peer (getAsPath p) = hd :: tl ∧
        hd.typ = (if g.members.contains peer.as then 3 else 2) ∧ hd.as.head? = some peer.localAS) ∧
    (∀ s ∈ ebgpSegs g peer (getAsPath p), s.as.length ≤ 255) ∧
    (g.members.contains peer.as = false → ∀ s ∈ ebgpSegs g peer (getAsPath p), s.typ = 2 ∨ s.typ = 1) := by
  refine ⟨ebgpSegs_head g peer _, ebgpSegs_bound g peer _ hb, ?_⟩
  intro hc s hs
  simp only [ebgpSegs, hc, Bool.false_eq_true, if_false] at hs
  have ht := (List.mem_filter.1 hs).2
  simp only [Bool.or_eq_true, beq_iff_eq] at ht
  exact ht

/-- To an eBGP peer nothing in the serialised list is LOCAL_PREF, ORIGINATOR_ID or CLUSTER_LIST;
    a MED learned from a neighbour is not there either, a MED of a local route is kept. -/
theorem ebgp_strips (g : Global) (peer : Peer) (p : Path)
    (hrs : peer.rsClient = false) (ht : peer.peerType = 1) :
    (∀ a ∈ getAttrs (rewrite g peer p),
        a.typ ≠ tLOCAL_PREF ∧ a.typ ≠ tORIGINATOR_ID ∧ a.typ ≠ tCLUSTER_LIST ∧
        (isLocal p = false → a.typ ≠ tMED)) ∧
    (isLocal p = true → getAttr (rewrite g peer p) tMED = getAttr p tMED) := by
  have h := ebgp_absent g peer p hrs ht
  refine ⟨fun a ha => ⟨(getAttr_none_iff _ _).1 h.1 a ha, (getAttr_none_iff _ _).1 h.2.1 a ha,
    (getAttr_none_iff _ _).1 h.2.2.1 a ha, fun hl => (getAttr_none_iff _ _).1 (h.2.2.2.1 hl) a ha⟩, h.2.2.2.2⟩

/-- To an eBGP peer the next hop is the session's local address, for every route that is not a
    local route with a specified next hop — provided the stored route has an attribute that can
    carry it (NEXT_HOP, MP_REACH_NLRI, or an IPv4-unicast route on a session with an IPv6 address). -/
theorem ebgp_next_hop (g : Global) (peer : Peer) (p : Path)
    (hrs : peer.rsClient = false) (ht : peer.peerType = 1) (hv : peer.localAddr.isValid = true)
    (hc : isLocal p = false ∨ (getNexthop p).isUnspecified = true)
    (h : hasNexthopAttr p ∨ (p.family = RF_IPv4_UC ∧ peer.localAddr.is6 = true)) :
    getNexthop (rewrite g peer p) = peer.localAddr := by
  have k3 := stripped_keeps peer p (t := tNEXT_HOP) (by decide) (Or.inl (by decide))
  have k14 := stripped_keeps peer p (t := tMP_REACH) (by decide) (Or.inl (by decide))
  rw [getNexthop_congr
    ((rewrite_ebgp_frame g peer p hrs ht (by decide)).trans (getAttr_updateExternal_nexthop g peer _ _ (Or.inl rfl)))
    ((rewrite_ebgp_frame g peer p hrs ht (by decide)).trans (getAttr_updateExternal_nexthop g peer _ _ (Or.inr rfl)))]
  have e1 : ext1 peer (stripped peer p) (getNexthop (stripped peer p)) =
      setNexthop (stripped peer p) peer.localAddr := by
    rw [ext1, isLocal_stripped, getNexthop_congr k3.1 k14.1]
    rcases hc with hc | hc <;> simp [hc]
  rw [e1]
  apply getNexthop_setNexthop _ _ k3.2 k14.2 hv
  rcases h with h | h
  · left
    unfold hasNexthopAttr at h ⊢
    rw [k3.1, k14.1]; exact h
  · right; rw [(sameNode_stripped peer p).family]; exact h

/-- To every peer that is not a route-server client (eBGP and iBGP alike), no attribute of a type
    unknown to gobgp without the transitive bit is in the serialised list.
    Hypothesis: the attribute types of the root (what came off the wire) are pairwise distinct. -/
theorem unknown_nontransitive_removed (g : Global) (peer : Peer) (p : Path)
    (hrs : peer.rsClient = false) (hn : (typs p.root.attrs).Nodup) :
    ∀ a ∈ getAttrs (rewrite g peer p), known a.typ = true ∨ transitive a.flags = true := by
  intro a ha
  cases hk : known a.typ with
  | true => exact Or.inl rfl
  | false =>
    cases htr : transitive a.flags with
    | true => exact Or.inr rfl
    | false =>
      exfalso
      -- `a` is read off the copy, hence off the fresh node, hence off the stored path ...
      have hg := getAttr_of_mem_getAttrs (rewrite g peer p) (by rw [rewrite_root g peer p hrs]; exact hn) ha
      have hfp : a.typ ∉ footprint := fun hin => by
        simp only [footprint, List.mem_cons, List.not_mem_nil, or_false] at hin
        rw [known_of_footprint hin] at hk; cases hk
      rw [(rewrite_touches g peer p hrs).frame _ hfp, getAttr_stripped] at hg
      split at hg
      · cases hg
      · -- ... where the first loop deletes it
        rename_i hnin
        have hd := stripped_drops peer p hg (by rw [strips_unknown hk, htr]; rfl)
        rw [stripped_dels] at hd
        exact hnin hd

/-- Everything else passes through: an attribute of a type other than AS_PATH, NEXT_HOP, MED,
    LOCAL_PREF, ORIGINATOR_ID, CLUSTER_LIST, MP_REACH_NLRI that is known or transitive is sent
    exactly as stored. -/
theorem other_attributes_unchanged (g : Global) (peer : Peer) (p : Path)
    (hrs : peer.rsClient = false) (hn : (typs p.root.attrs).Nodup) (t : Nat) (a : Attr)
    (ht : t ∉ footprint) (hg : getAttr p t = some a) (hka : known t = true ∨ transitive a.flags = true) :
    getAttr (rewrite g peer p) t = some a := by
  rw [(rewrite_touches g peer p hrs).frame _ ht, getAttr_stripped, if_neg, hg]
  intro hin
  -- the attribute of type `t` the first loop saw is `a` itself
  obtain ⟨b, hb, hs, hbt⟩ := mem_stripDels_iff.1 hin
  have hb' := getAttr_of_mem_getAttrs (clone p p.withdraw) hn hb
  rw [getAttr_clone, hbt, hg] at hb'
  cases Option.some.inj hb'
  rw [← hbt] at ht hka
  cases hk : known a.typ with
  | true =>
    rcases ((strips_known hk).1 hs).1 with e | e <;> exact ht (by rw [e]; decide)
  | false =>
    rw [strips_unknown hk] at hs
    rcases hka with h | h
    · rw [hk] at h; cases h
    · rw [h] at hs; cases hs

/-- To an iBGP peer the AS_PATH is the stored attribute itself (an empty one when there is none),
    LOCAL_PREF is present (the stored one, else 100), MED is the stored one, and unless the route is
    local with an unspecified next hop, NEXT_HOP and MP_REACH_NLRI are the stored attributes.
    Hypothesis: not the RFC 4684 case (RTC route to an RR client), where the next hop is rewritten. -/
theorem ibgp_unchanged (g : Global) (peer : Peer) (p : Path)
    (hrs : peer.rsClient = false) (ht : peer.peerType = 0)
    (hrtc : peer.rrClient = true → p.family ≠ RF_RTC_UC) :
    getAttr (rewrite g peer p) tAS_PATH = some ((getAttr p tAS_PATH).getD (mkAsPath [])) ∧
    getAttr (rewrite g peer p) tLOCAL_PREF = some ((getAttr p tLOCAL_PREF).getD (mkLocalPref 100)) ∧
    getAttr (rewrite g peer p) tMED = getAttr p tMED ∧
    ((isLocal p && (getNexthop p).isUnspecified) = false →
      getAttr (rewrite g peer p) tNEXT_HOP = getAttr p tNEXT_HOP ∧
      getAttr (rewrite g peer p) tMP_REACH = getAttr p tMP_REACH) := by
  have r := ibgp_reads g peer p hrs ht
  refine ⟨r.1, r.2.1, r.2.2, fun hc => ?_⟩
  have k3 := stripped_keeps peer p (t := tNEXT_HOP) (by decide) (Or.inl (by decide))
  have k14 := stripped_keeps peer p (t := tMP_REACH) (by decide) (Or.inl (by decide))
  -- the first step of the arm does nothing, and the RR block leaves the next hop alone outside the RFC 4684 case
  have hq : int1 peer (stripped peer p) (getNexthop (stripped peer p)) = stripped peer p := by
    rw [int1, isLocal_stripped, getNexthop_congr k3.1 k14.1, hc]; rfl
  rw [rewrite_ibgp_frame g peer p hrs ht (by decide) (by decide) (fun _ => hrtc),
    rewrite_ibgp_frame g peer p hrs ht (by decide) (by decide) (fun _ => hrtc),
    getAttr_ibgpHead_other _ _ _ (by decide) (by decide), getAttr_ibgpHead_other _ _ _ (by decide) (by decide),
    hq, k3.1, k14.1]
  exact ⟨rfl, rfl⟩

/-- To a route-reflector client: ORIGINATOR_ID is kept, else set to the router id of the source
    (the local router id for a local route) when that is an IPv4 address; CLUSTER_LIST is the local
    cluster-id followed by the stored list.  To a non-client iBGP peer neither attribute is sent. -/
theorem rr_client_attrs (g : Global) (peer : Peer) (p : Path)
    (hrs : peer.rsClient = false) (ht : peer.peerType = 0) :
    (peer.rrClient = true → p.family ≠ RF_RTC_UC →
      getAttr (rewrite g peer p) tORIGINATOR_ID =
        (getAttr p tORIGINATOR_ID).orElse
          (fun _ => mkOriginator? (if isLocal p then g.routerId else p.src.id)) ∧
      getAttr (rewrite g peer p) tCLUSTER_LIST = some (mkClusterList (peer.clusterId :: clusterList p))) ∧
    (peer.rrClient = false →
      getAttr (rewrite g peer p) tORIGINATOR_ID = none ∧ getAttr (rewrite g peer p) tCLUSTER_LIST = none) := by
  constructor
  · intro hr hf
    have rr := rewrite_rr g peer p hrs ht hr hf
    exact ⟨rr.1.trans (by rw [Option.orElse_eq_or]), rr.2⟩
  · intro hr
    rw [rewrite_ibgp g peer p hrs ht, updateInternal_eq, if_neg (Bool.eq_false_iff.1 hr)]
    have i := touches_ibgpHead_stripped peer p (getNexthop (stripped peer p))
    exact ⟨(i.frame _ (by decide)).trans (getAttr_stripped_rr_none peer p (Or.inr rfl) (Or.inr hr)),
      (i.frame _ (by decide)).trans (getAttr_stripped_rr_none peer p (Or.inl rfl) (Or.inr hr))⟩

/-- To a route-server client the route is the stored path itself. -/
theorem rs_client_identity (g : Global) (peer : Peer) (p : Path) (hrs : peer.rsClient = true) :
    rewrite g peer p = p := by
  simp [rewrite, postStrip, updatePathAttrs, hrs]

/-- Whatever (*BgpServer).filterpath announces is `rewrite` of the stored path (after the
    replace-peer-as step) and passed `filter`. -/
theorem announced_is_rewrite {g : Global} {peer : Peer} {p q : Path} {old : Option Path}
    (h : exportPath g peer p old = .update q) :
    filter peer (prep peer p) old = .path (prep peer p) ∧ q = rewrite g peer (prep peer p) := by
  rcases exportPath_sent h Sent.noConfusion Sent.noConfusion with ⟨hf, e | e⟩
  · exact ⟨hf, Sent.update.inj e⟩
  · cases e

/-- A route is never announced to a peer whose router id is the router id it was learned from
    (whatever session of that router), the RFC 4684 exception (RTC route to an RR client) aside. -/
theorem never_back_to_source (g : Global) (peer : Peer) (p : Path) (old : Option Path)
    (hid : peer.routerId = p.src.id)
    (hx : ¬ (peer.rsClient = false ∧ peer.rrClient = true ∧ p.family = RF_RTC_UC)) :
    ∀ q, exportPath g peer p old ≠ .update q := by
  intro q h
  have hs := prep_src peer p
  have hc := (filter_path (announced_is_rewrite h).1).2.2.1 (by rw [hs.1]; exact hid)
  simp only [hs.2, Bool.and_eq_true, beq_iff_eq, Bool.not_eq_eq_eq_not, Bool.not_true] at hc
  exact hx ⟨hc.1.1, hc.1.2, hc.2⟩

/-- A route whose AS_PATH holds the peer's AS in an AS_SEQUENCE or AS_SET (after replace-peer-as,
    when configured) is never announced to that peer, route-server clients and local routes under
    allow-as-path-loop-local aside. -/
theorem never_to_as_in_path (g : Global) (peer : Peer) (p : Path) (old : Option Path)
    (hrs : peer.rsClient = false) (hloop : (asList (prep peer p)).contains peer.as = true)
    (hx : isLocal p = false ∨ peer.allowLoopLocal = false) :
    ∀ q, exportPath g peer p old ≠ .update q := by
  intro q h
  have hl := (filter_path (announced_is_rewrite h).1).2.2.2 (by rw [hrs, isASLoop, hloop]; rfl)
  rw [isLocal_prep] at hl
  rcases hx with e | e <;> simp [e] at hl

/- FULL STATEMENT, FALSE OF THE CODE: "… never announced to an eBGP peer whose AS is anywhere in its
   AS_PATH".  isASLoop reads Path.GetAsList, which skips AS_CONFED_SEQUENCE / AS_CONFED_SET, and
   those segments are kept toward confederation members.  Witness (replayed on the real code by
   the server harness, class `loop:peer-as-in-confed-segment`): -/

def cxGlobal : Global := ⟨100, ⟨4, 1⟩, true, 500, [65001, 65002]⟩
def cxPeer : Peer :=
  { peerType := 1, as := 65002, localAS := 100, localAddr := ⟨4, 2⟩, rrClient := false, clusterId := 0,
    rsClient := false, removePrivate := 0, routerId := ⟨4, 3⟩, addr := ⟨4, 4⟩, allowLoopLocal := false,
    replacePeerAs := false, famEnabled := true, llgrEnabled := false }
def cxRoute : Path :=
  { leaf := ⟨[⟨1, 64, .num 0⟩, mkAsPath [⟨3, [65001, 65002]⟩], mkNextHop ⟨4, 9⟩], []⟩, parents := [],
    src := ⟨65001, ⟨4, 5⟩, ⟨4, 1⟩, ⟨4, 6⟩, false⟩, family := RF_IPv4_UC, withdraw := false, nlri := "" }

theorem never_to_as_in_path_confed_counterexample :
    cxPeer.peerType = 1 ∧ cxPeer.rsClient = false ∧
    getAsPath cxRoute = some [⟨3, [65001, 65002]⟩] ∧ cxPeer.as ∈ allAS [⟨3, [65001, 65002]⟩] ∧
    ∃ q, exportPath cxGlobal cxPeer cxRoute none = .update q ∧
      getAsPath q = some [⟨3, [100, 65001, 65002]⟩] := by
  refine ⟨rfl, rfl, by decide +kernel, by decide +kernel,
    rewrite cxGlobal cxPeer (prep cxPeer cxRoute), by decide +kernel⟩

/-- A route learned from an iBGP peer that is not a route-reflector client is never announced to
    an iBGP peer that is not a client either. -/
theorem no_nonclient_to_nonclient (g : Global) (peer : Peer) (p : Path) (old : Option Path)
    (ht : peer.peerType = 0) (hr : peer.rrClient = false) (hl : isLocal p = false)
    (has : p.src.as = peer.as) (hsr : p.src.rrClient = false) :
    ∀ q, exportPath g peer p old ≠ .update q := by
  intro q h
  have hi := (filter_path (announced_is_rewrite h).1).2.1 ht
  simp [ibgpIgnore, isLocal_prep, (prep_src peer p).1, hl, has, hsr, hr] at hi

/-- A route whose CLUSTER_LIST already holds the cluster-id used toward a client is not reflected
    to that client: the filter never answers with the route (it answers with nothing, or — since
    /repo's commit "fix: withdraw the old best path when the new one carries the local
    cluster-id" — with the withdrawal of the old best path the client may hold). -/
theorem cluster_loop_not_reflected (peer : Peer) (p : Path) (old : Option Path)
    (ht : peer.peerType = 0) (hr : peer.rrClient = true) (hl : isLocal p = false)
    (hc : (clusterList p).contains peer.clusterId = true) :
    ∀ q, filter peer p old ≠ .path q := by
  intro q h
  have hi := (filter_path h).2.1 ht
  simp only [ibgpIgnore, hl, hr, hc, Bool.not_false, if_true, reduceCtorEq] at hi

/-- hasOwnASLoop counts the occurrences of the local AS — and of the confederation identifier when
    confederation is on and it differs — over all segments, and compares with allow-own-as. -/
theorem hasOwnASLoop_iff (own limit : Nat) (segs : List Seg) (cid : Nat) (ce : Bool) :
    hasOwnASLoop own limit segs cid ce =
      decide ((allAS segs).count own + (if ce && cid != own then (allAS segs).count cid else 0) > limit) := by
  rw [hasOwnASLoop, ownASCount_eq]

/-- A received route is rejected when its AS_PATH holds the local AS (or the confederation
    identifier) more often than allow-own-as, or, on an iBGP session, when its ORIGINATOR_ID is the
    local router id. -/
theorem inbound_loop_rejected (g : Global) (localAS allowOwnAS : Nat) (isIBGP : Bool) (p : Path) :
    (∀ segs, getAsPath p = some segs →
        (allAS segs).count localAS +
          (if g.confedEnabled && g.confedId != localAS then (allAS segs).count g.confedId else 0) > allowOwnAS →
        inboundReject g localAS allowOwnAS isIBGP p = true) ∧
    (isIBGP = true → originatorId p = g.routerId → inboundReject g localAS allowOwnAS isIBGP p = true) := by
  constructor
  · intro segs hs hc
    have : hasOwnASLoop localAS allowOwnAS segs g.confedId g.confedEnabled = true := by
      rw [hasOwnASLoop_iff]; exact decide_eq_true hc
    simp only [inboundReject, hs, this, Bool.true_or]
  · intro hi ho
    simp only [inboundReject, hi, ho, beq_self_eq_true, Bool.and_self, Bool.or_true]

/- FULL STATEMENT, FALSE OF THE CODE: "… or the local cluster-id in CLUSTER_LIST".  handleUpdate has
   no CLUSTER_LIST test at all (the only one is in filterpath, toward RR clients).  Witness
   (replayed on the real code by the server harness, class `inbound:local-cluster-id-accepted`):
   a route from an iBGP peer whose CLUSTER_LIST is [1.1.1.1] on a router whose cluster-id is
   1.1.1.1 is accepted. -/
def cxRR : Global := ⟨65000, ⟨4, 16843009⟩, false, 0, []⟩
def cxReflected : Path :=
  { leaf := ⟨[⟨1, 64, .num 0⟩, mkAsPath [], mkNextHop ⟨4, 9⟩, mkLocalPref 100,
              mkOriginator ⟨4, 7⟩, mkClusterList [16843009]], []⟩, parents := [],
    src := ⟨65000, ⟨4, 5⟩, ⟨4, 16843009⟩, ⟨4, 6⟩, false⟩, family := RF_IPv4_UC, withdraw := false, nlri := "" }

theorem inbound_cluster_id_counterexample :
    16843009 ∈ clusterList cxReflected ∧ inboundReject cxRR 65000 0 true cxReflected = false := by
  constructor <;> decide

/-! `runIn` (Model/ExportReplay.lean) is the Adj-RIB-In of one peer after any sequence of announcements and withdrawals
  (handleUpdate marks the received path itself, adjRibIn.Update stores it); `replayList` is what
  softResetIn (PathList(families, accepted)) and StaleAll hand to the Loc-RIB again. -/

/-- After ANY history of UPDATEs, every stored entry is marked rejected exactly when its route fails
    an inbound loop check — so the accepted listing and the accepted counter leave it out. -/
theorem stored_loop_marked (g : Global) (localAS allowOwnAS : Nat) (isIBGP : Bool) (evs : List InEv) :
    (∀ e ∈ runIn g localAS allowOwnAS isIBGP evs,
        e.rejected = inboundReject g localAS allowOwnAS isIBGP e.path) ∧
    acceptedCount (runIn g localAS allowOwnAS isIBGP evs) =
      ((runIn g localAS allowOwnAS isIBGP evs).filter
        (fun e => !inboundReject g localAS allowOwnAS isIBGP e.path)).length := by
  have hm := marked_run g localAS allowOwnAS isIBGP evs
  refine ⟨hm, ?_⟩
  unfold acceptedCount replayList
  congr 1
  apply List.filter_congr
  intro e he
  rw [hm e he]

/-- After ANY history, no later replay of the stored state (soft reset in, a policy change followed
    by one, StaleAll under graceful restart) hands a route that fails an inbound loop check to the
    Loc-RIB: everything replayed passes both checks. -/
theorem replay_never_uses_looped (g : Global) (localAS allowOwnAS : Nat) (isIBGP : Bool) (evs : List InEv) :
    ∀ e ∈ replayList (runIn g localAS allowOwnAS isIBGP evs),
      inboundReject g localAS allowOwnAS isIBGP e.path = false := by
  intro e he
  have hm := marked_run g localAS allowOwnAS isIBGP evs
  have h1 := List.mem_filter.1 he
  have := hm e h1.1
  have hr : e.rejected = false := by simpa using h1.2
  rw [← this, hr]

/-- … in particular a route whose AS_PATH holds the local AS (or the confederation identifier) more
    often than allow-own-as, in whatever segment types, is in no replay. -/
theorem replay_excludes_own_as_loop (g : Global) (localAS allowOwnAS : Nat) (isIBGP : Bool) (evs : List InEv)
    (e : AdjIn) (he : e ∈ replayList (runIn g localAS allowOwnAS isIBGP evs)) (segs : List Seg)
    (hs : getAsPath e.path = some segs) :
    (allAS segs).count localAS +
      (if g.confedEnabled && g.confedId != localAS then (allAS segs).count g.confedId else 0) ≤ allowOwnAS := by
  refine Nat.le_of_not_lt fun hc => ?_
  have h := replay_never_uses_looped g localAS allowOwnAS isIBGP evs e he
  rw [(inbound_loop_rejected g localAS allowOwnAS isIBGP e.path).1 segs hs hc] at h
  cases h

/-- Model level: the peer's copy is a fresh node whose parent chain is the stored path, node for
    node; source, family and NLRI are the stored ones.  (Lean values are immutable, so this alone
    says nothing about Go slices — see `overlay_pure` below for that.) -/
theorem copy_is_overlay (g : Global) (peer : Peer) (p : Path) (hrs : peer.rsClient = false) :
    (rewrite g peer p).parents = p.leaf :: p.parents ∧ (rewrite g peer p).src = p.src ∧
    (rewrite g peer p).family = p.family ∧ (rewrite g peer p).nlri = p.nlri := by
  have h := rewrite_sameNode g peer p hrs
  exact ⟨h.parents, h.src, h.family, h.nlri⟩

/-! ### the same statement where it can fail: Go slices (Model/GoSlice.lean)

  Heap = arrays of cells, slice = (array, off, len, cap), `append` writes in place when the capacity
  suffices.  `runOps` applies any sequence of setPathAttr / delPathAttr — all that UpdatePathAttrs,
  SetNexthop, PrependAsn, RemovePrivateAS, removeConfedAs, ReplaceAS, RemoveLocalPref do to a node —
  with the slice operation path.go uses for each. -/

open GoSlice in
/-- **overlay_pure.** Whatever attribute writes and deletions are applied to a node that Path.Clone
    just created (both slices nil), in whatever heap, every slice that existed before — the
    `pathAttrs` and `dels` of the stored path and of every other copy, and every payload array —
    reads exactly what it read before. -/
theorem overlay_pure (typOf : Nat → Nat) (h : Heap) (ops : List NodeOp) (s : Slice) (hs : s.arr < h.length) :
    read (runOps typOf h Node.fresh ops).1 s = read h s :=
  read_of_keeps (keeps_runOps typOf ops ⟨Keeps.refl (Nat.le_refl _), owned_nil _, owned_nil _⟩).1 s hs

open GoSlice in
/-- … and the node keeps writing only to its own arrays afterwards: a node that owns its slices
    (nil, or in arrays allocated since the watermark) still does after any further operations, and
    nothing below the watermark changes.  (Induction step of the above; covers a copy that is
    rewritten a second time, e.g. by policy actions after UpdatePathAttrs.) -/
theorem overlay_pure_owned (typOf : Nat → Nat) (base : Nat) (h : Heap) (n : Node) (ops : List NodeOp)
    (hb : base ≤ h.length) (ho : OwnedNode base n) (s : Slice) (hs : s.arr < base) :
    read (runOps typOf h n ops).1 s = read h s ∧ OwnedNode base (runOps typOf h n ops).2 :=
  have k := keeps_runOps typOf ops ⟨Keeps.refl hb, ho⟩
  ⟨read_of_keeps k.1 s hs, k.2⟩

open GoSlice in
/-- The payload builders — the `make` + `append` loops of RemovePrivateAS / ReplaceAS / cloneAsPath and
    the scratch arithmetic of PrependAsn (as fixed) — write to fresh arrays only. -/
theorem payload_builders_pure (f : Nat → Option Nat) (h : Heap) (input : Slice) (asn repeatN rep : Nat)
    (s : Slice) (hs : s.arr < h.length) :
    read (filterMapGo f h input).1 s = read h s ∧
    read (prependScratchNew h asn repeatN rep input).1 s = read h s :=
  ⟨read_of_keeps (keeps_filterMapGo f h input) s hs,
   read_of_keeps (keeps_prependScratchNew h asn repeatN rep input) s hs⟩

/- Why "fresh" matters — the statement is FALSE for a node whose slice shares an array with spare
   capacity with somebody else (this is the shape of the SetLargeCommunities defect of C10): -/
open GoSlice in
theorem shared_capacity_counterexample :
    let h : Heap := [[11, 12, 13]]
    let mine : Node := ⟨⟨0, 0, 2, 3⟩, Slice.nil⟩      -- pathAttrs = arr[0:2], cap 3
    let theirs : Slice := ⟨0, 0, 3, 3⟩                -- somebody else's view arr[0:3]
    read (setAttrGo (fun c => c) h mine 99).1 theirs = [11, 12, 99] ∧ read h theirs = [11, 12, 13] := by
  decide

/- The defect of PrependAsn that /repo's commit "fix: PrependAsn with repeat 255 put the old
   leading AS into the new segment" removes: with repeat = 255 cut down to
   rep = 255 - len(asList), `append(asns[:rep], asList...)` has room to write asList over the tail
   of `asns`, and that tail is what becomes the new leading segment. -/
open GoSlice in
theorem prepend_scratch_old_counterexample :
    let h : Heap := [[64511, 300]]
    let asList : Slice := ⟨0, 0, 2, 2⟩
    let old := prependScratchOld h 23456 255 253 asList
    let new := prependScratchNew h 23456 255 253 asList
    read old.1 old.2.2 = [64511, 300] ∧                   -- should be [23456, 23456]
    read new.1 new.2.2 = [23456, 23456] ∧
    read new.1 new.2.1 = List.replicate 253 23456 ++ [64511, 300] := by
  -- the 255-cell arrays are too deep for the elaborator's evaluator; the kernel's has no such limit
  decide +kernel

/-! ## non-vacuity: concrete peers and routes satisfying the hypotheses above

  Where a whole `rewrite`, `exportPath` or `runIn` is evaluated it is left to the kernel alone
  (`decide +kernel`); plain `decide` would run the same evaluation in the elaborator first. -/

def exG : Global := ⟨65000, ⟨4, 100⟩, true, 500, [65001, 65002]⟩
def exEbgp : Peer :=
  { peerType := 1, as := 200, localAS := 65000, localAddr := ⟨4, 1⟩, rrClient := false, clusterId := 0,
    rsClient := false, removePrivate := 1, routerId := ⟨4, 9⟩, addr := ⟨4, 10⟩, allowLoopLocal := false,
    replacePeerAs := false, famEnabled := true, llgrEnabled := false }
def exIbgpRR : Peer := { exEbgp with peerType := 0, as := 65000, rrClient := true, clusterId := 77, removePrivate := 0 }
def exIbgp : Peer := { exIbgpRR with rrClient := false }
def exRS : Peer := { exEbgp with rsClient := true }
def exRoute : Path :=
  { leaf := ⟨[⟨1, 64, .num 0⟩, mkAsPath [⟨2, [300, 64512]⟩, ⟨3, [65001]⟩], mkNextHop ⟨4, 7⟩,
              ⟨4, 128, .num 5⟩, mkLocalPref 200, mkOriginator ⟨4, 8⟩, mkClusterList [5],
              ⟨99, 128, .raw "00"⟩, ⟨200, 192, .raw "01"⟩], []⟩,
    parents := [], src := ⟨300, ⟨4, 20⟩, ⟨4, 100⟩, ⟨4, 21⟩, false⟩, family := RF_IPv4_UC,
    withdraw := false, nlri := "" }

example : exEbgp.rsClient = false ∧ exEbgp.peerType = 1 ∧ exEbgp.localAddr.isValid = true ∧
    isLocal exRoute = false ∧ (typs exRoute.root.attrs).Nodup ∧
    (getAttr exRoute tNEXT_HOP).isSome = true := by decide +kernel
example : getAsPath (rewrite exG exEbgp exRoute) = some [⟨2, [65000, 300]⟩] := by decide +kernel
example : (getAttrs (rewrite exG exEbgp exRoute)).map (·.typ) = [1, 2, 3, 200] := by decide +kernel
example : getNexthop (rewrite exG exEbgp exRoute) = ⟨4, 1⟩ := by decide +kernel
example : exIbgpRR.rsClient = false ∧ exIbgpRR.peerType = 0 ∧ exIbgpRR.rrClient = true ∧
    exRoute.family ≠ RF_RTC_UC := by decide
example : getAttr (rewrite exG exIbgpRR exRoute) tCLUSTER_LIST = some (mkClusterList [77, 5]) := by decide +kernel
example : exIbgp.peerType = 0 ∧ exIbgp.rrClient = false ∧ exRS.rsClient = true := by decide
example : ∃ q, exportPath exG exEbgp exRoute none = .update q :=
  ⟨rewrite exG exEbgp (prep exEbgp exRoute), by decide +kernel⟩
-- never_back_to_source / never_to_as_in_path / no_nonclient_to_nonclient / cluster_loop: hypotheses met
example : ({ exEbgp with routerId := ⟨4, 20⟩ } : Peer).routerId = exRoute.src.id := by decide
example : (asList (prep { exEbgp with as := 300 } exRoute)).contains 300 = true ∧ isLocal exRoute = false := by decide
example : ({ exIbgp with as := 300 } : Peer).peerType = 0 ∧ exRoute.src.as = 300 ∧ exRoute.src.rrClient = false := by decide
example : (clusterList exRoute).contains ({ exIbgpRR with clusterId := 5 } : Peer).clusterId = true := by decide
-- inbound_loop_rejected: both hypotheses met by concrete routes
example : getAsPath exRoute = some [⟨2, [300, 64512]⟩, ⟨3, [65001]⟩] ∧
    (allAS [⟨2, [300, 64512]⟩, ⟨3, [65001]⟩]).count 300 + 0 > 0 := by decide +kernel
example : originatorId exRoute = (⟨4, 8⟩ : Addr) := by decide
-- stored_loop_marked / replay_*: a history with a clean and a looped announcement: only the clean one is replayed
example : (replayList (runIn exG 300 0 false [.ann 1 exRoute, .ann 2 cxRoute])).map (·.key) = [2] ∧
    (runIn exG 300 0 false [.ann 1 exRoute, .ann 2 cxRoute]).map (·.rejected) = [true, false] := by decide +kernel

end C09
