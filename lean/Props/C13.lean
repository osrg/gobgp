/-
C13 — compiled community matchers decide exactly what their regular expressions decide.

Objects (all in Model/): `Regex.parse` / `Regex.search` = the regular-expression fragment and Go's
`regexp.MatchString` on it (validated against Go's regexp by the correspondence run, stream "rx");
`CommMatch.compile`, `matchFast`, `buildIdx`, `matchesAny`, `evaluate`, `CSet.edit`, `compileExt`,
`matchExt`, `evaluateExt` = hand-written mirrors of internal/pkg/table/policy.go (with the four
`fix:` commits), tied to the code by the correspondence run (streams "cm/xm", "ev/…").

WHAT IS PROVED, for ALL pattern strings of the fragment, all community values, all lists, options and
edit sequences:
  * `search_spec`          the executable matcher = the declarative semantics `Match`
  * `compile_sound`        standard communities, EVERY compiled mode (exact / fixed-AS wildcard /
                           fixed-AS bitmap / wildcard-AS bitmap / regexp): the compiled matcher = the
                           regular expression on the canonical text
  * `index_sound`          the any/invert index = the pattern loop over the compiled matchers
  * `evaluate_eq_regex`    CommunityCondition.Evaluate = the reference loop over the regexps
  * `refEval_any/_all/_invert`  what that reference loop means
  * `edit_equiv`, `evaluate_after_edits`   the compiled form after any edit sequence is the
                           compilation of the edited list, and still decides what the regexps decide
  * `compileExt_sound`, `evaluateExt_eq_regex`   extended communities, EVERY compiled mode (exact /
                           AS-only / AS bitmap / local bitmap / regexp), every kind of extended community
WHAT IS NOT PROVED (only sampled by the correspondence run and the Go-side oracle):
  * patterns outside the fragment (`parse s ≠ ok`): the theorems carry the hypothesis `parse s = ok r`
    (`InFragment` for lists);
  * large communities have no compiled form: `LargeCommunityCondition.Evaluate` IS `refEval`.
-/
import Model.CommMatch
import Lemmas.C13Main
namespace C13
open Regex CommMatch

/-- the executable regexp matcher decides the declarative semantics: some substring matches -/
theorem search_spec (r : R) (t : List Nat) :
    search r t = true ↔ ∃ i j, i ≤ t.length ∧ Match t r i j := search_iff

/-- **compile_sound** (standard communities). For every pattern source `s` of the fragment
(`parse s = ok r`), at any list position `i`, whatever mode it compiles to, the compiled matcher
decides exactly what the regular expression decides on the canonical text `AS:local`
of every community value `c`. -/
theorem compile_sound (s : Str) (i : Nat) (pats : List Str) (r : R) (c : Nat)
    (hp : parse s = .ok r) (hi : pats[i]? = some s) :
    matchFast (compile s i) pats c = search r (render c) :=
  compile_sound_full s i pats r c hp hi

-- hypotheses are satisfiable: `^100:(5|6)$` compiles to the fixed-AS bitmap mode (2)
example : ∃ r, parse [94, 49, 48, 48, 58, 40, 53, 124, 54, 41, 36] = .ok r ∧
    (compile [94, 49, 48, 48, 58, 40, 53, 124, 54, 41, 36] 0).mode = 2 := ⟨_, rfl, by decide +kernel⟩
-- `^100:200$` → exact (0);  `^100:.*$` → fixed-AS wildcard (1);  `100:` → regexp (4)
example : (compile [94, 49, 48, 48, 58, 50, 48, 48, 36] 0).mode = 0 := by decide +kernel
example : (compile [94, 49, 48, 48, 58, 46, 42, 36] 0).mode = 1 := by decide +kernel
example : (compile [49, 48, 48, 58] 0).mode = 4 := by decide +kernel
-- `^\d+:(5|7)$` → wildcard-AS bitmap (3)
example : (compile [94, 92, 100, 43, 58, 40, 53, 124, 55, 41, 36] 0).mode = 3 := by decide +kernel
-- the near misses of the unfixed code: `^0100:200$` and `^100:?5` stay in regexp mode (4);
-- `^100:5:\d+$` gets the fixed-AS bitmap (2), which is filled by running the regexp
example : (compile [94, 48, 49, 48, 48, 58, 50, 48, 48, 36] 0).mode = 4 := by decide +kernel
example : (compile [94, 49, 48, 48, 58, 63, 53] 0).mode = 4 := by decide +kernel
example : (compile [94, 49, 48, 48, 58, 53, 58, 92, 100, 43, 36] 0).mode = 2 := by decide +kernel

/-- **index_sound**: when no matcher is in regexp mode, the OR-index answers what the loop over the
compiled matchers answers -/
theorem index_sound (ms : List CM) (pats : List Str) (cs : List Nat)
    (hre : (buildIdx ms).hasRegexp = false) :
    matchesAny (buildIdx ms) cs = cs.any (fun c => ms.any (fun m => matchFast m pats c)) :=
  matchesAny_build ms pats cs hre

example : (buildIdx (compileFrom 0 [[94, 49, 48, 48, 58, 46, 42, 36]])).hasRegexp = false := by decide +kernel

example : InFragment [[94, 49, 48, 48, 58, 46, 42, 36], [49, 48, 48, 58], [94, 92, 100, 43, 58, 40, 53, 124, 55, 41, 36]] := by
  intro s hs
  simp only [List.mem_cons, List.not_mem_nil, or_false] at hs
  rcases hs with rfl | rfl | rfl <;> exact ⟨_, rfl⟩

/-- **evaluate_eq_regex**: `CommunityCondition.Evaluate` on a route with communities `cs` equals the
reference loop over the regular expressions on the canonical texts, for ANY (0), ALL (1), INVERT (2) -/
theorem evaluate_eq_regex (opt : Nat) (list : List Str) (cs : List Nat) (hs : InFragment list) :
    evaluate opt (CSet.build list) cs = refEval opt list (cs.map render) := by
  rw [evaluate_build opt list cs]
  unfold refEval
  congr 1
  exact loop_compile_full opt list cs list [] false rfl hs

/-- the reference under ANY: some pattern matches some community -/
theorem refEval_any (list texts : List Str) :
    refEval 0 list texts = list.any (fun p => texts.any (fun t => reMatch p t)) := by
  simp [refEval, finish, evalLoop_any 0 (by decide)]

/-- the reference under INVERT: no pattern matches any community -/
theorem refEval_invert (list texts : List Str) :
    refEval 2 list texts = !(list.any (fun p => texts.any (fun t => reMatch p t))) := by
  simp [refEval, finish, evalLoop_any 2 (by decide)]

/-- the reference under ALL: the list is not empty and every pattern matches some community -/
theorem refEval_all (list texts : List Str) :
    refEval 1 list texts = (!list.isEmpty && list.all (fun p => texts.any (fun t => reMatch p t))) := by
  simp [refEval, finish, evalLoop_all]

/-- **edit_equiv**: after any sequence of Append / Remove / Replace the compiled form is the
compilation of the edited pattern list -/
theorem edit_equiv (l0 : List Str) (es : List Edit) :
    es.foldl CSet.edit (CSet.build l0) = CSet.build (es.foldl editList l0) := by
  induction es generalizing l0 with
  | nil => rfl
  | cons e es ih =>
    simp only [List.foldl_cons]
    have : (CSet.build l0).edit e = CSet.build (editList l0 e) := rfl
    rw [this, ih]

/-- … and therefore still decides what the regular expressions of the edited list decide -/
theorem evaluate_after_edits (opt : Nat) (l0 : List Str) (es : List Edit) (cs : List Nat)
    (hs : InFragment (es.foldl editList l0)) :
    evaluate opt (es.foldl CSet.edit (CSet.build l0)) cs =
      refEval opt (es.foldl editList l0) (cs.map render) := by
  rw [edit_equiv, evaluate_eq_regex opt _ cs hs]

example : InFragment ([Edit.append [[49, 48, 48, 58]], Edit.remove [[94, 49, 48, 48, 58, 46, 42, 36]]].foldl editList
    [[94, 49, 48, 48, 58, 46, 42, 36]]) := by
  intro s hs
  have : s = [49, 48, 48, 58] := by simpa [editList] using hs
  subst this
  exact ⟨_, rfl⟩

/-- **compileExt_sound**. `ECWF x` says: if `x` is not two-octet-AS-specific, its text does not start
with `<digits>:` (true of every kind gobgp renders; checked by the harness on every generated one). -/
theorem compileExt_sound (sub : Nat) (s : Str) (r : R) (x : EC)
    (hp : parse s = .ok r) (hx : ECWF x) :
    matchExt (compileExt sub s) x = (x.sub == sub && search r x.text) :=
  compileExt_sound_full sub s r x hp hx

-- `^100:70000$` → exact (0) with a 32-bit local-admin; `^100:\d+$` → AS-only (1)
example : (compileExt 2 [94, 49, 48, 48, 58, 55, 48, 48, 48, 48, 36]).mode = 0 := by decide +kernel
example : (compileExt 2 [94, 49, 48, 48, 58, 92, 100, 43, 36]).mode = 1 := by decide +kernel
-- `^100:(5|7)$` → AS bitmap (2); `^\d+:(5|7)$` → local bitmap (3)
example : (compileExt 2 [94, 49, 48, 48, 58, 40, 53, 124, 55, 41, 36]).mode = 2 := by decide +kernel
example : (compileExt 2 [94, 92, 100, 43, 58, 40, 53, 124, 55, 41, 36]).mode = 3 := by decide +kernel
example : ECWF (.other 2 true [49, 46, 50, 58, 51]) := by
  intro A u h hd
  cases A with
  | nil => simp at h
  | cons a A =>
    simp only [List.cons_append, List.cons.injEq] at h
    cases A with
    | nil => simp at h
    | cons b A =>
      simp only [List.cons_append, List.cons.injEq] at h
      obtain ⟨rfl, rfl, _⟩ := h
      simp [isDigit] at hd

/-- **evaluateExt_eq_regex**: `ExtCommunityCondition.Evaluate` (index fast path included) equals the
reference: for each pattern, some TRANSITIVE extended community of the pattern's sub-type whose text
the regular expression matches; combined under ANY / ALL / INVERT by the same loop -/
theorem evaluateExt_eq_regex (opt : Nat) (list : List (Nat × Str)) (es : List EC)
    (hs : InFragmentX list) (hes : ∀ x ∈ es, ECWF x) :
    evaluateExt opt (XSet.build list) es = refEvalExt opt list es := by
  rw [evaluateExt_eq_loop opt list es]
  unfold refEvalExt
  congr 1
  exact loop_compileExt_full opt es hes list false hs

end C13
