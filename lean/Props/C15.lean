/-
  C15 — soft reset (in / out / both) and ROUTE-REFRESH equal a fresh evaluation under the
  current policy.

  Model: Model/SoftReset.lean — the C01/C02 world (Model/World.lean) extended with a policy
  interpreter (community-set / neighbor-set / prefix-set / as-path-set (ANY over the current
  members) and as-path-length conditions, set-med / set-local-pref / community-add,
  accept / reject / fall through; import policy in propagateUpdate, export policy with the
  re-evaluation of `old` in (*BgpServer).filterpath), peer.sentPaths, softResetIn, softResetOut,
  handleRouteRefresh, sReset and the "all" forms.  Tied to the code by
  go/overlay/pkg/server/zz_verif_c15_test.go: real BgpServer, real policies configured through
  the API, ResetPeer / ROUTE-REFRESH, views parsed back from the UPDATEs actually packed.

  WHAT IS PROVED, about what:
   * export side, per destination and target peer (the unit the prefix bucket lock and the
     per-peer refresh lock serialise): `delta_correct_policy`, `weak_invariant_step`,
     `soft_out_restores`, `soft_out_idempotent`, `soft_out_no_dup`, `soft_out_no_loss`,
     `soft_out_withdraw_only_sent`, and the interleaving form `soft_equals_fresh_view` over
     arbitrary destination histories (route changes under arbitrary earlier policies, resets,
     route changes after the reset);
   * import side, per destination (all sources), for ARBITRARY key-preserving import functions —
     not only the modelled interpreter: `soft_in_equals_fresh`, `soft_in_idempotent`,
     `soft_in_then_changes` over whole event histories in which every event was evaluated under
     whatever policy was in force when it arrived;
   * the whole speaker (all destinations and peers at once, Model/SoftResetWorld.lean, the
     product of the per-destination steps): `C15_soft_reset_equals_fresh_world`,
     `C15_reset_idempotent_world`, `C15_soft_out_peer_world`, with `ties_counterexample` for
     the hypothesis on ties;
   * beside these: the locking premise in the form the harness checks (`refresh_lock_premise`),
     the order of a re-advertisement pass (`withdrawals_first_announce_wins`,
     `withdrawals_last_counterexample`) and a known finding
     (`emptied_prefix_set_invert_counterexample`, `prefix_condition_family_partial`).
  WHAT IS ONLY SAMPLED (harness, every run): that the whole-speaker functions `softOut`, `softIn`,
  `fanoutP` of Model/SoftReset.lean (`S`, the mirror of the Go functions) decompose into these
  per-destination steps, i.e. that `S` and the product model answer alike (the driver runs both),
  and that the model is the code.
  `delta_correct_policy` needs that the `old` best is judged, when the policy rejects the new
  best, exactly as it was judged when it was advertised (loop prevention + UpdatePathAttrs +
  policy). The pinned tree evaluated the raw Loc-RIB path instead: with a condition on an
  attribute UpdatePathAttrs rewrites (as-path-length toward an eBGP peer — modelled and
  generated) the theorem was false and the real server left a stuck route; repaired by a `fix:`
  commit, the model mirrors the repaired code.
-/
import Lemmas.SoftReset
import Lemmas.SoftResetIn
import Lemmas.SoftResetWorld
namespace C15
open BestPath World SoftReset SoftResetIn

/-! ## export side -/

/-- **delta_correct with export policy.** While the export policy `e` does not change, a peer
    that holds exactly the export of the old best path (loop prevention + UpdatePathAttrs +
    policy `e`, attributes included) holds exactly the export of the new best path after the
    incremental fan-out — including the case where the policy rejects the new best and the old
    one has to be withdrawn. -/
theorem delta_correct_policy (g : Global) (e : Pol) (t : PeerCfg) (hrs : t.isRSClient = false)
    (oldL newL : List Cand)
    (wfO : ∀ o, oldL.head? = some o → FromPeerWF g t o)
    (wfEq : ∀ b o, newL.head? = some b → oldL.head? = some o →
      b.src.equal o.src = true → b.src = o.src)
    (wfP : ∀ b o, newL.head? = some b → oldL.head? = some o → b.pfx = o.pfx) :
    heldApplyP g t (wantOfP g e t oldL) (deltaForP g e t oldL newL) = wantOfP g e t newL :=
  delta_correct_P g e t hrs oldL newL wfO wfEq wfP

/-- **weak_invariant_step.** Whatever export policy is in force when a destination changes —
    in particular one that differs from the policy under which the peer was last told — the
    fan-out keeps: "if the peer holds anything for the destination, the current best path is
    reachable and passes loop prevention toward it". -/
theorem weak_invariant_step (g : Global) (e : Pol) (t : PeerCfg) (hrs : t.isRSClient = false)
    (oldL newL : List Cand) (h : Option Held)
    (wfO : ∀ o, oldL.head? = some o → FromPeerWF g t o)
    (wfEq : ∀ b o, newL.head? = some b → oldL.head? = some o →
      b.src.equal o.src = true → b.src = o.src)
    (inv : WeakInv g t oldL h) :
    WeakInv g t newL (heldApplyP g t h (deltaForP g e t oldL newL)) :=
  weak_inv_step g e t hrs oldL newL h wfO wfEq inv

/-- **soft_out_restores.** From any state satisfying the weak invariant (with sentPaths agreeing
    with what the peer holds), softResetOut / handleRouteRefresh leave the peer with exactly the
    export of the current best path under the current policy: a route the policy now rejects is
    withdrawn (it is in sentPaths), a newly accepted one is announced, changed attributes are
    re-sent. -/
theorem soft_out_restores (g : Global) (e : Pol) (t : PeerCfg) (l : List Cand) (h : Option Held)
    (inv : WeakInv g t l h) :
    heldApplyList g t h (softOutFor g e t l h.isSome) = wantOfP g e t l :=
  SoftReset.soft_out_restores g e t l h inv

/-- **soft_out_idempotent.** Repeating the reset changes nothing (the announcements are sent
    again — it is a refresh — but they are what the peer holds, and nothing is withdrawn unless
    the route is LLGR-stale toward a peer without LLGR, see `soft_out_withdraw_only_sent`). -/
theorem soft_out_idempotent (g : Global) (e : Pol) (t : PeerCfg) (l : List Cand) :
    heldApplyList g t (wantOfP g e t l) (softOutFor g e t l (wantOfP g e t l).isSome) =
      wantOfP g e t l :=
  SoftReset.soft_out_restores g e t l _ (weak_of_want g e t l)

/-- no duplicate: one reset emits at most one path per destination and peer -/
theorem soft_out_no_dup (g : Global) (e : Pol) (t : PeerCfg) (l : List Cand) (sent : Bool) :
    (softOutFor g e t l sent).length ≤ 1 := by
  unfold softOutFor
  cases l.head? with
  | none => simp
  | some b =>
    simp only
    split
    · simp
    · cases sFilterpathP g e t ⟨b, false⟩ none with
      | some p => simp
      | none => cases sent <;> simp

/-- no loss: whatever the peer should hold is announced by the reset, with those attributes -/
theorem soft_out_no_loss (g : Global) (e : Pol) (t : PeerCfg) (l : List Cand) (sent : Bool)
    (x : Held) (hw : wantOfP g e t l = some x) :
    ∃ r, softOutFor g e t l sent = [⟨r, false⟩] ∧ heldOf g t r = x := by
  unfold wantOfP at hw
  unfold softOutFor
  cases hl : l.head? with
  | none => rw [hl] at hw; cases hw
  | some b =>
    simp only [hl] at hw ⊢
    cases hbi : b.nhInvalid with
    | true => rw [wantRP_invalid g e t b hbi] at hw; cases hw
    | false =>
      simp only [Bool.false_eq_true, if_false]
      rcases first_export g e t b hbi with ⟨r', hS, hW⟩ | ⟨r', _, _, hW⟩ | ⟨_, hW⟩ <;> rw [hW] at hw
      · rw [hS]
        exact ⟨r', rfl, Option.some.inj hw⟩
      · cases hw
      · cases hw

/-- a destination that is not in sentPaths is never withdrawn by the reset (except an LLGR-stale
    route turned into a withdraw by postFilterpath) -/
theorem soft_out_withdraw_only_sent (g : Global) (e : Pol) (t : PeerCfg) (l : List Cand)
    (p : P) (hp : p ∈ softOutFor g e t l false) (hw : p.wd = true) : p.r.stale = true :=
  SoftReset.soft_out_withdraw_only_sent g e t l p hp hw

/-- **soft_equals_fresh_view** (interleaving form, one destination, one target peer). Start from
    any state satisfying the weak invariant (e.g. nothing held, or the initial table transfer).
    Let the destination change any number of times, each change fanned out under an ARBITRARY
    export policy (the policies before the change of policy, or the new policy before the reset),
    with soft resets under arbitrary policies anywhere in between (`before`); then soft-reset out
    under the current policy `e`; then let the destination change any number of times under `e`
    (`after`). The peer then holds exactly the export of the final best path under `e` — what a
    speaker that had policy `e` from the start would have told it. -/
theorem soft_equals_fresh_view (g : Global) (e : Pol) (t : PeerCfg) (hrs : t.isRSClient = false)
    (U : List (List Cand)) (wf : ListsWF g t U)
    (l0 : List Cand) (h0 : Option Held) (hl0 : l0 ∈ U) (inv0 : WeakInv g t l0 h0)
    (before : List DEv) (hbefore : ∀ ev ∈ before, ∀ l ∈ ev.list, l ∈ U)
    (after : List (List Cand)) (hafter : ∀ l ∈ after, l ∈ U) :
    let s3 := (before ++ [DEv.soft e] ++ after.map (DEv.chg e)).foldl (dstep g t) (l0, h0)
    s3.2 = wantOfP g e t s3.1 := by
  intro s3
  have hs3 : s3 = (after.map (DEv.chg e)).foldl (dstep g t)
      (dstep g t (before.foldl (dstep g t) (l0, h0)) (DEv.soft e)) := by
    simp only [s3, List.foldl_append, List.foldl_cons, List.foldl_nil]
  obtain ⟨hU1, inv1⟩ := weak_fold g t hrs U wf before (l0, h0) hl0 hbefore inv0
  rw [hs3]
  apply want_fold g e t hrs U wf after _ (by simp only [dstep]; exact hU1) hafter
  simp only [dstep]
  exact SoftReset.soft_out_restores g e t _ _ inv1

/-- the atomicity premise of the export-side steps, as checked against the code: a sending
    re-advertisement that satisfies `lockOk` holds the write lock -/
theorem refresh_lock_premise (sends write : Bool) (h : lockOk sends write = true) (hs : sends = true) :
    write = true := by
  subst hs; simpa [lockOk] using h

/-- **Order of a re-advertisement pass.** softResetOut / handleRouteRefresh hand the sender the
    withdrawals owed for now-rejected routes BEFORE the re-advertised paths (`softOutPaths`).
    Whenever the re-advertised paths contain an action for a wire key, that action is the last one
    for the key in the whole list — a withdrawal of another Loc-RIB destination that maps to the
    same wire key (neighbor in a VRF: one prefix under several route distinguishers) cannot
    override it. (With the opposite order the withdrawal wins: `withdrawals_last_counterexample`.)
    The many-to-one mapping itself is outside the model; the `vrf` harness checks the real pass. -/
theorem withdrawals_first_announce_wins (k : Nat) (wds anns : List P) (a : P)
    (h : lastAction k anns = some a) : lastAction k (wds ++ anns) = some a := by
  unfold lastAction at h ⊢
  rw [List.filter_append, List.getLast?_append, h]
  rfl

/-! ## known finding: an emptied prefix-set matched with INVERT

  Full statement (FALSE of the code): "a prefix-set condition depends only on the set's current
  members, the option and the route", i.e. `∀ setFam, pfxCondCode setFam routeFam opt es k =
  pfxCondModel opt es k`. The code also reads the address family recorded in the set object,
  which for an EMPTY set depends on how it became empty. -/

/-- the witness replayed on the real code by the corpus case
    `known-emptied-prefix-set-invert`: INVERT over a set emptied in place (family of the removed
    member kept) is true, over a set configured empty (no family) it is false -/
theorem emptied_prefix_set_invert_counterexample :
    pfxCondCode (some 1) 1 2 [] 0 = true ∧ pfxCondCode none 1 2 [] 0 = false := by decide

/-- whenever the set object's family is the route's family — every non-empty set the harness
    builds, and every set emptied in place — the code's condition is the one `Stmt.matches`
    uses; the theorems above are about that condition -/
theorem prefix_condition_family_partial (setFam : Option Nat) (routeFam opt : Nat)
    (es : List PfxEnt) (k : Nat) (h : setFam = some routeFam) :
    pfxCondCode setFam routeFam opt es k = pfxCondModel opt es k := by
  subst h; simp [pfxCondCode]

/-- `Stmt.matches` evaluates exactly `pfxCondModel` for its prefix-set clause -/
example (es : List PfxEnt) (opt : Nat) (r : Cand) :
    ({ pfxSet := some es, pfxOpt := opt } : Stmt).matches 0 r = pfxCondModel opt es r.pfx := by
  simp [Stmt.matches, pfxCondModel]

/-! ## import side -/

/-- the import function of the model — policy `p` evaluated with the route's source peer — is
    key preserving, so the theorems below apply to it -/
theorem applyPol_keyPres (p : Pol) (peerOf : Cand → Nat) :
    KeyPres (fun c => applyPol p (peerOf c) c) := by
  intro c c' h
  have hp := SoftResetWorld.evalStmts_pres _ _ _ c c' h
  exact ⟨hp.src, hp.pathId⟩

/-- **soft_in_equals_fresh** (one destination, all sources). `evs` is the whole history of
    announcements and withdrawals received for the destination, each paired with the import
    function in force WHEN IT ARRIVED (any number of policy changes, arbitrary key-preserving
    rewriting and verdicts). `B` is the accepted Adj-RIB-In content in the order the replay
    happens to visit it (softResetIn walks a Go map). After the soft reset in under the current
    import function `f1` the Loc-RIB path list — order included, hence the best path — equals
    that of the speaker that evaluated every event under `f1`: newly rejected routes are gone,
    newly accepted ones are in (with their original arrival time), rewritten attributes are
    current.  A source is a (neighbour, path-id) pair: with ADD-PATH receive a neighbour may
    contribute several routes to the destination (the Adj-RIB-In then holds several paths per
    prefix, loop-rejected ones among them — those are not replayed and are not in `adjOf`).
    Hypotheses: MED comparable throughout (C03), and no two different live routes tie in the
    whole decision process (`distinct`; implied by pairwise different neighbour addresses, see
    `distinct_addr_keys`; for the routes of one neighbour any difference in LOCAL_PREF, AS_PATH
    length, ORIGIN, MED or eBGP age will do) — without it the order of tied routes is the
    arrival order, which a replay does not reproduce. -/
theorem soft_in_equals_fresh (o : Opts) (f1 : Cand → Option Cand)
    (evs : List (Ev × (Cand → Option Cand))) (hk1 : KeyPres f1) (hk : ∀ p ∈ evs, KeyPres p.2)
    (B : List Cand) (hB : B.Perm (adjOf (evs.map (·.1))))
    (wf : SetWF o (opCands ((evs.map (·.1)).map (opOf f1)) ++ opCands (hist evs ++ softOps f1 B)))
    (distinct : (spec ((evs.map (·.1)).map (opOf f1))).Pairwise (fun a b => key o a ≠ key o b)) :
    BestPath.run o (hist evs ++ softOps f1 B) = BestPath.run o ((evs.map (·.1)).map (opOf f1)) :=
  soft_in_run_eq o f1 evs evs hk1 hk B hB (List.Perm.refl _) wf distinct

/-- different neighbour addresses are a special case of "no two live routes tie" -/
theorem distinct_addr_keys (o : Opts) (l : List Cand)
    (h : l.Pairwise (fun a b => a.src.addr ≠ b.src.addr)) :
    l.Pairwise (fun a b => key o a ≠ key o b) :=
  h.imp (fun {a b} hab hk => hab (key_addr o a b hk))

/-- **soft_in_idempotent.** A second soft reset in leaves the Loc-RIB path list as it is. -/
theorem soft_in_idempotent (o : Opts) (f1 : Cand → Option Cand)
    (evs : List (Ev × (Cand → Option Cand))) (hk1 : KeyPres f1) (hk : ∀ p ∈ evs, KeyPres p.2)
    (wf : SetWF o (opCands (hist evs ++ softOps f1 (adjOf (evs.map (·.1)))) ++
      opCands (hist evs ++ softOps f1 (adjOf (evs.map (·.1))) ++ softOps f1 (adjOf (evs.map (·.1))))))
    (distinct : (spec (hist evs ++ softOps f1 (adjOf (evs.map (·.1))))).Pairwise
      (fun a b => key o a ≠ key o b)) :
    BestPath.run o (hist evs ++ softOps f1 (adjOf (evs.map (·.1))) ++ softOps f1 (adjOf (evs.map (·.1)))) =
      BestPath.run o (hist evs ++ softOps f1 (adjOf (evs.map (·.1)))) :=
  (run_eq_of_spec_perm o (wf.sub fun _ h => List.mem_append_left _ h)
    (wf.sub fun _ h => List.mem_append_right _ h) distinct (spec_soft_idem f1 evs hk1 hk).symm).symm

/-- **soft_in_then_changes** (interleaving form): events that arrive after the reset and are
    evaluated under the current import function keep the two speakers equal. -/
theorem soft_in_then_changes (o : Opts) (f1 : Cand → Option Cand)
    (evs : List (Ev × (Cand → Option Cand))) (hk1 : KeyPres f1) (hk : ∀ p ∈ evs, KeyPres p.2)
    (B : List Cand) (hB : B.Perm (adjOf (evs.map (·.1))))
    (wf : SetWF o (opCands ((evs.map (·.1)).map (opOf f1)) ++ opCands (hist evs ++ softOps f1 B)))
    (distinct : (spec ((evs.map (·.1)).map (opOf f1))).Pairwise (fun a b => key o a ≠ key o b))
    (more : List Ev) :
    BestPath.run o (hist evs ++ softOps f1 B ++ more.map (opOf f1)) =
      BestPath.run o ((evs.map (·.1) ++ more).map (opOf f1)) := by
  have h := soft_in_equals_fresh o f1 evs hk1 hk B hB wf distinct
  unfold BestPath.run at h ⊢
  rw [List.foldl_append, h, List.map_append, List.foldl_append]

/-! ## non-vacuity -/

def g0 : Global := ⟨65000, 1⟩
def tE : PeerCfg := { idx := 0, kind := .ebgp, as := 65001, rid := 10, addr := 100 }
def src1 : PeerCfg := { idx := 1, kind := .ebgp, as := 65002, rid := 11, addr := 101 }
def src2 : PeerCfg := { idx := 2, kind := .ebgp, as := 65003, rid := 12, addr := 102 }
def tag : Nat := 4294770689   -- 65533:1
def r1 : Cand :=
  { (default : Cand) with src := src1.srcInfo g0, marker := 1, origin := some 0, segs := [⟨2, [65002]⟩], comms := [tag], ts := 1 }
def r2 : Cand :=
  { (default : Cand) with src := src2.srcInfo g0, marker := 2, origin := some 0, segs := [⟨2, [65003, 300]⟩], ts := 2 }
/-- "reject routes carrying 65533:1 toward peer 0", "add 65532:1 to everything else" -/
def eNew : Pol := { stmts := [{ commSet := some [tag], anyPeer := false, peers := [0], route := 2 },
                             { addComm := some 4294705153 }] }
def eOld : Pol := {}

/-- with the withdrawals AFTER the re-advertised paths the withdrawal wins -/
theorem withdrawals_last_counterexample :
    lastAction 0 ([⟨r1, false⟩] ++ [⟨r2, true⟩]) = some ⟨r2, true⟩ := rfl
example : lastAction 0 ([⟨r2, true⟩] ++ [⟨r1, false⟩]) = some ⟨r1, false⟩ :=
  withdrawals_first_announce_wins 0 _ _ _ (by decide)

/-- under the old policy the peer was told r1 … -/
example : wantOfP g0 eOld tE [r1, r2] = some ⟨1, none, none, [tag]⟩ := rfl
/-- … the new policy rejects it: the soft reset withdraws it (it is in sentPaths) -/
example : softOutFor g0 eNew tE [r1, r2] true = [⟨r1, true⟩] := rfl
example : heldApplyList g0 tE (some ⟨1, none, none, [tag]⟩) (softOutFor g0 eNew tE [r1, r2] true) =
    wantOfP g0 eNew tE [r1, r2] := rfl
/-- the weak invariant holds in that state -/
example : WeakInv g0 tE [r1, r2] (some ⟨1, none, none, [tag]⟩) :=
  fun _ => ⟨r1, rfl, rfl, by decide⟩
/-- changed attributes are re-sent: r2 now leaves with the added community -/
example : softOutFor g0 eNew tE [r2] true =
    [⟨{ r2 with med := none, segs := [⟨2, [65000, 65003, 300]⟩], comms := [4294705153] }, false⟩] := rfl
/-- defined-set conditions: a prefix-set holding two mask-length ranges for the SAME prefix
    (10.0.0.0/8 16..16 and 24..24) matches 10.3.0.0/16 through the first and 10.1.0.0/24 through
    the second entry; dropping the older entry changes the verdict -/
example : (⟨167772160, 8, 16, 16⟩ : PfxEnt).matchesPfx 2 = true ∧
    (⟨167772160, 8, 24, 24⟩ : PfxEnt).matchesPfx 2 = false ∧
    (⟨167772160, 8, 24, 24⟩ : PfxEnt).matchesPfx 0 = true := by decide
def rejPfx (es : List PfxEnt) : Pol := { stmts := [{ pfxSet := some es, route := 2 }] }
example : applyPol (rejPfx [⟨167772160, 8, 16, 16⟩, ⟨167772160, 8, 24, 24⟩]) 1 { r1 with pfx := 2 } = none := rfl
example : (applyPol (rejPfx [⟨167772160, 8, 24, 24⟩]) 1 { r1 with pfx := 2 }).isSome = true := rfl
/-- an EMPTIED community set: ANY matches nothing, INVERT everything, ALL nothing; an emptied
    neighbor set matches every neighbour -/
example : ({ commSet := some [], commOpt := 0 } : Stmt).matches 1 r1 = false ∧
    ({ commSet := some [], commOpt := 2 } : Stmt).matches 1 r1 = true ∧
    ({ commSet := some [], commOpt := 1 } : Stmt).matches 1 r1 = false ∧
    ({ commSet := some [tag], commOpt := 1 } : Stmt).matches 1 r1 = true ∧
    ({ anyPeer := false, peers := [], nbrOpt := 2 } : Stmt).matches 1 r1 = true := by decide
/-- as-path-set members: `_300_` matches r2's path, `^65002_` its left-most AS does not -/
example : (⟨0, 300⟩ : AspEnt).matchesPath (asSeqList r2.segs) = true ∧
    (⟨1, 65002⟩ : AspEnt).matchesPath (asSeqList r2.segs) = false := by decide
/-- import side: r1 was accepted under the old import policy, the new one rejects it -/
def fOld : Cand → Option Cand := fun c => applyPol eOld 1 c
def fNew : Cand → Option Cand := fun c => applyPol { stmts := [{ commSet := some [tag], route := 2 }] } 1 c
example : BestPath.run ⟨true, false, false⟩ (hist [(.ann r1, fOld), (.ann r2, fOld)] ++ softOps fNew [r2, r1]) = [r2] := rfl
example : BestPath.run ⟨true, false, false⟩ ([Ev.ann r1, Ev.ann r2].map (opOf fNew)) = [r2] := rfl
example : [r2, r1].Perm (adjOf ([(Ev.ann r1, fOld), (Ev.ann r2, fOld)].map (·.1))) := by
  have : adjOf ([(Ev.ann r1, fOld), (Ev.ann r2, fOld)].map (·.1)) = [r2, r1] := rfl
  rw [this]
example : KeyPres fNew := applyPol_keyPres _ (fun _ => 1)
/-- ADD-PATH receive: two routes of ONE neighbour (path-ids 1 and 2, different ORIGIN) -/
def r1b : Cand := { r1 with pathId := 2, marker := 3, origin := some 1, comms := [], ts := 3 }
example : BestPath.run ⟨true, false, false⟩
    (hist [(.ann { r1 with pathId := 1 }, fOld), (.ann r1b, fOld)] ++ softOps fNew [{ r1 with pathId := 1 }, r1b]) = [r1b] := rfl
example : [{ r1 with pathId := 1 }, r1b].Pairwise (fun a b => key ⟨true, false, false⟩ a ≠ key ⟨true, false, false⟩ b) := by decide
example : PairWF ⟨true, false, false⟩ r1 r2 := ⟨by decide, by decide, by decide, by decide⟩
example : ListsWF g0 tE [[r1, r2], [r2]] := by
  refine ⟨?_, ?_, ?_⟩
  · intro l hl o ho
    simp only [List.mem_cons, List.not_mem_nil, or_false] at hl
    rcases hl with rfl | rfl <;> (simp at ho; subst ho; intro h; revert h; decide)
  · intro l hl l' hl' b o hb ho
    simp only [List.mem_cons, List.not_mem_nil, or_false] at hl hl'
    rcases hl with rfl | rfl <;> rcases hl' with rfl | rfl <;>
      (simp at hb ho; subst hb; subst ho; decide)
  · intro l hl l' hl' b o hb ho
    simp only [List.mem_cons, List.not_mem_nil, or_false] at hl hl'
    rcases hl with rfl | rfl <;> rcases hl' with rfl | rfl <;>
      (simp at hb ho; subst hb; subst ho; decide)


/-! ## the whole speaker (all destinations, all peers at once)

  Model/SoftResetWorld.lean: the speaker as a product of its components — peers (configuration,
  session state) × destinations (Loc-RIB path list, accepted Adj-RIB-In content, what every peer
  holds) — every event defined by mapping the per-destination / per-peer functions the theorems
  above are about (`calcStep`, `deltaForP`/`heldApplyP`, `softOutFor`) over the components. The
  driver runs this model in lockstep with the association-list model `SoftReset.S` and answers an
  ask only when both agree, so it is compared with the real BgpServer on every run.

  Hypotheses, all explicit: the peers have pairwise different indices and addresses and none is a
  route-server client (`CfgWF`); always-compare-med (with the mandatory ORIGIN of every announced
  route, `OpOK`, this IS "MED comparable throughout": `pairWF_of_good`); and no two different
  paths of one destination tie in the whole decision process in the FRESH speaker's final
  Loc-RIB (`hties`). The last one cannot be discharged by the deterministic tie-break: that ends
  at the neighbour address, so two routes of ONE neighbour (ADD-PATH receive) can tie completely,
  and then their order is the arrival order, which a replay does not reproduce
  (`ties_counterexample`); it follows from "one route per neighbour" (`distinct_addr_keys`). -/

open SoftResetWorld in
/-- **C15_soft_reset_equals_fresh_world.** For EVERY history `ops` of the whole speaker — session
    up / down, announcements and withdrawals from any peer for any destination, import and export
    policy changes, soft resets in / out / both of single peers or all, ROUTE-REFRESH, in any
    order — followed by a soft reset in + out of all peers: the Loc-RIB path list of EVERY
    destination (order, hence best path, included) and what EVERY established peer holds for it
    equal those of the fresh speaker that received the same route events (`ops.filter isRoute`)
    with the final import and export policies in force from the start. -/
theorem C15_soft_reset_equals_fresh_world (g : Global) (opts : Opts) (cfgs : List PeerCfg)
    (p0i p0e : Pol) (ops : List SOp) (hcfg : CfgWF (init g opts cfgs p0i p0e).k)
    (halw : opts.alwaysCompareMed = true) (hops : ∀ op ∈ ops, OpOK op)
    (hties : ∀ d, ((SoftResetWorld.run (init g opts cfgs
        (SoftResetWorld.run (init g opts cfgs p0i p0e) ops).k.imp
        (SoftResetWorld.run (init g opts cfgs p0i p0e) ops).k.exp) (ops.filter isRoute)).d d).rib.Pairwise
          (fun a b => key opts a ≠ key opts b)) :
    let sa := SoftResetWorld.run (init g opts cfgs p0i p0e) ops
    let s1 := SoftResetWorld.softBothAll sa
    let s2 := SoftResetWorld.run (init g opts cfgs sa.k.imp sa.k.exp) (ops.filter isRoute)
    ∀ d, (s1.d d).rib = (s2.d d).rib ∧
      ∀ i t, sa.k.cfg? i = some t → sa.k.up i = true → (s1.d d).held i = (s2.d d).held i := by
  intro sa s1 s2 d
  obtain ⟨hf, hopts⟩ := init_pair g opts cfgs p0i p0e ops hcfg hops
  -- `s1` is unfolded and `s` given explicitly so that the unifier meets `softBothAll sa` as it stands in the lemma
  unfold s1
  exact softBothAll_eq_fresh (s := sa) hf hopts halw hties d

open SoftResetWorld in
/-- **C15_reset_idempotent_world.** A second soft reset in + out of all peers changes no Loc-RIB
    and nothing any established peer holds. (The second soft reset OUT does send the
    announcements again — it is a refresh — they are what the peers hold; that the second soft
    reset IN hands the peers nothing is the per-destination `soft_in_idempotent` + `getChanges`
    on an unchanged list, not restated here.) -/
theorem C15_reset_idempotent_world (g : Global) (opts : Opts) (cfgs : List PeerCfg)
    (p0i p0e : Pol) (ops : List SOp) (hcfg : CfgWF (init g opts cfgs p0i p0e).k)
    (halw : opts.alwaysCompareMed = true) (hops : ∀ op ∈ ops, OpOK op)
    (hties : ∀ d, ((SoftResetWorld.run (init g opts cfgs
        (SoftResetWorld.run (init g opts cfgs p0i p0e) ops).k.imp
        (SoftResetWorld.run (init g opts cfgs p0i p0e) ops).k.exp) (ops.filter isRoute)).d d).rib.Pairwise
          (fun a b => key opts a ≠ key opts b)) :
    let sa := SoftResetWorld.run (init g opts cfgs p0i p0e) ops
    let s1 := SoftResetWorld.softBothAll sa
    ∀ d, ((SoftResetWorld.softBothAll s1).d d).rib = (s1.d d).rib ∧
      ∀ i t, sa.k.cfg? i = some t → sa.k.up i = true →
        ((SoftResetWorld.softBothAll s1).d d).held i = (s1.d d).held i := by
  intro sa s1 d
  obtain ⟨hf, hopts⟩ := init_pair g opts cfgs p0i p0e ops hcfg hops
  unfold s1
  exact softBothAll_idem (s := sa) hf hopts halw hties d

open SoftResetWorld in
/-- **C15_soft_out_peer_world.** Soft reset out (or ROUTE-REFRESH) of ONE peer after any history:
    for every destination the peer holds exactly the export of the CURRENT best path under the
    current export policy, and no Loc-RIB changes — no hypothesis on MED or ties. -/
theorem C15_soft_out_peer_world (g : Global) (opts : Opts) (cfgs : List PeerCfg) (p0i p0e : Pol)
    (ops : List SOp) (hcfg : CfgWF (init g opts cfgs p0i p0e).k) (hops : ∀ op ∈ ops, OpOK op)
    (i : Nat) (t : PeerCfg) :
    let sa := SoftResetWorld.run (init g opts cfgs p0i p0e) ops
    sa.k.cfg? i = some t → sa.k.up i = true →
    ∀ d, ((SoftResetWorld.softOut sa i).d d).held i =
        wantOfP sa.k.g sa.k.exp t ((SoftResetWorld.softOut sa i).d d).rib ∧
      ((SoftResetWorld.softOut sa i).d d).rib = (sa.d d).rib := by
  intro sa hc hu d
  obtain ⟨Ea, ha⟩ := run_wi ops (init g opts cfgs p0i p0e) _ hops (init_wi g opts cfgs p0i p0e hcfg)
  rw [softOut_d_rib sa i d]
  exact ⟨softOut_held_self kept_weak ha hc hu d, rfl⟩

/-- why `hties` is a hypothesis: two routes of ONE neighbour (path-ids 1 and 2) that tie in every
    step of the decision process are ordered by arrival -/
def tieA : Cand := { r1 with pathId := 1, marker := 7, comms := [] }
def tieB : Cand := { r1 with pathId := 2, marker := 8, comms := [] }
theorem ties_counterexample :
    BestPath.run ⟨true, false, false⟩ [.ann tieA, .ann tieB] ≠
      BestPath.run ⟨true, false, false⟩ [.ann tieB, .ann tieA] := by decide

/-! ### non-vacuity of the whole-speaker theorems: 2 peers × 2 destinations -/

namespace WorldExample
open SoftResetWorld

def o1 : Opts := ⟨true, false, false⟩
def cfgs : List PeerCfg := [src1, src2]
def a0 : Cand := { (default : Cand) with pfx := 0, marker := 1, origin := some 0, segs := [⟨2, [65002]⟩], comms := [tag] }
def a1 : Cand := { (default : Cand) with pfx := 1, marker := 2, origin := some 0, segs := [⟨2, [65002, 300]⟩] }
def b0 : Cand := { (default : Cand) with pfx := 0, marker := 3, origin := some 0, segs := [⟨2, [65003, 300]⟩] }
/-- reject 65533:1 on import -/
def impNew : Pol := { stmts := [{ commSet := some [tag], route := 2 }] }
/-- add 65532:1 on export -/
def expNew : Pol := { stmts := [{ addComm := some 4294705153 }] }
/-- both sessions up, routes for two destinations from two peers, then both policies change -/
def ops : List SOp :=
  [.up 1, .up 2, .ann 1 a0, .ann 1 a1, .ann 2 b0, .setImp impNew, .setExp expNew]

example : CfgWF (init g0 o1 cfgs {} {}).k := ⟨by decide, by decide, by decide⟩
example : ∀ op ∈ ops, OpOK op := by
  intro op h
  simp only [ops, List.mem_cons, List.not_mem_nil, or_false] at h
  rcases h with rfl | rfl | rfl | rfl | rfl | rfl | rfl <;> first | trivial | decide

/-- before the reset destination 0 still holds peer 1's route, which the new import policy
    rejects, best first -/
example : ((SoftResetWorld.run (init g0 o1 cfgs {} {}) ops).d 0).rib.map (·.marker) = [1, 3] := rfl
/-- after the reset it is gone, as in the fresh speaker -/
example : ((softBothAll (SoftResetWorld.run (init g0 o1 cfgs {} {}) ops)).d 0).rib.map (·.marker) = [3] := rfl
example : ((SoftResetWorld.run (init g0 o1 cfgs impNew expNew) (ops.filter isRoute)).d 0).rib.map (·.marker) = [3] := rfl
/-- destination 1 is untouched, and peer 2 (index 2) is told peer 1's route with the community the
    new export policy adds — in both speakers -/
example : (((softBothAll (SoftResetWorld.run (init g0 o1 cfgs {} {}) ops)).d 1).held 2).map (·.comms) =
    some [4294705153] := rfl
example : (((SoftResetWorld.run (init g0 o1 cfgs impNew expNew) (ops.filter isRoute)).d 1).held 2).map (·.comms) =
    some [4294705153] := rfl
/-- no ties in the fresh speaker's Loc-RIBs (destinations 0 and 1 hold one path each) -/
example : ((SoftResetWorld.run (init g0 o1 cfgs impNew expNew) (ops.filter isRoute)).d 0).rib.Pairwise
    (fun a b => key o1 a ≠ key o1 b) := by decide

end WorldExample

end C15
