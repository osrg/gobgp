/-
  C17 — VRF import/export and RT Constraint distribute exactly the matching routes.

  Everything here is about the hand-written model Model/VrfRtc.lean (a mirror of vrf.go, rtc.go,
  policy.go CanImportToVrf, path.go ToLocal/ToGlobal, table.go updateVPNIdx, server.go filterpath /
  processRTCMembership / rtcVPNCandidates / prePolicyFilterpath as repaired by the `fix:` commits) and,
  for `vrf_local_memberships` and `vrf_delete_withdraws`, Model/VrfRtcMgr.lean (AddVrf / DeleteVrf and
  the RT memberships they originate); the transition systems the history theorems quantify over are in
  Lemmas/VrfRtcDefs.lean.  The tie to the Go code is the correspondence run of ./check C17 (sampled,
  not proved).

  Scope of the RTC statements: one RTC peer that does not send ADD-PATH and never is the source of a
  VPN route, no export policy, no RTC End-of-RIB wait pending (deferral time 0).  Scope of the CE
  statement: every prefix occurs under one RD only (gobgp keeps no per-VRF best path).
-/
import Lemmas.VrfRtcMgr
import Lemmas.VrfRtcSup
import Lemmas.VrfRtcDel
namespace C17
open VrfRtc

/-- A VPN route can be imported into a VRF iff one of its TRANSITIVE extended communities of a
    route-target-capable type is an import target of the VRF. -/
theorem vrf_visible_iff (v : Vrf) (ecs : List EC) :
    canImport v ecs = true ↔ ∃ e, e ∈ ecs ∧ isTransitive e = true ∧ keyable e = true ∧ e ∈ v.imports :=
  canImport_iff v ecs

/-- What ListPath(vrf) / Select(VRF) shows: exactly the importable known paths, as plain routes. -/
theorem vrf_select_iff (v : Vrf) (known : List VPath) (l : LPath) :
    l ∈ vrfSelect v known ↔ ∃ p, p ∈ known ∧ canImport v p.ecs = true ∧ l = toLocal p := by
  simp only [vrfSelect, List.mem_map, List.mem_filter]
  exact exists_congr fun p => by rw [and_assoc, @eq_comm _ l]

/-- A route whose only matching communities are non-transitive is not imported. -/
theorem vrf_nontransitive_not_imported (v : Vrf) (ecs : List EC)
    (h : ∀ e, e ∈ ecs → e ∈ v.imports → isTransitive e = false) : canImport v ecs = false := by
  cases hc : canImport v ecs with
  | false => rfl
  | true =>
    obtain ⟨e, he, ht, _, hi⟩ := (canImport_iff v ecs).1 hc
    rw [h e he hi] at ht
    cases ht

/-- A route originated in a VRF is exported with the VRF's RD and label, its prefix and marker kept,
    and the VRF's export targets appended to its own communities. -/
theorem vrf_export_attrs (v : Vrf) (l : LPath) :
    (toGlobal v l).rd = v.rd ∧ (toGlobal v l).label = v.label ∧ (toGlobal v l).pfx = l.pfx ∧
    (toGlobal v l).ecs = l.ecs ++ v.exports ∧ (toGlobal v l).marker = l.marker ∧
    (∀ e, e ∈ v.exports → e ∈ (toGlobal v l).ecs) :=
  ⟨rfl, rfl, rfl, rfl, rfl, fun _ he => List.mem_append_right l.ecs he⟩

/-- What Info / GetTable(VRF) reports agrees with what Select / ListPath(VRF) lists: NumPath is the
    number of importable PATHS (not all paths of a destination that has one), NumDestination the
    number of destinations with one. -/
theorem vrf_info_eq_select (t : Tbl) (vr : Vrf) :
    (vrfInfo t vr).2 = (t.nlris.map (fun n => (vrfSelect vr (t.dest n)).length)).sum ∧
    (vrfInfo t vr).1 = (t.nlris.filter (fun n => (vrfSelect vr (t.dest n)).length != 0)).length := by
  simp only [vrfInfo, vrfSelect, List.length_map, List.filter_map, Function.comp_def, and_self]

/-- What remains after DeleteVrf: no route originated in the VRF (locally originated under its RD),
    whatever its rank in its destination was — best, runner-up behind another PE's path, last … -/
theorem vrf_delete_removes_originated (t : Tbl) (vr : Vrf) (h : TblWF t)
    (hl : ∀ n p, p ∈ t.dest n → p.src = 0 → p.pathId = 0) :
    ∀ n p, p ∈ (t.withdrawAll (delVrfPaths t vr)).dest n → ¬ (p.src = 0 ∧ p.rd = vr.rd) := by
  intro n p hp hc
  rw [delVrf_keeps t vr h hl n, List.mem_filter] at hp
  simp [hc.1, hc.2] at hp

/-- … and every other route stays in its place (so a later withdrawal of the competing path cannot
    bring anything back, and a VRF re-created with the same RD starts without originated routes). -/
theorem vrf_delete_keeps_others (t : Tbl) (vr : Vrf) (h : TblWF t)
    (hl : ∀ n p, p ∈ t.dest n → p.src = 0 → p.pathId = 0) :
    ∀ n, (t.withdrawAll (delVrfPaths t vr)).dest n =
      (t.dest n).filter (fun p => !(p.src == 0 && p.rd == vr.rd)) :=
  delVrf_keeps t vr h hl

/-- A table update keeps "the VRF neighbor holds exactly the importable best paths, as plain
    prefixes" (prefixes unique across RDs). -/
theorem vrf_ce_step (t : Tbl) (vr : Vrf) (v : LView) (p : VPath) (wd : Bool)
    (h : TblWF t) (hf : wd = false → Fresh t p) (hinj : PfxInj (t.update p wd).nlris)
    (hv : CEViewOK t vr v) :
    CEViewOK (t.update p wd) vr
      (v.apply (ceOnTableChange vr (t.dest p.nlri) ((t.update p wd).dest p.nlri))) :=
  ce_table_step t vr v p wd h hf hinj hv

/-
  Full strength (`vrf_ce_view_exact`), FALSE of the model that mirrors the code and of the code:

    theorem vrf_ce_view_exact (vr : Vrf) (evs : List (VPath × Bool)) (fresh announcements) :
        CEViewExact (CESys.run vr evs).t vr (CESys.run vr evs).v

  gobgp keeps no per-VRF best path: propagateUpdateToNeighbors works per VPN destination (rd, prefix)
  and a neighbor in a VRF has one key per prefix, so the destination that changed last decides.
  Replayed on the real BgpServer by the first histories of c17CorpusSrv `dual` (known findings
  vrf-ce-lost-route-with-other-rd, vrf-ce-not-best-among-rds).
-/

/-- the witness: the dual-homed prefix 0 under RD 5 (preferred) and RD 6; RD 6 is withdrawn -/
def dualA : VPath := { uid := 1, root := 1, src := 1, pathId := 0, rd := 5, pfx := 0, label := 1005, pref := 292, marker := 1, ecs := [842122827661313] }
def dualB : VPath := { uid := 2, root := 2, src := 2, pathId := 0, rd := 6, pfx := 0, label := 1006, pref := 168, marker := 2, ecs := [842122827661313] }
def dualVrf : Vrf := { name := 1, rd := 1, label := 0, imports := [842122827661313], exports := [] }

/-- after "announce under RD 5, announce under RD 6" the neighbor holds the less preferred route … -/
theorem vrf_ce_view_exact_counterexample_not_best :
    (CESys.run dualVrf [(dualA, false), (dualB, false)]).v 0 = some 2 ∧
    (pickBest (vrfCands (CESys.run dualVrf [(dualA, false), (dualB, false)]).t dualVrf 0)).map (·.marker) = some 1 := by
  decide +kernel

/-- … and after the withdrawal of the RD 6 route it holds nothing, although the RD 5 route is still
    imported: the full-strength statement fails on this history. -/
theorem vrf_ce_view_exact_counterexample :
    ¬ CEViewExact (CESys.run dualVrf [(dualA, false), (dualB, false), (dualB, true)]).t dualVrf
        (CESys.run dualVrf [(dualA, false), (dualB, false), (dualB, true)]).v := by
  intro h
  have h0 := h 0
  revert h0
  decide +kernel

/-- `vrf_ce_view_partial`: over every history in which a prefix never occurs under two RDs, the
    neighbor holds exactly the importable best path of the prefix's destination. -/
theorem vrf_ce_view_partial (vr : Vrf) (x : CESys) (h : CEReachUniq vr x) : CEViewOK x.t vr x.v := by
  suffices hs : Reach x.t ∧ CEViewOK x.t vr x.v from hs.2
  induction h with
  | init => exact ⟨Reach.empty, (fun n hn => nomatch hn), fun x _ => rfl⟩
  | step x p wd _ hf hinj ih =>
    obtain ⟨hr, hv⟩ := ih
    exact ⟨Reach.step _ p wd hr hf, ce_table_step x.t vr x.v p wd (reach_inv _ hr).1 hf hinj hv⟩

/-- After any sequence of VRF adds, VRF deletes and memberships received from neighbours for the same
    NLRI (whatever their preference, i.e. wherever the local path stands in its destination), this
    speaker originates a membership for an RT iff some configured VRF imports it. -/
theorem vrf_local_memberships (ops : List MOp) (h : RecvOK ops) (k : Nat) :
    scanLocal ((Mgr.run ops).rtc k) = true ↔ ∃ v, v ∈ (Mgr.run ops).vrfs ∧ k ∈ v.imports :=
  (MgrAux.inv_run ops h).2 k

/-- A VRF delete withdraws exactly the import targets of the deleted VRF that no remaining VRF imports. -/
theorem vrf_delete_withdraws (ops : List MOp) (h : RecvOK ops) (name : Nat) (v : Vrf)
    (hv : v ∈ (Mgr.run ops).vrfs) (hn : v.name = name) (k : Nat) :
    k ∈ ((Mgr.run ops).delVrf name).2 ↔
      (k ∈ v.imports ∧ ∀ w, w ∈ ((Mgr.run ops).delVrf name).1.vrfs → k ∉ w.imports) := by
  have hi := MgrAux.inv_run ops h
  unfold Mgr.delVrf
  rw [← hn, MgrAux.find?_name _ hi.1 v hv]
  exact MgrAux.mem_ws _ hi v hv _ k

/-- After any history of accepted announcements / withdrawals the structure holds exactly the
    (RT, origin AS, path-id) entries whose last event was an announcement … -/
theorem rtm_refines (evs : List MemEv) (m : Mem) :
    m ∈ Rtm.run [] evs ↔ lastEv evs m = some true := by
  rw [rtm_run_mem]
  cases lastEv evs m <;> simp

/-- … and HasRouteTarget(rt) holds iff one of them is for that RT (duplicates with another origin AS
    or path-id keep the interest alive when one of them is withdrawn). -/
theorem rtm_has_iff (evs : List MemEv) (k : Nat) :
    (Rtm.run [] evs).has k = true ↔ ∃ m, m.rt = k ∧ lastEv evs m = some true := by
  rw [has_iff]
  exact exists_congr fun m => by rw [rtm_refines, and_comm]

/-- After any sequence of table updates — each announcement a new path object, the very same stored
    object fed again, or a new clone of the stored announcement it replaces (soft reset in without /
    with a modifying import policy), see `Fresh` — the index returns, for an RT key, exactly the
    stored paths carrying it that are the best path of their destination or were received with a
    non-zero path-id. -/
theorem idx_consistent (t : Tbl) (h : Reach t) (k : Nat) (q : VPath) :
    q ∈ t.idx.byRT k ↔
      (q ∈ t.dest q.nlri ∧ k ∈ keys q.ecs ∧ (q.pathId ≠ 0 ∨ t.best q.nlri = some q)) := by
  rw [mem_byRT]
  exact (reach_inv t h).2 k q

/-- Feeding the very same stored object again is an admissible update (`Fresh`) … -/
theorem feed_same_object (t : Tbl) (p : VPath) (h : TblWF t) (hp : p ∈ t.dest p.nlri) : Fresh t p :=
  ⟨fun n q hq hu => h.uid_uniq n p.nlri q p hq hp hu,
   fun n q hq hr => by
     have e := h.root_uniq n p.nlri q p hq hp hr
     subst e
     exact ⟨rfl, sameSlot_self q⟩⟩

/-- … and so is a new clone (new object, same root) of the stored path `q` it replaces. -/
theorem feed_clone (t : Tbl) (p q : VPath) (h : TblWF t) (hq : q ∈ t.dest q.nlri)
    (hn : q.nlri = p.nlri) (hs : sameSlot p q = true) (hroot : q.root = p.root)
    (hnew : ∀ n x, x ∈ t.dest n → x.uid ≠ p.uid) : Fresh t p :=
  ⟨fun n x hx hu => absurd hu (hnew n x hx),
   fun n x hx hr => by
     have e : x = q := h.root_uniq n q.nlri x q hx hq (hr.trans hroot.symm)
     subst e
     exact ⟨hn, hs⟩⟩

/-- Toward the RTC peer a route passes the RTC block of filterpath iff the peer has an accepted
    membership for one of its targets or the default membership. -/
theorem rtc_filter_iff (s : Rtm) (p : VPath) :
    rtcFilter s p false none ≠ [] ↔ (s.has 0 = true ∨ ∃ k, k ∈ keys p.ecs ∧ s.has k = true) := by
  rw [ViewAux.rtcFilter_none, ← ViewAux.interested_iff]
  cases interested s p.ecs <;> simp

/-- `rtc_invariant`: after any interleaving of VPN table updates and membership events, the peer
    holds the best path of a destination iff it is interested in it, and nothing else. -/
theorem rtc_invariant (x : Sys) (h : SysReach x) : ViewOK x.t x.s x.v := by
  suffices hs : Reach x.t ∧ ViewOK x.t x.s x.v from hs.2
  induction h with
  | init => exact ⟨Reach.empty, fun n => rfl⟩
  | step x e _ hf ih =>
    obtain ⟨t, s, v⟩ := x
    obtain ⟨hr, hv⟩ := ih
    have hwi := reach_inv t hr
    cases e with
    | upd p wd =>
      have hfr : wd = false → Fresh t p := fun hw => hf p (hw ▸ rfl)
      exact ⟨Reach.step t p wd hr hfr, rtc_table_step t s v p wd hwi.1 hfr hv⟩
    | mem m wd => exact ⟨hr, rtc_member_step t s v m wd hwi.1 hwi.2 hv⟩

/-- The deferred / initial table transfer gives a peer that holds nothing exactly what its
    memberships, as they are at that moment, entitle it to. -/
theorem rtc_catchup (t : Tbl) (s : Rtm) (h : TblWF t) :
    ViewOK t s (View.apply (fun _ => none) (catchUp t s)) :=
  catchUp_view t s h

/-- `rtc_invariant` with advertisement toward the peer suppressed for a while (a new session on which
    the local speaker is the restarting one — any reason for which needToAdvertise is false from the
    start of a session): membership and route changes that arrive meanwhile are recorded; the peer
    holds nothing until the deferral ends and exactly what it is entitled to afterwards. -/
theorem rtc_invariant_suppressed (x : SysS) (h : SysSReach x) :
    if x.sup then (∀ n, x.v n = none) else ViewOK x.t x.s x.v :=
  (sysS_inv x h).2

/-
  RT-membership prefixes over their whole length domain, full strength (RFC 4684 §4), FALSE of the
  code and of the model that mirrors it for the lengths 33..95:

    theorem rtc_filter_prefix (ms : List MemL) (ecs : List EC) :
        interested (ms.map MemL.toMem) ecs = wantsRFC ms ecs

  gobgp keeps the leading bits zero-padded as an exact key (known finding
  rtc-partial-length-membership-not-prefix-matched, replayed by c17CorpusSrv `gr`).
-/

/-- the witness: 65000:(rt 65000:*)/64 — every two-octet-AS target of AS 65000 — against rt 65000:1 -/
theorem rtc_filter_prefix_counterexample :
    wantsRFC [⟨64, 65000, 842122827661313⟩] [842122827661313] = true ∧
    interested ([⟨64, 65000, 842122827661313⟩].map MemL.toMem) [842122827661313] = false := by
  decide +kernel

/-- `rtc_filter_prefix_partial`: for the default (0), the origin-AS-only prefix (32, and anything
    shorter) and full route targets (96) the exact-key test of the code is RFC 4684's prefix test. -/
theorem rtc_filter_prefix_partial (ms : List MemL) (ecs : List EC)
    (hlen : ∀ m, m ∈ ms → (m.len ≤ 32 ∨ (m.len = 96 ∧ m.rt ≠ 0))) :
    interested (ms.map MemL.toMem) ecs = wantsRFC ms ecs := by
  rw [Bool.eq_iff_iff, ViewAux.interested_iff, SupAux.wantsRFC_iff]
  simp only [SupAux.has_map_toMem]
  have hzero := fun m hm => SupAux.toMem_rt_eq_zero m (hlen m hm)
  have hcov := fun m k hm => SupAux.covers_iff m k (hlen m hm)
  constructor
  · rintro (⟨m, hm, h0⟩ | ⟨k, hk, m, hm, hmk⟩)
    · exact Or.inl ⟨m, hm, (hzero m hm).1 h0⟩
    · exact Or.inr ⟨k, hk, m, hm, (hcov m k hm).2 (Or.inr hmk)⟩
  · rintro (⟨m, hm, hs⟩ | ⟨k, hk, m, hm, hc⟩)
    · exact Or.inl ⟨m, hm, (hzero m hm).2 hs⟩
    · rcases (hcov m k hm).1 hc with hs | hmk
      · exact Or.inl ⟨m, hm, (hzero m hm).2 hs⟩
      · exact Or.inr ⟨k, hk, m, hm, hmk⟩

/-- the membership step of `rtc_invariant`, for any well-formed and correctly indexed table (reachable
    or not) -/
theorem rtc_invariant_member_step (t : Tbl) (s : Rtm) (v : View) (m : Mem) (wd : Bool)
    (h : TblWF t) (hi : IdxInv t) (hv : ViewOK t s v) :
    ViewOK t (rtcStep t s false m wd).1 (v.apply (rtcStep t s false m wd).2) :=
  rtc_member_step t s v m wd h hi hv

/-- `rtc_minimal`, part 1: nothing is sent when the peer's interest in the RT does not change
    (duplicate announcement, withdrawal of one of several memberships, withdrawal of a membership
    that was never there). -/
theorem rtc_minimal_unchanged (t : Tbl) (s : Rtm) (e : Bool) (m : Mem) (wd : Bool)
    (hsame : (s.sync m wd).has m.rt = s.has m.rt) : (rtcStep t s e m wd).2 = [] :=
  ViewAux.rtcStep_unchanged t s e m wd hsame

/-- part 2: on the first interest in an RT exactly the best paths carrying it are advertised
    (including those the peer already holds through another target: a re-advertisement). -/
theorem rtc_minimal_announce (t : Tbl) (s : Rtm) (m : Mem) (h : TblWF t) (hi : IdxInv t)
    (hk : m.rt ≠ 0) (hb : s.has m.rt = false) (x : Msg) :
    x ∈ (rtcStep t s false m false).2 ↔
      ∃ b, t.best b.nlri = some b ∧ m.rt ∈ keys b.ecs ∧ x = Msg.adv b.nlri b.marker := by
  rw [ViewAux.ann_msgs t s m h hi hb x]
  simp only [ne_eq, hk, not_false_eq_true, true_imp_iff]

/-- part 3: on the last interest exactly the best paths carrying it that no remaining membership
    covers are withdrawn. -/
theorem rtc_minimal_withdraw (t : Tbl) (s : Rtm) (e : Bool) (m : Mem) (h : TblWF t) (hi : IdxInv t)
    (hk : m.rt ≠ 0) (hb : s.has m.rt = true) (ha : (s.sub m).has m.rt = false) (x : Msg) :
    x ∈ (rtcStep t s e m true).2 ↔
      ∃ b, t.best b.nlri = some b ∧ m.rt ∈ keys b.ecs ∧ interested (s.sub m) b.ecs = false ∧
        x = Msg.wd b.nlri := by
  rw [ViewAux.wd_msgs t s e m h hi hb ha x]
  simp only [ne_eq, hk, not_false_eq_true, true_imp_iff]

/-! ### non-vacuity -/

section Examples
/-- 0x0002FDE800000001 = transitive two-octet-AS RT 65000:1; 0x4002… its non-transitive twin -/
def X : EC := 842122827661313
def Xn : EC := 4612528141255049217
def Y : EC := 842122827661314
def red : Vrf := { name := 1, rd := 1, label := 16, imports := [X, Xn], exports := [X] }
def pa : VPath := { uid := 1, root := 1, src := 1, pathId := 0, rd := 5, pfx := 0, label := 1005, pref := 100, marker := 1, ecs := [X, Y] }
def pb : VPath := { uid := 2, root := 2, src := 3, pathId := 1, rd := 5, pfx := 0, label := 1005, pref := 300, marker := 2, ecs := [Y] }

example : canImport red [Y, X] = true := by decide +kernel
example : canImport red [Xn, Y] = false :=
  vrf_nontransitive_not_imported red [Xn, Y] (by decide +kernel)
example : (vrfSelect red [pa, pb]).map (·.marker) = [1] := by decide +kernel
example : (toGlobal red (toLocal pa)).ecs = [X] ∧ (toGlobal red (toLocal pa)).rd = 1 := by decide +kernel
example : lastEv [⟨⟨X, 65000, 0⟩, false⟩, ⟨⟨X, 65001, 0⟩, false⟩, ⟨⟨X, 65000, 0⟩, true⟩] ⟨X, 65001, 0⟩ = some true := by decide +kernel
example : (Rtm.run [] [⟨⟨X, 65000, 0⟩, false⟩, ⟨⟨X, 65001, 0⟩, false⟩, ⟨⟨X, 65000, 0⟩, true⟩]).has X = true := by decide +kernel

/-- a reachable table with a best ADD-PATH path and a non-best path without path-id -/
def t2 : Tbl := (Tbl.empty.update pa false).update pb false
theorem stored_after_pa (n : Nat × Nat) (q : VPath) (hq : q ∈ (Tbl.empty.update pa false).dest n) : q = pa :=
  (mem_update_dest _ _ _ _ _ hq).elim id (fun h => nomatch h)
theorem t2_reach : Reach t2 :=
  Reach.step _ pb false
    (Reach.step _ pa false Reach.empty (fun _ => ⟨(fun n q hq => nomatch hq), (fun n q hq => nomatch hq)⟩))
    (fun _ => ⟨fun n q hq hu => by rw [stored_after_pa n q hq] at hu; exact absurd hu (by decide),
               fun n q hq hr => by rw [stored_after_pa n q hq] at hr; exact absurd hr (by decide)⟩)
/-- the same object fed again (soft reset in without a modifying policy) keeps the table reachable
    and the path indexed; so does a clone with other targets (soft reset in with a modifying policy) -/
def pb' : VPath := { pb with uid := 3, ecs := [X] }
theorem t2_refeed : Reach (t2.update pb false) :=
  Reach.step _ pb false t2_reach (fun _ => feed_same_object t2 pb (reach_inv t2 t2_reach).1 (by decide))
theorem stored_after_refeed (n : Nat × Nat) (q : VPath) (hq : q ∈ (t2.update pb false).dest n) :
    q = pb ∨ q = pa := by
  rcases mem_update_dest _ _ _ _ _ hq with e | hq
  · exact Or.inl e
  · rcases mem_update_dest _ _ _ _ _ hq with e | hq
    · exact Or.inl e
    · exact Or.inr (stored_after_pa n q hq)
theorem t2_refeed_clone : Reach ((t2.update pb false).update pb' false) :=
  Reach.step _ pb' false t2_refeed (fun _ =>
    feed_clone _ pb' pb (reach_inv _ t2_refeed).1 (by decide) (by decide) (by decide) (by decide)
      (fun n q hq => by rcases stored_after_refeed n q hq with rfl | rfl <;> decide))
example : ((t2.update pb false).idx.byRT Y).map (·.uid) = [2] ∧
    (((t2.update pb false).update pb' false).idx.byRT X).map (·.uid) = [3] ∧
    (((t2.update pb false).update pb' false).idx.byRT Y).map (·.uid) = [] := by decide +kernel

/-- a reachable system in which the peer holds a route, and one in which it lost it -/
def sys1 : Sys := ((Sys.init.step (.upd pa false)).step (.mem ⟨X, 65000, 0⟩ false))
example : sys1.v (5, 0) = some 1 := by decide +kernel
example : (rtcStep sys1.t sys1.s false ⟨Y, 65000, 0⟩ false).2 = [Msg.adv (5, 0) 1] := by decide +kernel
example : (rtcStep sys1.t (sys1.s.add ⟨Y, 65000, 0⟩) false ⟨X, 65000, 0⟩ true).2 = [] := by decide +kernel
example : (rtcStep sys1.t sys1.s false ⟨X, 65000, 0⟩ true).2 = [Msg.wd (5, 0)] := by decide +kernel
example : (rtcStep sys1.t sys1.s false ⟨X, 65001, 0⟩ true).2 = [] :=
  rtc_minimal_unchanged _ _ _ _ _ (by decide)
/-- the local membership is the runner-up behind a neighbour's; deleting the only VRF withdraws it -/
def blue : Vrf := { name := 2, rd := 2, label := 17, imports := [X, Y], exports := [] }
def mops : List MOp := [.add red, .recv X ⟨3, 200⟩ false, .add blue, .recv Y ⟨4, 50⟩ false]
theorem mops_ok : RecvOK mops := by simp [mops, RecvOK]
example : ((Mgr.run mops).rtc X).map (·.src) = [3, 0] ∧ ((Mgr.run mops).rtc Y).map (·.src) = [0, 4] := by decide +kernel
example : ((Mgr.run mops).delVrf 1).2 = [Xn] ∧ ((Mgr.run (mops ++ [.del 1])).delVrf 2).2 = [X, Y] := by decide +kernel
/-- a session with deferred updates: the membership announced meanwhile is honoured by the transfer -/
def sysS1 : SysS := (((SysS.init.step (.upd pa false)).step .restart).step (.mem ⟨X, 65000, 0⟩ false))
theorem sysS1_reach : SysSReach (sysS1.step .resume) := by
  refine SysSReach.step _ _ (SysSReach.step _ _ (SysSReach.step _ _ (SysSReach.step _ _ SysSReach.init ?_) ?_) ?_) ?_
  · intro p hp
    cases hp
    exact ⟨(fun n q hq => nomatch hq), (fun n q hq => nomatch hq)⟩
  all_goals intro p hp; cases hp
example : sysS1.sup = true ∧ sysS1.v (5, 0) = none ∧ (sysS1.step .resume).v (5, 0) = some 1 := by decide +kernel
example : wantsRFC [⟨32, 65000, 0⟩] [Y] = true ∧ interested ([⟨32, 65000, 0⟩].map MemL.toMem) [Y] = true := by decide +kernel
/-- a VRF-originated route that is the runner-up behind another PE's route for the same RD:prefix,
    with a foreign target: reported as 1 destination / 1 path, and gone after DeleteVrf -/
def vrf3 : Vrf := { name := 3, rd := 3, label := 0, imports := [X], exports := [X] }
def loc3 : VPath := { uid := 11, root := 11, src := 0, pathId := 0, rd := 3, pfx := 8, label := 0, pref := 115, marker := 11, ecs := [X] }
def pe3 : VPath := { uid := 12, root := 12, src := 1, pathId := 0, rd := 3, pfx := 8, label := 1003, pref := 292, marker := 12, ecs := [Y] }
def t3 : Tbl := (Tbl.empty.update loc3 false).update pe3 false
example : (t3.dest (3, 8)).map (·.marker) = [12, 11] ∧ vrfInfo t3 vrf3 = (1, 1) ∧
    (delVrfPaths t3 vrf3).map (·.marker) = [11] ∧
    ((t3.withdrawAll (delVrfPaths t3 vrf3)).dest (3, 8)).map (·.marker) = [12] := by decide +kernel
end Examples

end C17
