/-
  C01, ADD-PATH send branch ("with ADD-PATH every eligible path up to send-max, each under one
  stable path identifier … No route that has left the Loc-RIB stays advertised and no eligible
  route is missing").

  Model: Model/AddPathSend.lean — ONE (target peer, destination) pair: the Loc-RIB path list of
  the destination with its local path identifiers (destination.Calculate), the peer's
  bookkeeping (`sentPaths`, `sendMaxPathFiltered`) and the far end's view, under announcements,
  implicit replacements, withdrawals (from any source), session up (initial table transfer),
  session down, soft reset out / ROUTE-REFRESH, and a session coming up BETWEEN the table update
  and the fan-out of another peer's UPDATE (`Ev.upBetween`).  `o` are the best-path options, `elig` the
  export decision `s.filterpath(peer, path, nil)` (ANY predicate on paths), `k` is send-max.
  Every theorem below is about `run o elig k evs` for EVERY history `evs`.

  Tied to the code by go/overlay/pkg/server/zz_verif_c01ap_test.go: the whole-speaker embedding
  (`AddPathSend.APW`: the world of Model/World.lean feeds each destination's table updates to the
  pairs) is compared with a real BgpServer after every flush point (views keyed by local path-id,
  sentPaths, sendMaxPathFiltered, Loc-RIB order with identifiers); that embedding is sampled, not
  proved.  The model mirrors the code AFTER the two fixes "an ADD-PATH path that becomes filtered is
  no longer marked as held back by send-max" and "the withdrawal of a path never advertised to an
  ADD-PATH peer frees no send-max slot"; the pinned behaviour is `runOld`, refuted below.
-/
import Lemmas.AddPathSend
namespace C01AP
open BestPath World AddPathSend

variable (o : Opts) (elig : Cand → Bool) (k : Nat)

/-- **(1) nothing that left the Loc-RIB, and nothing the export filter rejects, stays
    advertised.**  Every route at the far end is the CURRENT version (marker) of a path that is
    in the destination's Loc-RIB list now, under that path's local identifier, and passes the
    export filter. -/
theorem advertised_only_current_exportable (evs : List Ev) :
    ∀ i m, (i, m) ∈ (run o elig k evs).bk.view →
      ∃ x, x ∈ (run o elig k evs).tbl.known ∧ x.id = i ∧ x.marker = m ∧ elig x = true :=
  (inv_run o elig k evs).view_current

/-- **(2) no eligible route is missing while a slot is free, and never more than send-max.**
    An established peer holds exactly min(send-max, number of exportable Loc-RIB paths) routes
    of the destination; a peer that is not established holds none. -/
theorem advertised_count (evs : List Ev) :
    (run o elig k evs).bk.view.length =
      if (run o elig k evs).up then min k ((run o elig k evs).tbl.known.filter elig).length else 0 :=
  (inv_run o elig k evs).view_count

/-- **(3a) distinct paths have distinct identifiers** (in the Loc-RIB, none is 0, and so at the
    far end: one route per identifier), **and no identifier dangles**: every identifier at the
    far end is the identifier of a current Loc-RIB path. -/
theorem identifiers_distinct (evs : List Ev) :
    (((run o elig k evs).tbl.known.map (·.id)).Nodup ∧
      ∀ x, x ∈ (run o elig k evs).tbl.known → x.id ≠ 0) ∧
    ((run o elig k evs).bk.view.map (·.1)).Nodup ∧
    (∀ i, i ∈ (run o elig k evs).bk.view.map (·.1) →
      i ∈ (run o elig k evs).tbl.known.map (·.id)) :=
  (inv_run o elig k evs).ids

/-- **(3b) one stable identifier per path.**  Across any further event, a path that is still in
    the Loc-RIB (same source and remote path-id — replaced by a new version or untouched) has the
    identifier it had before.  With (1) and (4): an advertised path is known to the peer under
    ONE identifier from its first advertisement until its withdrawal. -/
theorem identifier_stable (evs : List Ev) (e : Ev) :
    ∀ x, x ∈ (run o elig k evs).tbl.known →
      ∀ y, y ∈ (step o elig k (run o elig k evs) e).tbl.known → sameKey x y = true → y.id = x.id :=
  step_id_stable o elig k _ e (inv_run o elig k evs).1

/-- **(4) the bookkeeping never drifts from what was actually sent.**  The identifiers at the
    far end are exactly `sentPaths`; a held-back mark sits only on an exportable Loc-RIB path
    that is not advertised, every exportable path is advertised or marked, and a path is held
    back only while all send-max slots are taken. -/
theorem bookkeeping_exact (evs : List Ev) :
    (∀ i, i ∈ (run o elig k evs).bk.view.map (·.1) ↔ i ∈ (run o elig k evs).bk.sent) ∧
    (∀ i, i ∈ (run o elig k evs).bk.held →
      i ∉ (run o elig k evs).bk.sent ∧
      ∃ x, x ∈ (run o elig k evs).tbl.known ∧ x.id = i ∧ elig x = true) ∧
    ((run o elig k evs).up = true → ∀ x, x ∈ (run o elig k evs).tbl.known → elig x = true →
      x.id ∈ (run o elig k evs).bk.sent ∨ x.id ∈ (run o elig k evs).bk.held) ∧
    ((run o elig k evs).bk.held ≠ [] → (run o elig k evs).bk.sent.length = k) :=
  (inv_run o elig k evs).bookkeeping

/-- **(5a) which k paths: after an initial table transfer, the k best.**  Whatever happened
    before, a session that comes up is sent the first `k` exportable paths in Loc-RIB (best
    first) order. -/
theorem transfer_sends_k_best (evs : List Ev) :
    ∀ i, i ∈ (step o elig k (run o elig k evs) .up).bk.sent ↔
      i ∈ (((run o elig k evs).tbl.known.filter elig).take k).map (·.id) :=
  transfer_init_sent elig k _ (inv_run o elig k evs).1

/-- **(5b) a freed slot goes to the best-ranked held-back path.** -/
theorem promotion_takes_best_held (known : List Cand) (held : List Nat) :
    promote elig 1 known held =
      match known.find? (fun p => elig p && held.contains p.id) with
      | some q => ([q], del q.id held)
      | none => ([], held) :=
  promote_one elig known held

/-- **(5c) soft reset out / ROUTE-REFRESH neither adds nor removes anything** (no export
    policy change in this model): same advertised set, same held-back set, same view. -/
theorem soft_reset_out_changes_nothing (evs : List Ev) (hu : (run o elig k evs).up = true) :
    (∀ i, i ∈ (step o elig k (run o elig k evs) .softOut).bk.sent ↔ i ∈ (run o elig k evs).bk.sent) ∧
    (∀ i, i ∈ (step o elig k (run o elig k evs) .softOut).bk.held ↔ i ∈ (run o elig k evs).bk.held) ∧
    (∀ e, e ∈ (step o elig k (run o elig k evs) .softOut).bk.view ↔ e ∈ (run o elig k evs).bk.view) := by
  obtain ⟨hT, hUp, _⟩ := inv_run o elig k evs
  have hs : (step o elig k (run o elig k evs) .softOut).bk =
      transfer elig k (run o elig k evs).tbl true (run o elig k evs).bk := by
    simp only [AddPathSend.step, hu, if_true]
  obtain ⟨e1, e2, e3⟩ := transfer_soft_same elig k _ _ hT (hUp hu)
  rw [hs, e1, e2]
  exact ⟨fun _ => Iff.rfl, fun _ => Iff.rfl, e3⟩

/-! ### non-vacuity, and what does NOT hold -/

def g0 : Global := ⟨65000, 1⟩
/-- the target: an eBGP peer in AS 65001 with ADD-PATH send -/
def target : PeerCfg := { idx := 0, kind := .ebgp, as := 65001, rid := 10, addr := 100, sendMax := 1 }
/-- the source: an eBGP peer in AS 65002 sending several paths per prefix (ADD-PATH receive) -/
def source : PeerCfg := { idx := 1, kind := .ebgp, as := 65002, rid := 11, addr := 101, addPathRx := true }
def opts0 : Opts := ⟨false, false, false⟩

def path (pathId marker : Nat) (asPath : List Nat) : Cand :=
  { (default : Cand) with src := source.srcInfo g0, pathId := pathId, marker := marker, origin := some 0, segs := [⟨2, asPath⟩] }

/-- the export decision toward `target`: the loop-prevention chain of Model/World.lean -/
def elig0 : Cand → Bool := eligOf g0 target

example : elig0 (path 0 1 [65002]) = true := by decide +kernel
example : elig0 (path 1 3 [65002, 65001]) = false := by decide +kernel   -- the target's AS is in the AS_PATH

/-- The history that was stuck on the pinned tree (send-max 1): A is advertised, X is held back,
    X is replaced by a version the target must not get (AS loop), A is withdrawn, X is replaced
    again by an exportable version (advertised — with the stale held-back mark), X is
    withdrawn. -/
def stuck : List Ev :=
  [.up,
   .rib (.ann (path 0 1 [65002])),
   .rib (.ann (path 1 2 [65002, 300])),
   .rib (.ann (path 1 3 [65002, 65001])),
   .rib (.wd (path 0 0 []) true),
   .rib (.ann (path 1 4 [65002, 300])),
   .rib (.wd (path 1 0 []) true)]

/-- **counterexample on the pinned behaviour**: the Loc-RIB of the destination is empty, yet the
    far end still holds the route with marker 4 under identifier 2 (replayed on the real server:
    corpus case `held-mark-survives-filtered-replacement` of the harness; repaired by the
    `fix:` commit the model mirrors). -/
theorem pinned_stuck_route_counterexample :
    (runOld opts0 elig0 1 stuck).tbl.known = [] ∧ (runOld opts0 elig0 1 stuck).bk.view = [(2, 4)] ∧
      (runOld opts0 elig0 1 (stuck.take 4)).bk.held = [2] := by decide +kernel

/-- The second history that failed on the pinned tree (send-max 1): three paths are in the
    Loc-RIB while the target is down; path-id 2 is withdrawn, and the target's session comes up
    between the table update and the fan-out of that withdrawal (`upBetween`). -/
def late_fanout : List Ev :=
  [.rib (.ann (path 0 1 [65002])),
   .rib (.ann (path 1 2 [65002, 300])),
   .rib (.ann (path 2 3 [65002, 300, 400])),
   .upBetween (.wd (path 2 0 []) true)]

/-- **counterexample on the pinned behaviour**: the late fan-out "withdrew" a path the peer had
    never been sent and promoted the held-back path into a slot that was not free — two routes
    toward a peer with send-max 1 (replayed on the real server: corpus case
    `withdrawal-fanned-out-after-initial-transfer`; repaired by the second `fix:` commit). -/
theorem pinned_over_send_max_counterexample :
    (runOld opts0 elig0 1 late_fanout).bk.view.length = 2 ∧
      (run opts0 elig0 1 late_fanout).bk = { sent := [1], held := [2], view := [(1, 1)] } := by
  decide +kernel

/-- after the fix the same history leaves nothing behind -/
example : (run opts0 elig0 1 stuck).bk.view = [] ∧ (run opts0 elig0 1 (stuck.take 4)).bk.held = [] := by
  decide +kernel

/-- the intermediate states of the history: one identifier per path, kept across replacements -/
example : (run opts0 elig0 1 (stuck.take 3)).tbl.known.map (fun c => (c.marker, c.id)) = [(1, 1), (2, 2)] ∧
    (run opts0 elig0 1 (stuck.take 3)).bk = { sent := [1], held := [2], view := [(1, 1)] } ∧
    (run opts0 elig0 1 (stuck.take 6)).tbl.known.map (fun c => (c.marker, c.id)) = [(4, 2)] ∧
    (run opts0 elig0 1 (stuck.take 6)).bk = { sent := [2], held := [], view := [(2, 4)] } := by
  decide +kernel

/-- **(5d) NOT "the k best" in general**: a better path that arrives while all slots are taken
    is held back; it is not swapped in for the worse path already advertised.  Here the shorter
    AS_PATH (marker 2) ranks first in the Loc-RIB, but the peer keeps marker 1 … -/
def later_better : List Ev :=
  [.up, .rib (.ann (path 0 1 [65002, 300, 400])), .rib (.ann (path 1 2 [65002]))]

theorem not_always_k_best :
    (run opts0 elig0 1 later_better).tbl.known.map (·.marker) = [2, 1] ∧
    (run opts0 elig0 1 later_better).bk.view = [(1, 1)] ∧
    (run opts0 elig0 1 later_better).bk.held = [2] := by decide +kernel

/-- … until the session flaps (or the advertised path is withdrawn): then the best one is sent -/
example : (run opts0 elig0 1 (later_better ++ [.down, .up])).bk.view = [(2, 2)] := by decide +kernel
example : (run opts0 elig0 1 (later_better ++ [.rib (.wd (path 0 0 []) true)])).bk.view = [(2, 2)] := by
  decide +kernel

/-- a wider example for (1)–(4): send-max 2, four paths, one of them not exportable, a withdrawal
    of an advertised path promotes the best held-back one, identifiers are not reused while the
    withdrawals did not come through the Adj-RIB-In -/
def wide : List Ev :=
  [.rib (.ann (path 0 1 [65002, 300])), .up,
   .rib (.ann (path 1 2 [65002, 65001])),       -- never exportable toward the target
   .rib (.ann (path 2 3 [65002, 300, 400])),
   .rib (.ann (path 3 4 [65002])),               -- best, but both slots are taken
   .softOut,
   .rib (.wd (path 0 0 []) true)]                -- frees a slot: marker 4 is promoted

example : (run opts0 elig0 2 (wide.take 6)).bk = { sent := [3, 1], held := [4], view := [(3, 3), (1, 1)] } := by
  decide +kernel
example : (run opts0 elig0 2 wide).tbl.known.map (fun c => (c.marker, c.id)) = [(4, 4), (2, 2), (3, 3)] ∧
    (run opts0 elig0 2 wide).bk = { sent := [4, 3], held := [], view := [(4, 4), (3, 3)] } := by
  decide +kernel

end C01AP
