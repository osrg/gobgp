/-
  C01RS — the route-server-client part of C01 ("each peer has been told exactly the current
  export of the Loc-RIB").

  Model: Model/RouteServer.lean — a speaker whose neighbour map holds ordinary peers (global
  table, Model/World.lean) AND route-server clients (the second table manager `rsRib`); per
  client the client-specific best path `getBestPath(id, as)`; incremental fan-out with the
  client-specific (best, old) pair; initial table transfer from the client's own view of the
  table; session up / down, announce / replace / withdraw, AddPeer, DeletePeer.
  Tied to the code by go/overlay/pkg/server/zz_verif_c01rs_test.go (views accumulated from the
  UPDATEs actually packed, serialised and re-parsed; fresh-transfer oracle on the real server).

  The export filter chain mirrored is the REPAIRED one (peer.go filterPathFromSourcePeer after
  "fix: a route server client whose router ID equals the new best path's source gets the old best
  withdrawn"): on the pinned tree the full statement is false, see `pinned_stuck_route` below.
-/
import Lemmas.RouteServerHist
namespace C01RS
open BestPath World RouteServer

/-- **delta_correct_rs** — the per-step heart.  For every route-server client `t` and every pair
    (old, new) of the SHARED path list of a destination: if the client held exactly the export
    of its old client-specific best path, then after applying what the incremental fan-out
    sends it (GetChanges(id, as) + filterpath with the client's old best) it holds exactly the
    export of its new client-specific best path — what an initial table transfer would send.
    (`wfEq`: two paths that are `PeerInfo.Equal` have the same PeerInfo; it follows from "every
    path of the route-server table was learned from a route-server client", see
    `C01RS_quiescent`.) -/
theorem delta_correct_rs (g : Global) (t : PeerCfg) (h : t.isRSClient = true)
    (oldL newL : List Cand)
    (wfEq : ∀ b o, clientBest t newL = some b → clientBest t oldL = some o →
      b.src.equal o.src = true → b.src = o.src) :
    heldApply (rsWant g t oldL) (rsDeltaFor g t oldL newL) = rsWant g t newL :=
  rs_delta_correct g t h oldL newL wfEq

/-- the neighbour an event concerns is a route-server client -/
def ofClient (s : S) : WOp → Bool
  | .up i | .down i | .ann i _ | .wd i _ _ | .del i => s.isRS i
  | _ => false

theorem step_ordinary {s : S} {op : WOp} (hop : ofClient s op = false) :
    RouteServer.step s op = { s with base := World.step s.base op } := by
  cases op with
  | up i | down i | ann i _ | wd i _ _ | del i => exact if_neg (Bool.eq_false_iff.mp hop)
  | localAdd _ | localDel _ _ | add _ => rfl

theorem ordinary_step_untouched (s : S) (hp : PeersWF s.base.peers) (op : WOp)
    (hop : ofClient s op = false) (hadd : ∀ c, op ≠ .add c) :
    Untouched PeerCfg.isRSClient s.base (World.step s.base op) := by
  have hord : ∀ i, s.isRS i = false → ∀ ps, s.base.peer? i = some ps → ps.cfg.isRSClient = false :=
    fun i h ps hps => (isRS_eq hps).symm.trans h
  cases op with
  | up i => exact (sessionUp_frame s.base hp i (hord i hop)).untouched
  | down i => exact (sessionDown_frame s.base hp i (hord i hop)).untouched
  | ann i r => exact (recvAnn_frame s.base hp i r (hord i hop)).untouched
  | wd i p k => exact (recvWd_frame s.base hp i p k (hord i hop)).untouched
  | localAdd r => exact (localAdd_frame s.base r).untouched
  | localDel p k => exact (localDel_frame s.base p k).untouched
  | add c => exact absurd rfl (hadd c)
  | del i => exact delPeer_untouched s.base hp i (hord i hop)

theorem client_step (s : S) (h : RSInv s) (op : WOp) (hop : ofClient s op = true) :
    RSInv (RouteServer.step s op) ∧ (RouteServer.step s op).base.rib = s.base.rib ∧
    Untouched (fun c => !c.isRSClient) s.base (RouteServer.step s op).base := by
  have key : ∀ s', RSInv s' ∧ RsFrame s s' →
      RSInv s' ∧ s'.base.rib = s.base.rib ∧ Untouched (fun c => !c.isRSClient) s.base s'.base :=
    fun s' h => ⟨h.1, h.2.2, h.2.1.untouched⟩
  cases op with
  | up i =>
    rw [show RouteServer.step s (.up i) = rsSessionUp s i from if_pos hop]
    exact key _ (rsSessionUp_step s i hop h)
  | down i =>
    rw [show RouteServer.step s (.down i) = rsSessionDown s i from if_pos hop]
    exact key _ (rsSessionDown_step s i hop h)
  | ann i r =>
    rw [show RouteServer.step s (.ann i r) = rsRecvAnn s i r from if_pos hop]
    exact key _ (rsRecvAnn_step s i r hop h)
  | wd i p k =>
    rw [show RouteServer.step s (.wd i p k) = rsRecvWd s i p k from if_pos hop]
    exact key _ (rsRecvWd_step s i p k hop h)
  | del i =>
    rw [show RouteServer.step s (.del i) = rsDelPeer s i from if_pos hop]
    exact rsDelPeer_step s i hop h
  | localAdd _ | localDel _ _ | add _ => exact absurd hop Bool.false_ne_true

theorem step_inv (s : S) (op : WOp) (h : RSInv s) : RSInv (RouteServer.step s op) := by
  cases hop : ofClient s op with
  | true => exact (client_step s h op hop).1
  | false =>
    rw [step_ordinary hop]
    cases op with
    | add c =>
      obtain ⟨hg, hwf, hm⟩ := addPeer_frame s.base h.peers c
      exact h.of_base hg hwf fun ps hps hup _ => hm ps hps hup
    | _ => exact h.untouched (ordinary_step_untouched s h.peers _ hop fun _ e => WOp.noConfusion e)

theorem run_inv (s : S) (ops : List WOp) (h : RSInv s) : RSInv (ops.foldl RouteServer.step s) := by
  induction ops generalizing s with
  | nil => exact h
  | cons op rest ih => exact ih _ (step_inv s op h)

theorem reach_inv (g : Global) (cfgs : List PeerCfg)
    (haddr : cfgs.Pairwise (fun a b => a.addr ≠ b.addr))
    (hidx : cfgs.Pairwise (fun a b => a.idx ≠ b.idx)) (ops : List WOp) :
    RSInv (ops.foldl RouteServer.step (RouteServer.init g cfgs)) :=
  run_inv _ ops (init_inv g cfgs haddr hidx)

/-- **C01RS_quiescent.**  For every configuration (neighbours with pairwise different addresses
    and indices; ordinary peers and route-server clients mixed) and EVERY history of session up /
    down (non-graceful), announcement / replacement / withdrawal, locally injected routes,
    AddPeer and DeletePeer events — of clients and of ordinary peers, interleaved in any order —
    every established route-server client holds, for EVERY destination, exactly the export of
    ITS best path (`rsWant`: the first path of the shared list that is not its own and does not
    carry its AS, through the export filters with old = nil), i.e. what an initial table transfer
    would send it now.  By induction over the history with the invariant `RouteServer.RSInv`. -/
theorem C01RS_quiescent (g : Global) (cfgs : List PeerCfg)
    (haddr : cfgs.Pairwise (fun a b => a.addr ≠ b.addr))
    (hidx : cfgs.Pairwise (fun a b => a.idx ≠ b.idx))
    (ops : List WOp) :
    let s := ops.foldl RouteServer.step (RouteServer.init g cfgs)
    ∀ ps ∈ s.base.peers, ps.up = true → ps.cfg.isRSClient = true →
      ∀ pfx, heldOf ps.view pfx = rsWant s.base.g ps.cfg (s.rsRibOf pfx) :=
  (reach_inv g cfgs haddr hidx ops).views

/-- `rsWant` in closed form: the client's best path `b` (none → nothing), reachable, not from a
    router with the client's own router-id, not an iBGP-learned route toward an iBGP client, not
    LLGR-stale toward a client without LLGR. -/
theorem rs_want_closed (g : Global) (t : PeerCfg) (h : t.isRSClient = true) (l : List Cand) :
    rsWant g t l =
      match clientBest t l with
      | none => none
      | some b =>
        if b.nhInvalid then none
        else if exportableF g (asOrd t) b && (t.llgr || !b.stale) then some b.marker else none := by
  rw [rsWant_eq g t h, wantOf_eq, Option.head?_toList]
  cases clientBest t l with
  | none => rfl
  | some b => simp only [wantR, exportable_eq]; rfl

theorem rsWant_some (g : Global) (t : PeerCfg) (h : t.isRSClient = true) (l : List Cand) (m : Nat)
    (hw : rsWant g t l = some m) :
    ∃ b, clientBest t l = some b ∧ b ∈ l ∧ b.marker = m ∧
      b.src.addr ≠ some t.addr ∧ t.as ∉ asList b.segs ∧ b.src.rid ≠ t.rid := by
  rw [rs_want_closed g t h] at hw
  cases hb : clientBest t l with
  | none =>
    rw [hb] at hw
    cases hw
  | some b =>
    rw [hb] at hw
    simp only [Option.ite_none_left_eq_some, Option.ite_none_right_eq_some, Option.some.injEq,
      exportableF, Bool.and_eq_true, bne_iff_ne, ne_eq, asOrd_rid] at hw
    obtain ⟨hmem, hf⟩ := clientBest_some hb
    obtain ⟨ha, hl⟩ := rsFilter_false hf
    exact ⟨b, rfl, hmem, hw.2.2, ha, fun hc => Bool.false_ne_true (hl.symm.trans
      (List.contains_iff_mem.mpr hc)), fun e => hw.2.1.1.1.2 e.symm⟩

theorem rsWant_of_best (g : Global) (t : PeerCfg) (h : t.isRSClient = true) (l : List Cand)
    (b : Cand) (hb : clientBest t l = some b) (hn : b.nhInvalid = false)
    (hex : exportableF g (asOrd t) b = true) (hst : (t.llgr || !b.stale) = true) :
    rsWant g t l = some b.marker := by
  rw [rs_want_closed g t h, hb]
  simp only [hn, hex, hst, Bool.and_self, Bool.false_eq_true, if_false, if_true]

/-- **nothing of its own, nothing with its AS, nothing that left the table, nothing but its
    best.**  After any history, whatever an established client holds for a destination is a
    path that IS in the route-server table now, is the client's best path there, was learned
    from ANOTHER neighbour, does not carry the client's AS and does not come from a router with
    the client's router-id. -/
theorem rs_holds_only_its_best (g : Global) (cfgs : List PeerCfg)
    (haddr : cfgs.Pairwise (fun a b => a.addr ≠ b.addr))
    (hidx : cfgs.Pairwise (fun a b => a.idx ≠ b.idx))
    (ops : List WOp) :
    let s := ops.foldl RouteServer.step (RouteServer.init g cfgs)
    ∀ ps ∈ s.base.peers, ps.up = true → ps.cfg.isRSClient = true →
      ∀ pfx m, heldOf ps.view pfx = some m →
        ∃ b, clientBest ps.cfg (s.rsRibOf pfx) = some b ∧ b ∈ s.rsRibOf pfx ∧ b.marker = m ∧
          b.src.addr ≠ some ps.cfg.addr ∧ ps.cfg.as ∉ asList b.segs ∧ b.src.rid ≠ ps.cfg.rid :=
  fun ps hps hup hrs pfx m hm => rsWant_some _ _ hrs _ m
    (((reach_inv g cfgs haddr hidx ops).views ps hps hup hrs pfx).symm.trans hm)

/-- **no eligible best path missing.**  After any history, if a client's best path for a
    destination is reachable, comes from a router with another router-id, is not an
    iBGP-learned route toward an iBGP client and is not LLGR-stale (or the client has LLGR),
    the client holds it. -/
theorem rs_nothing_missing (g : Global) (cfgs : List PeerCfg)
    (haddr : cfgs.Pairwise (fun a b => a.addr ≠ b.addr))
    (hidx : cfgs.Pairwise (fun a b => a.idx ≠ b.idx))
    (ops : List WOp) :
    let s := ops.foldl RouteServer.step (RouteServer.init g cfgs)
    ∀ ps ∈ s.base.peers, ps.up = true → ps.cfg.isRSClient = true →
      ∀ pfx b, clientBest ps.cfg (s.rsRibOf pfx) = some b → b.nhInvalid = false →
        exportableF s.base.g (asOrd ps.cfg) b = true → (ps.cfg.llgr || !b.stale) = true →
        heldOf ps.view pfx = some b.marker :=
  fun ps hps hup hrs pfx b hb hn hex hst =>
    ((reach_inv g cfgs haddr hidx ops).views ps hps hup hrs pfx).trans
      (rsWant_of_best _ _ hrs _ b hb hn hex hst)

/-- every path of the route-server table was learned from a route-server client: nothing of the
    ordinary group (and no locally injected route) ever enters it -/
theorem rs_table_only_client_routes (g : Global) (cfgs : List PeerCfg)
    (haddr : cfgs.Pairwise (fun a b => a.addr ≠ b.addr))
    (hidx : cfgs.Pairwise (fun a b => a.idx ≠ b.idx))
    (ops : List WOp) :
    let s := ops.foldl RouteServer.step (RouteServer.init g cfgs)
    ∀ pfx, ∀ r ∈ s.rsRibOf pfx, r.pfx = pfx ∧
      ∃ c : PeerCfg, c.isRSClient = true ∧ r.src = c.srcInfo s.base.g :=
  (reach_inv g cfgs haddr hidx ops).ribOf

/-- **routes never cross, 1.**  An event of a route-server client (session up / down, UPDATE,
    DeletePeer), in any state reachable by a history, changes neither the global table nor the
    state (session flag, Adj-RIB-In, what it has been told) of any ordinary neighbour. -/
theorem client_event_leaves_ordinary_group (g : Global) (cfgs : List PeerCfg)
    (haddr : cfgs.Pairwise (fun a b => a.addr ≠ b.addr))
    (hidx : cfgs.Pairwise (fun a b => a.idx ≠ b.idx))
    (ops : List WOp) (op : WOp) :
    let s := ops.foldl RouteServer.step (RouteServer.init g cfgs)
    ofClient s op = true →
      (RouteServer.step s op).base.rib = s.base.rib ∧
      ∀ ps, ps.cfg.isRSClient = false → (ps ∈ (RouteServer.step s op).base.peers ↔ ps ∈ s.base.peers) := by
  intro s hop
  obtain ⟨_, hrib, hu⟩ := client_step s (reach_inv g cfgs haddr hidx ops) op hop
  exact ⟨hrib, fun ps hps => hu.mem ps (congrArg not hps)⟩

/-- **routes never cross, 2.**  An event of an ordinary neighbour or a locally injected route
    (everything but AddPeer, which only appends a neighbour), in any state reachable by a
    history, changes neither the route-server table nor the state of any route-server client. -/
theorem ordinary_event_leaves_client_group (g : Global) (cfgs : List PeerCfg)
    (haddr : cfgs.Pairwise (fun a b => a.addr ≠ b.addr))
    (hidx : cfgs.Pairwise (fun a b => a.idx ≠ b.idx))
    (ops : List WOp) (op : WOp) :
    let s := ops.foldl RouteServer.step (RouteServer.init g cfgs)
    ofClient s op = false → (∀ c, op ≠ .add c) →
      (RouteServer.step s op).rsRib = s.rsRib ∧
      ∀ ps, ps.cfg.isRSClient = true → (ps ∈ (RouteServer.step s op).base.peers ↔ ps ∈ s.base.peers) := by
  intro s hop hadd
  rw [step_ordinary hop]
  exact ⟨rfl, (ordinary_step_untouched s (reach_inv g cfgs haddr hidx ops).peers op hop hadd).mem⟩

/-! ### the pinned tree: a stuck route (repaired by the `fix:` commit named at the head) -/

/-- what the fan-out of the PINNED tree sent to one client (filterPathFromSourcePeer with the
    route-server exemption) -/
def rsDeltaForPinned (g : Global) (t : PeerCfg) (oldL newL : List Cand) : Option P :=
  match getChangesFor t oldL newL with
  | (some b, old) => rsFilterpathPinned g t b old
  | (none, _) => none

def g0 : Global := ⟨65000, 1⟩
/-- clients A and B: different ASes, different addresses, the SAME router-id (RFC 6286 allows it;
    also two sessions of one router) -/
def cA : PeerCfg := { idx := 0, kind := .rsc, as := 65001, rid := 10, addr := 101 }
def cB : PeerCfg := { idx := 1, kind := .rsc, as := 65002, rid := 10, addr := 102 }
def cC : PeerCfg := { idx := 2, kind := .rsc, as := 65003, rid := 12, addr := 103 }
def fromC : Cand := { (default : Cand) with src := cC.srcInfo g0, marker := 1, origin := some 0,
                                             segs := [⟨2, [65003]⟩] }
def fromA : Cand := { (default : Cand) with src := cA.srcInfo g0, marker := 2, origin := some 0,
                                             segs := [⟨2, [65001]⟩], localPref := some 200 }

/-- **pinned_stuck_route** (counterexample to `delta_correct_rs` on the pinned tree): client B
    holds C's route; A's better route becomes B's best path; it is "from me" for B (same
    router-id), so B should now hold nothing — but the pinned filter chain sent nothing at all,
    and B keeps C's route (also after C withdraws it: the route has then left the table).
    Replayed on the real server: corpus/C01RS/defect1-same-router-id-stuck-route.txt. -/
theorem pinned_stuck_route :
    rsWant g0 cB [fromC] = some 1 ∧ rsWant g0 cB [fromA, fromC] = none ∧
    heldApply (rsWant g0 cB [fromC]) (rsDeltaForPinned g0 cB [fromC] [fromA, fromC]) = some 1 ∧
    heldApply (rsWant g0 cB [fromC]) (rsDeltaFor g0 cB [fromC] [fromA, fromC]) = none := by
  decide +kernel

/-! ### non-vacuity -/

/-- `delta_correct_rs`: its hypotheses hold for client B and the two lists above -/
example : heldApply (rsWant g0 cB [fromC]) (rsDeltaFor g0 cB [fromC] [fromA, fromC]) =
    rsWant g0 cB [fromA, fromC] :=
  delta_correct_rs g0 cB rfl [fromC] [fromA, fromC] (by
    intro b o hb ho heq
    have h1 : clientBest cB [fromA, fromC] = some fromA := by decide +kernel
    have h2 : clientBest cB [fromC] = some fromC := by decide +kernel
    rw [h1] at hb; rw [h2] at ho
    cases hb; cases ho
    exact absurd heq (by decide +kernel))

/-- an ordinary eBGP peer next to the three clients -/
def ord : PeerCfg := { idx := 3, kind := .ebgp, as := 65011, rid := 13, addr := 104 }

def hist : List WOp :=
  [.up 0, .up 1, .up 2, .up 3,
   .ann 2 { (default : Cand) with pfx := 7, marker := 1, origin := some 0, segs := [⟨2, [65003]⟩] },
   .ann 0 { (default : Cand) with pfx := 7, marker := 2, origin := some 0, segs := [⟨2, [65001]⟩],
                                  localPref := some 200 },
   .ann 3 { (default : Cand) with pfx := 7, marker := 3, origin := some 0, segs := [⟨2, [65011]⟩] },
   .wd 2 7 0]

/-- C's route reaches A and B (not C, not the ordinary peer) … -/
example : ((hist.take 5).foldl RouteServer.step (RouteServer.init g0 [cA, cB, cC, ord])).base.peers.map
    (fun ps => heldOf ps.view 7) = [some 1, some 1, none, none] := by decide +kernel
/-- … A's better route displaces it: C now holds A's route, A keeps C's route (its own is not
    in its view), B (same router-id as A) is told to withdraw … -/
example : ((hist.take 6).foldl RouteServer.step (RouteServer.init g0 [cA, cB, cC, ord])).base.peers.map
    (fun ps => heldOf ps.view 7) = [some 1, none, some 2, none] := by decide +kernel
/-- … the ordinary peer's route stays in the global table and reaches no client; C's withdrawal
    leaves A with nothing -/
example : (hist.foldl RouteServer.step (RouteServer.init g0 [cA, cB, cC, ord])).base.peers.map
    (fun ps => heldOf ps.view 7) = [none, none, some 2, none] := by decide +kernel
example : ((hist.foldl RouteServer.step (RouteServer.init g0 [cA, cB, cC, ord])).rsRibOf 7).map (·.marker) = [2] ∧
    ((hist.foldl RouteServer.step (RouteServer.init g0 [cA, cB, cC, ord])).base.ribOf 7).map (·.marker) = [3] := by
  decide +kernel
/-- the hypotheses of the two isolation theorems are satisfiable -/
example : ofClient (RouteServer.init g0 [cA, cB, cC, ord]) (.up 0) = true ∧
    ofClient (RouteServer.init g0 [cA, cB, cC, ord]) (.up 3) = false := by decide +kernel

end C01RS
