/-
  C03 — best path follows the documented decision process, whatever the arrival order.

  Helper lemmas live in Lemmas/.  `BestPath.better`, `insertSort`, `calcStep` mirror
  internal/pkg/table/destination.go and are tied to it on every run by the correspondence check
  (go/overlay/internal/pkg/table/zz_verif_c03_test.go).
-/
import Lemmas.BestPathHist
import Lemmas.Multipath
namespace C03
open BestPath Lex

/-- The predicate handed to sort.Search IS the lexicographic comparison of the documented
    preference key (`BestPath.key`), for every pair of well-formed candidates and every
    option setting. -/
theorem better_is_documented_order (o : Opts) (a b : Cand) (wf : PairWF o a b) :
    better o a b = lexLe (key o a) (key o b) := better_eq_lex o a b wf

/-- hence it is total … -/
theorem better_total (o : Opts) (a b : Cand) (w1 : PairWF o a b) (w2 : PairWF o b a) :
    better o a b = true ∨ better o b a = true := BestPath.better_total o a b w1 w2

/-- … and transitive on every set whose MEDs are comparable: a total preorder, which is what
    binary insertion needs. -/
theorem better_trans (o : Opts) (a b c : Cand) (wab : PairWF o a b) (wbc : PairWF o b c)
    (wac : PairWF o a c) (h1 : better o a b = true) (h2 : better o b c = true) :
    better o a c = true := BestPath.better_trans o a b c wab wbc wac h1 h2

/-- After ANY history of announcements, implicit replacements and withdrawals the path list
    is sorted best-first, holds one entry per (source, path-id), and is a permutation of the
    latest un-withdrawn candidate per (source, path-id). -/
theorem history_sorted_and_exact (o : Opts) (ops : List Op) (wf : SetWF o (opCands ops)) :
    Sorted o (run o ops) ∧ NodupKey (run o ops) ∧ (run o ops).Perm (spec ops) :=
  run_inv o ops wf

/-- **Order independence.** Two histories that end with the same live candidate set, taken
    from distinct sources (pairwise different neighbour addresses), MED comparable throughout,
    produce the same list — in particular the same best path and the same multipath prefix. -/
theorem C03_order_independent (o : Opts) (ops1 ops2 : List Op)
    (wf : SetWF o (opCands ops1 ++ opCands ops2))
    (distinct : (spec ops1).Pairwise (fun a b => a.src.addr ≠ b.src.addr))
    (same : (spec ops1).Perm (spec ops2)) :
    run o ops1 = run o ops2 :=
  -- equal keys mean equal addresses, and the live candidates have distinct ones
  run_eq_of_spec_perm o (wf.sub fun _ hx => List.mem_append_left _ hx)
    (wf.sub fun _ hx => List.mem_append_right _ hx)
    (distinct.imp fun hne hk => hne (key_addr o _ _ hk)) same

/-- **The best path is the documented one**: the head of the list is minimal for the
    documented key among all live candidates. -/
theorem best_is_documented (o : Opts) (ops : List Op) (wf : SetWF o (opCands ops))
    (best : Cand) (rest : List Cand) (h : run o ops = best :: rest) :
    ∀ c ∈ spec ops, lexLe (key o best) (key o c) = true := by
  obtain ⟨s, _, p⟩ := run_inv o ops wf
  rw [h] at s p
  intro c hc
  rcases List.mem_cons.mp (p.symm.subset hc) with rfl | hc'
  · exact lexLe_refl _
  · rw [← better_eq_lex o best c (wf _ (mem_opCands_of_mem_spec (p.subset List.mem_cons_self)) _
      (mem_opCands_of_mem_spec hc))]
    exact (List.pairwise_cons.mp s).1 c hc'

/-! ### non-vacuity: concrete candidates satisfy the hypotheses and the comparators decide -/

def ebgp (id as rid addr lp med ts : Nat) : Cand :=
  { id := id, src := { as := as, localAS := 65000, rid := rid, localRid := 1, addr := some addr,
                       confed := false },
    pathId := 0, stale := false, nhInvalid := false, localPref := some lp,
    segs := [⟨2, [as, 100]⟩], origin := some 0, med := some med, ts := ts }

def o0 : Opts := ⟨true, false, false⟩

example : PairWF o0 (ebgp 1 65001 10 101 100 5 7) (ebgp 2 65002 11 102 100 5 3) :=
  ⟨by decide, by decide, by decide, by decide⟩

/-- the older eBGP route wins the tie, in both arrival orders -/
example : (run o0 [.ann (ebgp 1 65001 10 101 100 5 7), .ann (ebgp 2 65002 11 102 100 5 3)]).map (·.id)
    = [2, 1] := by decide
example : (run o0 [.ann (ebgp 2 65002 11 102 100 5 3), .ann (ebgp 1 65001 10 101 100 5 7)]).map (·.id)
    = [2, 1] := by decide

/-- **multipath_spec.** With a reachable best path the multipath set is the best path followed by
    the LONGEST run of paths that are reachable, as LLGR-stale as the best path and equal to it
    under `Path.Compare`: it is a prefix of the sorted list, every member qualifies, and the
    first path left out (if any) does not. With an unreachable best path it is empty. -/
theorem multipath_spec (best : Cand) (rest : List Cand) (h : best.nhInvalid = false) :
    ∃ tail, multipath (best :: rest) = best :: (multipath (best :: rest)).tail ∧
      multipath (best :: rest) ++ tail = best :: rest ∧
      (∀ y ∈ (multipath (best :: rest)).tail, equalCost best y = true) ∧
      (∀ y, tail.head? = some y → equalCost best y = false) := by
  have hm : multipath (best :: rest) = best :: rest.takeWhile (equalCost best) := by
    rw [multipath, if_neg (h ▸ Bool.false_ne_true)]
  rw [hm]
  refine ⟨rest.dropWhile (equalCost best), rfl, ?_, ?_, ?_⟩
  · rw [List.cons_append, List.takeWhile_append_dropWhile]
  · exact List.all_eq_true.mp List.all_takeWhile
  · intro y hy
    have := List.head?_dropWhile_not (equalCost best) rest
    rw [hy] at this
    exact this

theorem multipath_unreachable (best : Cand) (rest : List Cand) (h : best.nhInvalid = true) :
    multipath (best :: rest) = [] := by rw [multipath, if_pos h]

/-- what "equal cost" means step by step: a member of the multipath set ties with the best path
    on local origination, iBGP-ness, LOCAL_PREF, AS_PATH length, ORIGIN and MED -/
theorem multipath_members_tie (best y : Cand) (h : equalCost best y = true) :
    y.nhInvalid = false ∧ y.stale = best.stale ∧ y.isLocal = best.isLocal ∧ y.isIBGP = best.isIBGP ∧
      y.getLocalPref = best.getLocalPref ∧ asPathLen y = asPathLen best ∧
      y.origin.getD 0 = best.origin.getD 0 ∧ y.getMed = best.getMed :=
  (equalCost_iff best y).mp h

/-- **multipath_complete (partial).** With the default AS_PATH-length handling, MED comparable
    across the candidates and no confederation members, a list sorted by the decision process
    has ALL paths that are equal-cost with the best path at its head: every one of them is in
    the multipath set (nothing equal-cost hides behind a worse path). Missing for the full
    statement: under `ignore-as-path-length`, with non-comparable MEDs or with confederation
    members `Path.Compare` looks at fields the sort order skips, and an equal-cost path CAN sit
    behind a path that differs only there (second `example` below). -/
theorem multipath_complete_partial (o : Opts) (best : Cand) (rest : List Cand)
    (ho : o.ignoreAsPathLen = false) (hb : best.nhInvalid = false)
    (wf : SetWF o (best :: rest)) (hs : Sorted o (best :: rest))
    (hc : ∀ c ∈ best :: rest, c.src.confed = false) :
    ∀ y ∈ rest, equalCost best y = true → y ∈ multipath (best :: rest) := fun y hy hey => by
  rw [multipath_eq_filter o best rest ho hb wf hs hc]
  exact List.mem_cons_of_mem best (List.mem_filter.mpr ⟨hy, hey⟩)

/-- non-vacuity: three equal-cost eBGP paths and a worse one, sorted by age -/
example : (multipath (run o0 [.ann (ebgp 1 65001 10 101 100 5 7), .ann (ebgp 2 65001 11 102 100 5 3),
    .ann (ebgp 3 65001 12 103 90 5 1), .ann (ebgp 4 65001 13 104 100 5 9)])).map (·.id) = [2, 1, 4] := by decide
/-- what the hypotheses exclude: with ignore-as-path-length the older path 2 (longer AS_PATH,
    not equal under Compare) sorts between the equal-cost paths 1 and 3, and 3 is left out -/
example : (multipath (run ⟨true, true, false⟩ [.ann (ebgp 1 65001 10 101 100 5 1),
    .ann { (ebgp 2 65001 11 102 100 5 2) with segs := [⟨2, [65001, 100, 200]⟩] },
    .ann (ebgp 3 65001 12 103 100 5 3)])).map (·.id) = [1] := by decide

/-- the pinned tree located the end of the run with a binary search over a predicate that is not
    monotone along the sorted list (LLGR-stale paths sort last whatever their attributes, and
    `Path.Compare` ignores staleness): a reachable history whose multipath set contained a path
    with a LOWER LOCAL_PREF than the best path, and two LLGR-stale ones. Fixed (`fix:` commit
    "the multipath set is the run of equal-cost paths at the head of the list"). -/
def mpc (id addr lp : Nat) (stale : Bool) : Cand :=
  { (ebgp id 65001 addr addr lp 5 (1000 + id)) with stale := stale }
def mpHist : List Op :=
  [.ann (mpc 1 1 200 false), .ann (mpc 2 2 100 false), .ann (mpc 3 3 200 true), .ann (mpc 4 4 200 true),
   .ann (mpc 5 5 100 true)]
theorem multipathOld_counterexample :
    (run o0 mpHist).map (·.id) = [1, 2, 3, 4, 5] ∧
    (multipathOld (run o0 mpHist)).map (·.id) = [1, 2, 3, 4] ∧
    (multipath (run o0 mpHist)).map (·.id) = [1] := by decide

example : equalCost (mpc 1 1 200 false) (mpc 6 6 200 false) = true := by decide

end C03
