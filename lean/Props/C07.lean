import Lemmas.Fsm
/-
  C07 — peering sessions follow the RFC 4271 state machine, timers included.

  Every theorem is about `Fsm.step` / `Fsm.run` of Model/Fsm.lean: the hand-written mirror of
  fsm.go's five state handlers for a PASSIVE peer at the granularity "one event, then run to
  quiescence", time in virtual seconds.  The model is tied to the Go code on every check by
  (a) the session harness (real BgpServer + fsm.go in a synctest bubble, scripted remote) comparing
  every message, its instant, every reported transition, ListPeer's state and the Adj-RIB-In
  count with `step` on the same event sequences, and (b) the source edge table of the handlers
  regenerated from fsm.go's syntax tree and compared with `allowedEdge`.  That tie is sampled, not
  proved.  The two collision branches of opensent() are not part of `step`: they are modelled on
  their own (`collideIncomingFirst`, `collideOutgoingFirst`, with `dominant` for fsm.isDominant).
  Of graceful restart only the RFC 8538 notification bit is modelled (`nNegotiated`,
  `convertNotification`).
-/
namespace C07
open Fsm

/-- RFC 4271 8.2.2, as far as gobgp's handlers can move (no CONNECT state). -/
theorem allowed_table :
    ∀ a b, allowedEdge a b = true ↔
      (a, b) ∈ [(S.idle, S.active), (S.idle, S.idle),
                (S.active, S.opensent), (S.active, S.openconfirm), (S.active, S.idle),
                (S.opensent, S.openconfirm), (S.opensent, S.idle),
                (S.openconfirm, S.established), (S.openconfirm, S.idle),
                (S.established, S.idle)] := by
  intro a b; cases a <;> cases b <;> decide

/-- RFC 4271 6.2 / RFC 6286: OPEN Message Error subcode for an unacceptable OPEN. -/
def rfcOpenErr (c : Cfg) (o : OpenMsg) : Option Nat :=
  if o.version ≠ 4 then some 1                                             -- Unsupported Version Number
  else if o.id = 0 ∨ (o.as = c.localAS ∧ o.id = c.localID) then some 3     -- Bad BGP Identifier
  else if c.peerAS ≠ 0 ∧ o.as ≠ c.peerAS then some 2                       -- Bad Peer AS
  else if o.hold = 1 ∨ o.hold = 2 then some 6                              -- Unacceptable Hold Time
  else none

/-- Message Header Error subcode (RFC 4271 6.1) for the four kinds of bad header:
    0 marker → Connection Not Synchronized, 1/2 length → Bad Message Length, 3 → Bad Message Type. -/
def rfcHdr (k : Nat) : Nat := if k = 0 then 1 else if k = 3 then 3 else 2

/-- The NOTIFICATION (code, subcode) an event must provoke in a state; `none`: no NOTIFICATION.
    RFC 4271 8.2.2 (ManualStop → Cease; header / OPEN errors), RFC 6608 (FSM Error subcodes
    1/2/3 for an unexpected message in OpenSent / OpenConfirm / Established), RFC 4486 (Cease
    subcodes: 1 maximum prefixes, 2 administrative shutdown, 3 peer de-configured, 4 reset). -/
def rfcNotif (c : Cfg) (s : St) (e : Ev) : Option (Nat × Nat) :=
  match s.st, e with
  -- a transport fault (`close`, `connLost`) never provokes a NOTIFICATION: the `_, _` case
  | .opensent, .open o => (rfcOpenErr c o).map (fun sub => (2, sub))
  | .opensent, .keepalive | .opensent, .update _ | .opensent, .refresh
  | .opensent, .notification => some (5, 1)
  | .opensent, .badHeader k => some (1, rfcHdr k)
  | .opensent, .disable => some (6, 2)
  | .openconfirm, .open _ | .openconfirm, .update _ | .openconfirm, .refresh => some (5, 2)
  | .openconfirm, .badHeader k => some (1, rfcHdr k)
  | .openconfirm, .disable => some (6, 2)
  | .established, .open _ => some (5, 3)
  | .established, .badHeader k => some (1, rfcHdr k)
  | .established, .disable | .established, .shutdown => some (6, 2)
  | .established, .reset => some (6, 4)
  | .established, .delete => some (6, 3)
  | .established, .update n =>
    if c.prefixLimit ≠ 0 ∧ s.rib + n > c.prefixLimit then some (6, 1) else none
  | _, _ => none

theorem validateOpen_eq_rfc (c : Cfg) (o : OpenMsg) : validateOpen c o = rfcOpenErr c o := by
  unfold validateOpen rfcOpenErr
  by_cases h1 : o.version ≠ 4 <;> simp [h1]
  by_cases h2 : o.id = 0 <;> simp [h2]
  by_cases h3 : o.as = c.localAS ∧ o.id = c.localID <;> simp [h3]
  by_cases h4 : c.peerAS ≠ 0 ∧ o.as ≠ c.peerAS <;> simp [h4]
  by_cases h5 : o.hold < 3 ∧ o.hold ≠ 0
  · have : o.hold = 1 ∨ o.hold = 2 := by omega
    simp [h5, this]
  · have : ¬ (o.hold = 1 ∨ o.hold = 2) := by omega
    simp [h5, this]

/-- **open_layout_irrelevant** — the AS every FSM decision works with (ValidateOpenMsg, the
    collision tie-break of isDominant, State.PeerAs and the peer type) is the value of the last
    4-octet-AS capability wherever it sits, the My-AS field if there is none: two OPENs with the
    same My-AS field and the same capabilities in order get the same AS however the
    capabilities are spread over optional parameters and whatever other parameters lie between. -/
theorem open_layout_irrelevant (w : OpenWire) :
    getASN w = w.cap4.getD w.myas ∧
    ∀ w' : OpenWire, w'.myas = w.myas → flatCaps w'.params = flatCaps w.params → getASN w' = getASN w := by
  refine ⟨by simp [getASN, OpenWire.cap4, scanParams_flat, scanCaps_last], ?_⟩
  intro w' h1 h2
  simp [getASN, scanParams_flat, h1, h2]

example : getASN ⟨4, asTrans, [.caps [.other], .unknown, .caps [.other, .as4 70002]], 1, 90⟩ = 70002 := by decide

/-- RFC 6286 with RFC 6793: the "own identifier from an internal peer" test is made on the AS
    the OPEN really announces — the value of the 4-octet-AS capability when there is one —
    whatever the 2-octet My-AS field says (AS_TRANS for a speaker in a 4-octet AS). -/
theorem bad_identifier_uses_real_as (c : Cfg) (w : OpenWire) (hv : w.version = 4)
    (hc : w.cap4 = some c.localAS) (hi : w.id = c.localID) :
    validateOpen c w.toMsg = some 3 := by
  have h := (open_layout_irrelevant w).1
  unfold validateOpen OpenWire.toMsg
  simp [hv, hc, hi, h]

example : validateOpen ⟨70000, 1, 70000, 90, 30, 30, 0⟩
    (OpenWire.toMsg ⟨4, asTrans, [.caps [.other], .caps [.as4 70000]], 1, 90⟩) = some 3 := by
  decide

/-- without the capability the My-AS field is the announced AS -/
theorem getASN_nocap (w : OpenWire) (h : w.cap4 = none) : getASN w = w.myas := by
  simp [(open_layout_irrelevant w).1, h]

/-- **edges_allowed** — for ALL event sequences from ANY state: the transitions reported along
    the run are contiguous (each starts where the previous one ended, the first in the start
    state), every one is an allowed edge, and they end in the state the session really is in. -/
theorem edges_allowed (c : Cfg) (s : St) (es : List Ev) :
    chain s.st (run c s es).2 = some (run c s es).1.st ∧
    ∀ a b adm t, Out.trans a b adm t ∈ (run c s es).2 → allowedEdge a b = true :=
  ⟨run_chain c s es, chain_allowed (run_chain c s es)⟩

example : (run ⟨65001, 1, 65002, 90, 30, 30, 0⟩ init
    [.tick 0, .connect, .open ⟨4, 65002, 2, 30⟩, .keepalive, .tick 31]).1.st = .idle := by decide

/-- **established_needs_open_keepalive** — a run that starts outside OPENCONFIRM/ESTABLISHED
    and ends ESTABLISHED contains an OPEN the daemon accepted (or the hand-over of a connection on
    which the outgoing-connection manager received one) and, later, a KEEPALIVE. -/
theorem established_needs_open_keepalive (c : Cfg) (s : St) (es : List Ev)
    (h0 : s.st ≠ .established) (h1 : s.st ≠ .openconfirm)
    (h : (run c s es).1.st = .established) : seenOpenKa c es :=
  ((run_established c s es h).resolve_left h0).resolve_left fun h2 => h1 h2.1

/-- its single-step core: ESTABLISHED is entered only from OPENCONFIRM and only by a KEEPALIVE
    (the like for OPENCONFIRM is `Fsm.openconfirm_entry`). -/
theorem established_entered_by_keepalive (c : Cfg) (s : St) (e : Ev)
    (h : (step c s e).1.st = .established) (h0 : s.st ≠ .established) :
    s.st = .openconfirm ∧ e = .keepalive :=
  (established_entry c s e h).resolve_left h0

example : (run ⟨65001, 1, 65002, 90, 30, 30, 0⟩ init
    [.tick 0, .connect, .open ⟨4, 65002, 2, 30⟩, .keepalive]).1.st = .established := by decide

/-- **no_rib_effect_unless_established** — whatever arrives while the session is not
    ESTABLISHED leaves the Adj-RIB-In as it is (or empties it on the way to IDLE). -/
theorem no_rib_effect_unless_established (c : Cfg) (s : St) (e : Ev) (h : s.st ≠ .established) :
    (step c s e).1.rib = s.rib ∨ (step c s e).1.rib = 0 :=
  step_rib c s e h

example : (step ⟨65001, 1, 65002, 90, 30, 30, 0⟩ { init with st := .openconfirm } (.update 3)).1.rib = 0 := by
  decide

/-- **notif_table** — for every state and every event other than silence: the NOTIFICATIONs the
    daemon writes are exactly the one `rfcNotif` prescribes (none if it prescribes none), written
    at the instant of the event, and after a NOTIFICATION the session is IDLE. -/
theorem notif_table (c : Cfg) (s : St) (e : Ev) (hd : s.deleted = false) (ht : ∀ t, e ≠ .tick t) :
    notifs (step c s e).2 = (match rfcNotif c s e with
                             | some (a, b) => [(a, b, s.now)]
                             | none => []) ∧
    (rfcNotif c s e ≠ none → (step c s e).1.st = .idle) := by
  have htab : notifs (step c s e).2 = (match rfcNotif c s e with
                                       | some (a, b) => [(a, b, s.now)]
                                       | none => []) := by
    -- with the FSM state, the queue flag and the event constructors, both tables evaluate
    rcases s with ⟨st, _, _, del, _, _, _, _, _, _, _, _, _, q, _⟩
    cases (hd : del = false)
    rw [step_live rfl]
    cases e with
    | tick t => exact absurd rfl (ht t)
    | «open» o =>
      cases st
      case opensent =>
        simp only [onOpensent, rfcNotif, ← validateOpen_eq_rfc]
        cases validateOpen c o <;> cases q <;> rfl
      all_goals cases q <;> rfl
    | update n =>
      cases st
      case established =>
        simp only [onEstablished, rfcNotif, touch_rib]
        split
        · exact (notifs_notifyIdle _ 6 1).trans (congrArg (fun t => [(6, 1, t)]) (touch_now _))
        · rfl
      all_goals cases q <;> rfl
    | _ => cases st <;> cases q <;> rfl
  refine ⟨htab, fun hne => (step_answer ht).idle_of_notif ?_⟩
  rw [htab]
  cases hr : rfcNotif c s e with
  | none => exact absurd hr hne
  | some p => nofun

example : rfcNotif ⟨65001, 1, 65002, 90, 30, 30, 0⟩ { init with st := .opensent } (.open ⟨4, 65003, 2, 30⟩)
    = some (2, 2) := by decide

/-- **timer_instants** — in OPENSENT / OPENCONFIRM / ESTABLISHED with the hold timer armed for
    instant `d` (and sane ticker deadlines), `t` seconds of silence produce exactly one
    NOTIFICATION, Hold Timer Expired (4/0), at exactly `d`, if `d` lies within the silence, and
    none otherwise — keepalives the daemon sends meanwhile do not move it. -/
theorem timer_instants (c : Cfg) (s : St) (t d : Nat) (hdel : s.deleted = false)
    (hs : isSession s) (hh : s.holdT = some d) (wf : TimersWF s) :
    notifs (step c s (.tick t)).2 = if d ≤ s.now + t then [(4, 0, d)] else [] := by
  rw [step_live hdel]
  exact advance_hold (t + 3) s (s.now + t) d hs hh wf (by omega)

/-- the deadline armed on entering OPENSENT: 240 s after the connection was accepted -/
theorem hold_armed_opensent (c : Cfg) (s : St) (h : s.st = .active) (hd : s.deleted = false) :
    (step c s .connect).1.holdT = some (s.now + 240) ∧ (step c s .connect).1.st = .opensent := by
  simp [step, hd, h, onActive, holdtimeOpensent]

/-- … on entering OPENCONFIRM: the negotiated hold time after the OPEN -/
theorem hold_armed_openconfirm (c : Cfg) (s : St) (o : OpenMsg) (h : s.st = .opensent)
    (hd : s.deleted = false) (hv : validateOpen c o = none) (hn : negotiate c o ≠ 0) :
    (step c s (.open o)).1.holdT = some (s.now + min o.hold c.hold) := by
  have h1 : negotiate c o = min o.hold c.hold := by unfold negotiate; split <;> omega
  rw [step_live hd, h]
  simp only [onOpensent, hv]
  rw [armSession_holdT _ _ hn, h1]

/-- … and re-armed by every KEEPALIVE in ESTABLISHED: the negotiated hold time after it (`lastRx`
    is that instant; `touch` does the same for an UPDATE) -/
theorem hold_rearmed_established (c : Cfg) (s : St) (h : s.st = .established)
    (hd : s.deleted = false) (hn : s.negHold ≠ 0) :
    (step c s .keepalive).1.holdT = some (s.now + s.negHold) ∧
    (step c s .keepalive).1.lastRx = s.now := by
  simp [step, hd, h, onEstablished, touch, hn]

example : ∃ s : St, isSession s ∧ s.holdT = some 30 ∧ TimersWF s ∧ s.deleted = false :=
  ⟨{ init with st := .established, holdT := some 30, kaT := some 10, kaI := 10 },
   Or.inr (Or.inr rfl), rfl,
   ⟨by intro k h; cases h; decide, by intro _; decide, by intro h' h; cases h; decide⟩, rfl⟩

/-- **collision_rule** — `dominant` (fsm.isDominant) keeps the connection the local speaker
    initiated iff its (BGP identifier, AS) is lexicographically greater than the remote's
    (RFC 4271 6.8, RFC 6286 2.3); so the two ends never both keep their own connection, and
    when the pairs differ exactly one end does. -/
theorem collision_rule (lid las rid ras : Nat) :
    (dominant lid las rid ras = true ↔ (rid < lid ∨ (rid = lid ∧ ras < las))) ∧
    ¬ (dominant lid las rid ras = true ∧ dominant rid ras lid las = true) ∧
    ((lid, las) ≠ (rid, ras) → (dominant lid las rid ras = true ∨ dominant rid ras lid las = true)) := by
  unfold dominant
  refine ⟨?_, ?_, ?_⟩
  · simp; omega
  · simp; omega
  · intro h
    have : lid ≠ rid ∨ las ≠ ras := by
      by_cases h1 : lid = rid
      · right; intro h2; exact h (by rw [h1, h2])
      · left; exact h1
    simp; omega

example : dominant 5 1 4 9 = true ∧ dominant 4 9 5 1 = false := by decide

/-- **transport_fault** — in every state that reads from the connection (OPENSENT, OPENCONFIRM,
    ESTABLISHED) a transport failure at any point of a message (between messages, inside the
    header, between header and body, inside the body) brings the session to IDLE at that very
    instant: the only outputs are the close of a completed outgoing connection still waiting to be
    taken (`drainOuts`) and the reported transition, no NOTIFICATION is written, hold timer
    and keepalive ticker are stopped and the Adj-RIB-In is emptied. -/
theorem transport_fault (c : Cfg) (s : St) (e : Ev) (hd : s.deleted = false) (hs : isSession s)
    (he : e = .close ∨ ∃ k, e = .connLost k) :
    (step c s e).2 = drainOuts s ++ [.trans s.st .idle s.admin s.now] ∧
    (step c s e).1.st = .idle ∧ (step c s e).1.now = s.now ∧
    (step c s e).1.holdT = none ∧ (step c s e).1.kaT = none ∧ (step c s e).1.rib = 0 := by
  rcases s with ⟨st, _, _, del, _, _, _, _, _, _, _, _, _, _, _⟩
  cases (hd : del = false)
  rw [step_live rfl]
  rcases (hs : st = _ ∨ st = _ ∨ st = _) with rfl | rfl | rfl <;> rcases he with rfl | ⟨k, rfl⟩ <;>
    exact ⟨rfl, rfl, rfl, rfl, rfl, rfl⟩

example : (step ⟨65001, 1, 65002, 90, 30, 30, 0⟩ { init with st := .established, rib := 3, holdT := some 90 }
    (.connLost 2)).1.st = .idle := by decide

/-- in IDLE, in ACTIVE and after deletion no completed outgoing connection waits to be taken -/
def NoneQueued (s : St) : Prop := (s.st = .idle ∨ s.st = .active ∨ s.deleted = true) → s.queued = false

section
variable {c : Cfg} {s : St} {e : Ev} {r : St × List Out} (ha : Answer c s e r)
include ha

theorem noneQueued_answer (h : NoneQueued s) : NoneQueued r.1 := by
  intro hr
  cases ha with
  | stays hst hdel _ hq =>
    rw [hst, hdel] at hr
    rcases hq with hq | ⟨hd, hs⟩
    · exact hq.trans (h hr)
    · rcases hs with hs | hs <;> simp [hs, hd] at hr
  | climbs _ hrung hsrc hdst hdel _ hq =>
    -- no rung leads to IDLE, and ACTIVE is reached from IDLE only
    subst hsrc hdst
    rw [hq]
    rcases hr with hr | hr | hr
    · exact absurd hr hrung.ne_idle
    · exact h (.inl (hr ▸ hrung).to_active)
    · exact h (.inr (.inr (hdel ▸ hr)))
  | falls => rfl
  | dies => rfl
end

/-- **no_old_generation** — for every history: (1) whenever the peer is in IDLE or ACTIVE (or
    deleted) no connection of an earlier attempt waits in fsm.outgoingConnCh, so a session can
    leave ACTIVE only on a connection that arrives from then on (`connect`, or an `outgoing`
    hand-over event); (2) every step that brings a session state to IDLE, for whatever reason
    (disable, shutdown, reset, hold expiry, transport fault, NOTIFICATION, FSM / header / OPEN
    error, prefix limit), closes a connection that was waiting there, at that instant. -/
theorem no_old_generation (c : Cfg) (es : List Ev) :
    NoneQueued (run c init es).1 ∧
    ∀ (s : St) (e : Ev), s.deleted = false → s.queued = true → (∀ t, e ≠ .tick t) →
      (step c s e).1.st = .idle → s.st ≠ .idle → Out.close .o s.now ∈ (step c s e).2 := by
  refine ⟨run_inv (fun _ _ h => h) (fun _ _ _ => noneQueued_answer) init es fun _ => rfl, ?_⟩
  intro s e hd hq ht hidle hne
  exact (step_answer ht).drains hq hne hidle

example : (run ⟨65001, 1, 65002, 90, 30, 30, 0⟩ init
    [.tick 0, .connect, .open ⟨4, 65002, 2, 30⟩, .keepalive, .outgoing ⟨4, 65002, 2, 30⟩, .shutdown]).2.contains
    (.close .o 0) = true := by decide

/-- **session_open_validated** — whichever way a connection collision in OPENSENT is resolved
    (the accepted connection's OPEN seen first, or the completed outgoing connection seen first),
    the OPEN the session is negotiated from has passed ValidateOpenMsg, provided the one the
    outgoing-connection manager hands over has (it only hands over validated ones); and when
    both OPENs are acceptable and come from one speaker the survivor is the one `collision_rule`
    names, on either path. -/
theorem session_open_validated (c : Cfg) (inc out : OpenMsg) (hout : validateOpen c out = none) :
    (∀ k o, collideIncomingFirst c inc out = .session k o → validateOpen c o = none) ∧
    (∀ k o, collideOutgoingFirst c inc out = .session k o → validateOpen c o = none) := by
  constructor
  · intro k o h
    unfold collideIncomingFirst at h
    cases hv : validateOpen c inc with
    | some sub => simp [hv] at h
    | none =>
      simp only [hv] at h
      split at h <;> (cases h; first | exact hout | exact hv)
  · intro k o h
    unfold collideOutgoingFirst at h
    cases hv : validateOpen c inc with
    | some sub => simp only [hv] at h; cases h; exact hout
    | none =>
      simp only [hv] at h
      split at h <;> (cases h; first | exact hout | exact hv)

theorem collision_paths_agree (c : Cfg) (inc out : OpenMsg) (hinc : validateOpen c inc = none)
    (hid : inc.id = out.id) (has : inc.as = out.as) :
    collideIncomingFirst c inc out = collideOutgoingFirst c inc out ∧
    collideOutgoingFirst c inc out =
      (if dominant c.localID c.localAS out.id out.as then .session .o out else .session .p inc) := by
  simp [collideIncomingFirst, collideOutgoingFirst, hinc, hid, has]

example : collideOutgoingFirst ⟨65001, 1, 65002, 90, 30, 30, 0⟩ ⟨4, 65002, 2, 1⟩ ⟨4, 65002, 2, 90⟩
    = .session .o ⟨4, 65002, 2, 90⟩ := by decide

/-- RFC 8538 4: with notification support negotiated, a NOTIFICATION by which the speaker ends
    the session for good — Cease with subcode maximum-prefixes (1), administrative shutdown (2),
    peer de-configured (3) — goes out as Cease / Hard Reset (9); administrative reset (4) and
    everything that is not a Cease stay what they are.  Without it nothing is converted. -/
def rfc8538 (n : Bool) (code sub : Nat) : Nat × Nat :=
  if n = true ∧ code = 6 ∧ (sub = 1 ∨ sub = 2 ∨ sub = 3 ∨ sub = 9) then (6, 9) else (code, sub)

/-- the NOTIFICATIONs as they go on the wire of an established session -/
def wireNotifs (n : Bool) (outs : List Out) : List (Nat × Nat × Nat) :=
  (notifs outs).map (fun (a, b, t) => ((convertNotification n a b).1, (convertNotification n a b).2, t))

theorem convertNotification_eq_rfc (n : Bool) (code sub : Nat) :
    convertNotification n code sub = rfc8538 n code sub := by
  unfold convertNotification rfc8538 shouldHardReset
  cases n <;> simp
  by_cases h6 : code = 6 <;> simp [h6, or_assoc]

/-- **notif_table_n** — `notif_table` under every negotiation outcome of RFC 8538 notification
    support: in ESTABLISHED, for every event other than silence, what the daemon writes is the
    NOTIFICATION of `rfcNotif` converted by the RFC 8538 rule (shutdown / disable / delete /
    prefix limit become Cease/9 iff N is negotiated; reset, FSM and header errors never), at the
    instant of the event; N is negotiated only if configured locally and offered by the peer. -/
theorem notif_table_n (c : Cfg) (s : St) (e : Ev) (n : Bool) (hd : s.deleted = false)
    (ht : ∀ t, e ≠ .tick t) :
    wireNotifs n (step c s e).2 = (match rfcNotif c s e with
                                   | some (a, b) => [((rfc8538 n a b).1, (rfc8538 n a b).2, s.now)]
                                   | none => []) ∧
    (∀ gl nl pg pn, nNegotiated gl nl pg pn = true → gl = true ∧ nl = true ∧ pg = true ∧ pn = true) := by
  constructor
  · unfold wireNotifs
    rw [(notif_table c s e hd ht).1]
    cases rfcNotif c s e with
    | none => rfl
    | some p => obtain ⟨a, b⟩ := p; simp [convertNotification_eq_rfc]
  · intro gl nl pg pn h
    simp [nNegotiated] at h
    exact ⟨h.1.1.1, h.1.1.2, h.1.2, h.2⟩

example : convertNotification true 6 2 = (6, 9) ∧ convertNotification true 6 4 = (6, 4) ∧
    convertNotification false 6 2 = (6, 2) := by decide

/-- outside IDLE the idle hold time is the default again (5 s): whatever an earlier
    administrative reset installed has been consumed by the expiry that led out of IDLE -/
def IdleHoldDefault (s : St) : Prop := s.st ≠ .idle → s.idleHold = holdtimeIdle

section
variable {c : Cfg} {s : St} {e : Ev} {r : St × List Out} (ha : Answer c s e r)
include ha

theorem idleHoldDefault_answer (h : IdleHoldDefault s) : IdleHoldDefault r.1 := by
  intro hr
  cases ha with
  | stays hst _ hih => exact hih.trans (h (hst ▸ hr))
  | climbs _ _ hsrc _ _ hih =>
    subst hsrc
    rw [hih]
    split
    · rfl
    · next hs => exact h hs
  | falls => exact absurd rfl hr
  | dies => exact absurd rfl hr
end

/-- **idle_hold_consumed_once** — for every history (any number of sessions, resets, failures,
    disable/enable) from the initial state: (1) whenever the peer is outside IDLE its idle hold
    time is the default 5 s again — the idle-hold-time-after-reset an administrative reset
    installed governs exactly one IDLE period; (2) hence an IDLE period entered from such a state by
    any event other than silence, deletion or an administrative reset in ESTABLISHED is timed to
    end 5 s later, and one entered by that reset `idleAfterReset` later. -/
theorem idle_hold_consumed_once (c : Cfg) (es : List Ev) :
    IdleHoldDefault (run c init es).1 ∧
    ∀ e, (∀ t, e ≠ .tick t) →
      let s := (run c init es).1
      s.st ≠ .idle → (step c s e).1.st = .idle → (step c s e).1.deleted = false →
      (step c s e).1.idleT = some (s.now + (if s.st = .established ∧ e = .reset then c.idleAfterReset else 5)) := by
  have hinv : IdleHoldDefault (run c init es).1 :=
    run_inv (fun _ _ h => h) (fun _ _ _ => idleHoldDefault_answer) init es fun h => absurd rfl h
  refine ⟨hinv, ?_⟩
  intro e ht s hne hidle hdel
  rw [(step_answer ht).idleT hne hidle hdel, hinv hne]
  split <;> rfl

example : (run ⟨65001, 1, 65002, 90, 30, 30, 0⟩ init
    [.tick 0, .connect, .open ⟨4, 65002, 2, 30⟩, .keepalive, .reset, .tick 30, .connect, .close, .tick 5]).1.st
    = .active := by decide

/-- **prefix_edit_shuts_iff** — one UpdatePeer call editing the prefix limits of any number of
    families, in any order: the peer is shut (adminStatePfxCt, Cease/1 "maximum number of prefixes
    reached") iff SOME family whose limit changed holds more prefixes than its new non-zero limit. -/
theorem prefix_edit_shuts_iff (fs : List FamEdit) :
    pfxEditShuts false fs = true ↔ ∃ f ∈ fs, f.oldMax ≠ f.newMax ∧ famOver f = true := by
  have hgen : ∀ (b : Bool) (fs : List FamEdit),
      pfxEditShuts b fs = true ↔ (b = true ∨ ∃ f ∈ fs, f.oldMax ≠ f.newMax ∧ famOver f = true) := by
    intro b fs
    induction fs generalizing b with
    | nil => simp [pfxEditShuts]
    | cons f r ih =>
      unfold pfxEditShuts
      by_cases hc : f.oldMax ≠ f.newMax
      · by_cases ho : famOver f = true
        · simp [hc, ho, ih]
        · simp [hc, ho, ih]
      · simp [hc, ih]
  simpa using hgen false fs

example : pfxEditShuts false [⟨3, 0, 2⟩, ⟨0, 0, 100⟩] = true := by decide

/-- what the operator's requests and the prefix limit make of the administrative state -/
def adminSpec (c : Cfg) (s : St) (e : Ev) : Admin :=
  match e with
  | .enable => .up
  | .disable => .down
  | .update n =>
    if s.st = .established ∧ c.prefixLimit ≠ 0 ∧ s.rib + n > c.prefixLimit then .pfxct else s.admin
  | _ => s.admin

/-- **admin_state_reported** — the administrative state after a step is the one the last
    operator request (enable / disable) or a prefix-limit overrun implies, nothing else moves
    it; with `edges_allowed` (the reported transitions end in the real session state) this is
    "the reported session/admin state matches the real one" for the model. -/
theorem admin_state_reported (c : Cfg) (s : St) (e : Ev) (hd : s.deleted = false) :
    (step c s e).1.admin = adminSpec c s e := by
  cases e with
  | tick t =>
    rw [step_live hd]
    exact advance_admin ..
  | outgoing o =>
    rw [step_live hd]
    cases s.st
    case active => exact armSession_admin ..
    all_goals rfl
  | «open» o =>
    rw [step_live hd]
    cases s.st
    case opensent =>
      unfold onOpensent
      dsimp only
      split
      · rfl
      · exact armSession_admin ..
    all_goals rfl
  | keepalive =>
    rw [step_live hd]
    cases s.st
    case openconfirm => exact armSession_admin ..
    case established => exact touch_admin ..
    all_goals rfl
  | update n =>
    rw [step_live hd]
    unfold adminSpec
    cases hs : s.st
    case established =>
      simp only [onEstablished, touch_rib, true_and]
      split
      · rfl
      · exact touch_admin ..
    all_goals exact (if_neg (fun h => nomatch h.1)).symm
  | _ =>
    rw [step_live hd]
    cases s.st <;> rfl

example : (step ⟨65001, 1, 65002, 90, 30, 30, 2⟩ { init with st := .established, rib := 2 } (.update 1)).1.admin
    = .pfxct := by decide

end C07
