import Lemmas.ApiConvX
/-!
  C18, second group of theorems (namespace C18): extended communities, IPv6-address-specific
  extended communities, NLRI of the prefix families, MP_REACH_NLRI / MP_UNREACH_NLRI.
  About `Model/ApiConvX.lean`; same reading guide as Props/C18.lean:
  `…_fromApi_toApi` (native -> API -> native = `rebuild…`, for every value), `…rebuild…_eq_self`
  (identity on RIB-form values), `…_wire_preserved`, `…_toApi_fromApi` (API -> native -> API on
  Marshal's range) and `…_counterexample` theorems for what the API does not carry.
  At the end, the path-level converters api.Path <-> apiutil.Path <-> table.Path: which fields
  survive (`…_fields_preserved`), which are dropped (`…_fields_lost`), and the source / next-hop rules.
-/
namespace C18
open Wire ApiConv

/-- address / MAC / fall-back fields hold what the Go types hold -/
def ExtOk : ExtComm → Prop
  | .ipv4 _ addr _ _ => addr < 4294967296
  | .esImport mac => mac.length = 6
  | .routerMac mac => mac.length = 6
  | .noApiMessage o => o.length = 8
  | _ => True

/-- **one community, native -> API -> native**: Marshal succeeds and Unmarshal returns `rebuildExt e` -/
theorem ext_fromApi_toApi (e : ExtComm) (h : ExtOk e) :
    ∃ a, toApiExt e = some a ∧ fromApiExt a = some (rebuildExt e) := by
  cases e with
  | ipv4 st addr la tr =>
    exact ⟨_, rfl, by rw [fromApiExt, if_pos (isV4_be32 addr), rd32_be32_nil h]; rfl⟩
  | esImport mac | routerMac mac => exact ⟨_, rfl, if_pos h⟩
  | noApiMessage o => exact ⟨_, if_pos h, rfl⟩
  | _ => exact ⟨_, rfl, rfl⟩

/-- field ranges of the Go structs and 7-octet values; no fall-back element -/
def ExtWF : ExtComm → Prop
  | .twoOctetAs st as _ _ => st < 256 ∧ as < 65536
  | .ipv4 st addr la _ => st < 256 ∧ addr < 4294967296 ∧ la < 65536
  | .fourOctetAs st _ la _ => st < 256 ∧ la < 65536
  | .validation s => s < 256
  | .linkBandwidth as _ => as < 65536
  | .encap t => t < 65536
  | .opaque _ v => v.length = 7
  | .esImport mac => mac.length = 6
  | .routerMac mac => mac.length = 6
  | .unknown t v => t < 256 ∧ v.length = 7
  | .noApiMessage _ => False
  | _ => True

theorem rebuildExt_eq_self (e : ExtComm) (h : ExtWF e) : rebuildExt e = e := by
  cases e <;> simp only [ExtWF] at h <;>
    simp only [rebuildExt, Nat.mod_eq_of_lt, padTo_of_length, h]

theorem extWF_ok {e : ExtComm} (h : ExtWF e) : ExtOk e := by
  cases e with
  | ipv4 st addr la tr => exact h.2.1
  | esImport mac | routerMac mac => exact h
  | noApiMessage o => exact h.elim
  | _ => trivial

/-- what Serialize needs to succeed; the Layer-2-attributes fall-back included -/
def ExtEncOk : ExtComm → Prop
  | .opaque _ v => v.length = 7
  | .unknown _ v => v.length = 7
  | .noApiMessage o => o.length = 8 ∧ o.getD 0 0 < 256
  | _ => True

/-- **same 8 octets after the trip, for every community Serialize accepts** (`ExtEncOk`; any sub-type,
    either transitivity, any field value — narrowing conversions and Serialize truncate alike), the
    fall-back included -/
theorem encExt_rebuild (e : ExtComm) (h : ExtEncOk e) : encExt (rebuildExt e) = encExt e := by
  cases e with
  | «opaque» _ v | unknown _ v =>
    simp only [rebuildExt, encExt, Nat.mod_mod, padTo_of_length (show v.length = 7 from h)]
  | noApiMessage o =>
    cases o with
    | nil => cases h.1
    | cons a as =>
      show (a % 256 % 256) :: padTo 7 as = a :: as
      rw [Nat.mod_mod, Nat.mod_eq_of_lt (show a < 256 from h.2), padTo_of_length (Nat.succ.inj h.1)]
  | _ => simp only [rebuildExt, encExt, Nat.mod_mod, be16_mod]

theorem extcomms_fromApi_toApi (f t n : Nat) (l : List ExtComm) (h : ∀ e ∈ l, ExtOk e) :
    ∃ x, toApiX ⟨f, t, n, .extComms l⟩ = some x ∧ fromApiX x = rebuildX ⟨f, t, n, .extComms l⟩ := by
  obtain ⟨la, h1, h2⟩ := allSome_trip toApiExt fromApiExt rebuildExt l
    fun e he => ext_fromApi_toApi e (h e he)
  exact ⟨.extComms la, by simp only [toApiX, h1, Option.map_some],
    by simp only [fromApiX, rebuildX, h2, Option.map_some]⟩

/-- RIB form: constructor header, every element within its Go ranges -/
def CanonicalExtComms (a : XAttr) (l : List ExtComm) : Prop :=
  a = mkExtComms l ∧ l.length * 8 < 65536 ∧ ∀ e ∈ l, ExtWF e

theorem rebuildX_mkExtComms {l : List ExtComm} (h : ∀ e ∈ l, ExtWF e) :
    rebuildX (mkExtComms l) = some (mkExtComms l) := by
  simp only [rebuildX, mkExtComms, map_id_of fun e he => rebuildExt_eq_self e (h e he)]

theorem extcomms_rebuild_eq_self (a : XAttr) (l : List ExtComm) (h : CanonicalExtComms a l) :
    rebuildX a = some a := by
  obtain ⟨rfl, _, hw⟩ := h
  exact rebuildX_mkExtComms hw

/-- **wire octets and Len() preserved** for an extended-communities attribute with the constructor
    header, whatever its elements (L2-attributes fall-back included) -/
theorem extcomms_wire_preserved (l : List ExtComm) (hok : ∀ e ∈ l, ExtOk e) (henc : ∀ e ∈ l, ExtEncOk e) :
    ∃ x a', toApiX (mkExtComms l) = some x ∧ fromApiX x = some a' ∧
      encXAttr a' = encXAttr (mkExtComms l) ∧ xattrLen a' = xattrLen (mkExtComms l) := by
  obtain ⟨x, h1, h2⟩ := extcomms_fromApi_toApi _ _ _ l hok
  refine ⟨x, mkExtComms (l.map rebuildExt), h1, h2, ?_, ?_⟩
  · simp only [encXAttr, mkExtComms, encXVal, List.length_map,
      encExts_map rebuildExt l (fun e he => encExt_rebuild e (henc e he))]
  · simp only [xattrLen, mkExtComms, List.length_map]; rfl

example : CanonicalExtComms (mkExtComms [.twoOctetAs 2 65000 100 true, .color 7, .opaque false [1, 2, 3, 4, 5, 6, 7]])
    [.twoOctetAs 2 65000 100 true, .color 7, .opaque false [1, 2, 3, 4, 5, 6, 7]] := by
  refine ⟨rfl, by decide, ?_⟩
  intro e he; simp at he; rcases he with rfl | rfl | rfl <;> simp [ExtWF]

/-- API values within Marshal's range -/
def ApiExtOk : ApiExtComm → Prop
  | .twoOctetAs _ st asn _ => st < 256 ∧ asn < 65536
  | .ipv4 _ st addr la => st < 256 ∧ Octets4 addr ∧ la < 65536
  | .fourOctetAs _ st _ la => st < 256 ∧ la < 65536
  | .validation s => s < 256
  | .linkBandwidth asn _ => asn < 65536
  | .encap t => t < 65536
  | .opaque _ v => v.length = 7
  | .esImport m => m.length = 6
  | .routerMac m => m.length = 6
  | .unknown t v => t < 256 ∧ v.length = 7
  | .unset => False
  | _ => True

/-- **API -> native -> API** is the identity on `ApiExtOk` values, all of which are accepted -/
theorem ext_toApi_fromApi (x : ApiExtComm) (h : ApiExtOk x) :
    ∃ e, fromApiExt x = some e ∧ toApiExt e = some x := by
  cases x with
  | ipv4 tr st addr la =>
    obtain ⟨h1, h2, h3⟩ := h
    exact ⟨_, if_pos (isV4_of_octets h2), by
      rw [toApiExt, Nat.mod_eq_of_lt h1, Nat.mod_eq_of_lt h3, be32_rd32_of addr h2]⟩
  | esImport m | routerMac m => exact ⟨_, if_pos h, rfl⟩
  | unset => exact h.elim
  | _ =>
    -- within range the narrowing conversions and the 7-octet copy change nothing
    simp only [ApiExtOk] at h
    exact ⟨_, rfl, by simp only [toApiExt, Nat.mod_eq_of_lt, padTo_of_length, h]⟩

/-- the Go TYPE of a community without an API message is not carried (its octets are): an EVPN
    Layer-2-attributes community comes back as an UnknownExtended -/
theorem l2attr_type_counterexample :
    let e : ExtComm := .noApiMessage [6, 4, 0, 18, 5, 220, 0, 0]
    (∃ a, toApiExt e = some a ∧ fromApiExt a = some (.unknown 6 [4, 0, 18, 5, 220, 0, 0])) ∧
    rebuildExt e ≠ e ∧ encExt (rebuildExt e) = encExt e := by
  exact ⟨⟨_, rfl, rfl⟩, by decide +kernel, by decide +kernel⟩

/-- an API opaque value longer than 7 octets is cut to 7 (NewOpaqueExtended copies into 7 octets) -/
theorem opaque_truncation_counterexample :
    fromApiExt (.opaque true [1, 2, 3, 4, 5, 6, 7, 8, 9]) = some (.opaque true [1, 2, 3, 4, 5, 6, 7]) := by decide +kernel

/-- the PARTIAL bit of a received extended-communities attribute is not carried -/
theorem extcomms_partial_flag_counterexample :
    let a : XAttr := ⟨224, 16, 8, .extComms [.color 7]⟩
    (∃ x, toApiX a = some x ∧ fromApiX x = some (mkExtComms [.color 7])) ∧
    encXAttr (mkExtComms [.color 7]) ≠ encXAttr a := by
  exact ⟨⟨_, rfl, rfl⟩, by decide +kernel⟩

def Ip6Ok : Ip6ExtComm → Prop
  | .specific _ addr _ _ => addr.length = 16
  | .redirect addr _ => addr.length = 16
  | .unknown _ _ => False

theorem ip6_fromApi_toApi (e : Ip6ExtComm) (h : Ip6Ok e) :
    ∃ a, toApiIp6Ext e = some a ∧ fromApiIp6Ext a = some (rebuildIp6Ext e) := by
  cases e with
  | specific _ addr _ _ | redirect addr _ => exact ⟨_, rfl, if_pos h⟩
  | unknown ty v => exact h.elim

theorem encIp6_rebuild (e : Ip6ExtComm) : encIp6Ext (rebuildIp6Ext e) = encIp6Ext e := by
  cases e <;> simp only [rebuildIp6Ext, encIp6Ext, Nat.mod_mod, be16_mod]

/-- an IPv6 extended community of any other type has no API message: the whole attribute (and with it
    the whole attribute list of the route) fails to marshal — known finding
    attr:PathAttributeIP6ExtendedCommunities:marshal-error -/
theorem ip6_unknown_marshal_error (f t n ty : Nat) (v : Bytes) (l1 l2 : List Ip6ExtComm) :
    toApiX ⟨f, t, n, .ip6ExtComms (l1 ++ .unknown ty v :: l2)⟩ = none := by
  have : allSome toApiIp6Ext (l1 ++ .unknown ty v :: l2) = none :=
    allSome_none _ _ ⟨.unknown ty v, by simp, rfl⟩
  simp [toApiX, this]

def RdOk : Rd → Prop
  | .ipv4 a _ => a < 4294967296
  | _ => True

def NlriOk : Nlri → Prop
  | .ip bits addr => prefixOk bits addr = true
  | .labeled _ bits addr => prefixOk bits addr = true
  | .vpn _ rd bits addr => prefixOk bits addr = true ∧ RdOk rd

theorem prefixOk_lt {bits : Nat} {addr : Bytes} (h : prefixOk bits addr = true) : bits < 256 := by
  simp only [prefixOk, Bool.or_eq_true, Bool.and_eq_true, beq_iff_eq, decide_eq_true_eq] at h
  omega

theorem prefixOk_mod {bits : Nat} {addr : Bytes} (h : prefixOk bits addr = true) :
    prefixOk (bits % 256) addr = true := by
  rw [Nat.mod_eq_of_lt (prefixOk_lt h)]; exact h

theorem rd_fromApi_toApi (rd : Rd) (h : RdOk rd) : fromApiRd (toApiRd rd) = some (rebuildRd rd) := by
  cases rd with
  | ipv4 a n => rw [toApiRd, fromApiRd, if_pos (isV4_be32 a), rd32_be32_nil h]; rfl
  | _ => rfl

theorem nlri_fromApi_toApi (n : Nlri) (h : NlriOk n) : fromApiNlri (toApiNlri n) = some (rebuildNlri n) := by
  cases n with
  | ip bits addr => exact if_pos h
  | labeled ls bits addr => exact if_pos (prefixOk_mod h)
  | vpn ls rd bits addr =>
    simp only [toApiNlri, fromApiNlri, rebuildNlri, rd_fromApi_toApi rd h.2, prefixOk_mod h.1,
      if_true]

def RdWF : Rd → Prop
  | .twoOctet a _ => a < 65536
  | .ipv4 a n => a < 4294967296 ∧ n < 65536
  | .fourOctet _ n => n < 65536

/-- RIB form of an NLRI: parseable length, IPAddrPrefix masked, a label stack, RD fields in range -/
def NlriWF : Nlri → Prop
  | .ip bits addr => prefixOk bits addr = true ∧ maskAddrN bits addr = addr
  | .labeled ls bits addr => prefixOk bits addr = true ∧ ls ≠ []
  | .vpn ls rd bits addr => prefixOk bits addr = true ∧ ls ≠ [] ∧ RdWF rd

theorem rebuildRd_eq_self (rd : Rd) (h : RdWF rd) : rebuildRd rd = rd := by
  cases rd <;> simp only [RdWF] at h <;> simp only [rebuildRd, Nat.mod_eq_of_lt, h]

theorem mkLabels_of_ne {ls : List Nat} (h : ls ≠ []) : mkLabels ls = ls := by
  cases ls with
  | nil => exact absurd rfl h
  | cons a as => rfl

theorem rebuildNlri_eq_self (n : Nlri) (h : NlriWF n) : rebuildNlri n = n := by
  cases n with
  | ip bits addr => rw [rebuildNlri, h.2]
  | labeled ls bits addr =>
    rw [rebuildNlri, mkLabels_of_ne h.2, Nat.mod_eq_of_lt (prefixOk_lt h.1)]
  | vpn ls rd bits addr =>
    rw [rebuildNlri, mkLabels_of_ne h.2.1, Nat.mod_eq_of_lt (prefixOk_lt h.1),
      rebuildRd_eq_self rd h.2.2]

theorem rdWF_ok {rd : Rd} (h : RdWF rd) : RdOk rd := by
  cases rd with
  | ipv4 a n => exact h.1
  | _ => trivial

theorem nlriWF_ok {n : Nlri} (h : NlriWF n) : NlriOk n := by
  cases n with
  | ip bits addr | labeled _ bits addr => exact h.1
  | vpn ls rd bits addr => exact ⟨h.1, rdWF_ok h.2.2⟩

example : NlriWF (.vpn [16, 17] (.twoOctet 65000 1) 24 [10, 1, 2, 0]) := by
  refine ⟨by decide, by decide, ?_⟩; simp [RdWF]
example : NlriWF (.ip 48 [32, 1, 13, 184, 0, 1, 0, 0, 0, 0, 0, 0, 0, 0, 0, 0]) := ⟨by decide, by decide⟩

/-- an API label list may be empty: NewMPLSLabelStack turns it into [0] -/
theorem empty_labels_counterexample :
    fromApiNlri (.labeledPrefix [] 24 [10, 0, 0, 0]) = some (.labeled [0] 24 [10, 0, 0, 0]) := by decide +kernel

/-- only IPAddrPrefix is masked on the way in: a labelled API prefix keeps its host bits -/
theorem labelled_not_masked_counterexample :
    fromApiNlri (.labeledPrefix [16] 8 [10, 1, 2, 3]) = some (.labeled [16] 8 [10, 1, 2, 3]) ∧
    fromApiNlri (.pfx 8 [10, 1, 2, 3]) = some (.ip 8 [10, 0, 0, 0]) := by decide +kernel

theorem nlris_fromApi_toApi (nlris : List (Nat × Nlri)) (hok : ∀ p ∈ nlris, NlriOk p.2) :
    fromApiNlris (nlris.map fun p => toApiNlri p.2) = some (nlris.map fun p => rebuildNlri p.2) :=
  fromApiNlris_map _ _ nlris fun p hp => nlri_fromApi_toApi p.2 (hok p hp)

/-- **MP_REACH, native -> API -> native** for every attribute with a valid next hop and ≥ 1 NLRI:
    the trip gives `rebuildX` (path identifiers zeroed, next hop un-mapped, link-local kept iff it is
    one, header recomputed by the constructor) -/
theorem mpreach_fromApi_toApi (f t n afi safi : Nat) (nh ll : Bytes) (nlris : List (Nat × Nlri))
    (hafi : afi < 65536) (hsafi : safi < 256) (hne : nlris ≠ []) (hnh : validAddr nh = true)
    (hok : ∀ p ∈ nlris, NlriOk p.2) :
    ∃ x, toApiX ⟨f, t, n, .mpReach afi safi nh ll nlris⟩ = some x ∧
      fromApiX x = rebuildX ⟨f, t, n, .mpReach afi safi nh ll nlris⟩ := by
  refine ⟨_, rfl, ?_⟩
  have hmap := nlris_fromApi_toApi nlris hok
  have hne' := List.isEmpty_eq_false_iff.mpr hne
  have hu := validAddr_unmap hnh
  simp only [fromApiX, toApiFamily, fromApiFamily, Nat.mod_eq_of_lt hafi, Nat.mod_eq_of_lt hsafi,
    List.isEmpty_map, hne', hmap, rebuildX, List.map_map, Function.comp_def, hu]
  by_cases hl : (validAddr ll && isLinkLocal ll) = true
  · have h16 : ll.length = 16 := isLinkLocal_length (Bool.and_eq_true _ _ ▸ hl).2
    simp [hl, h16]
  · simp [hl]

theorem mpunreach_fromApi_toApi (f t n afi safi : Nat) (nlris : List (Nat × Nlri))
    (hafi : afi < 65536) (hsafi : safi < 256) (hne : nlris ≠ []) (hok : ∀ p ∈ nlris, NlriOk p.2) :
    ∃ x, toApiX ⟨f, t, n, .mpUnreach afi safi nlris⟩ = some x ∧
      fromApiX x = rebuildX ⟨f, t, n, .mpUnreach afi safi nlris⟩ := by
  refine ⟨_, rfl, ?_⟩
  have hmap := nlris_fromApi_toApi nlris hok
  have hne' := List.isEmpty_eq_false_iff.mpr hne
  simp only [fromApiX, toApiFamily, fromApiFamily, Nat.mod_eq_of_lt hafi, Nat.mod_eq_of_lt hsafi,
    List.isEmpty_map, hne', hmap, rebuildX, List.map_map, Function.comp_def]
  rfl

/-- an End-of-RIB style MP_UNREACH (no NLRI) cannot make the trip: UnmarshalNLRIs refuses an empty list -/
theorem mpunreach_empty_rejected (f t n afi safi : Nat) :
    ∃ x, toApiX ⟨f, t, n, .mpUnreach afi safi []⟩ = some x ∧ fromApiX x = none := ⟨_, rfl, rfl⟩

/-- RIB form of the arguments of an MP_REACH attribute -/
def MpArgsWF (afi safi : Nat) (nh ll : Bytes) (ns : List Nlri) : Prop :=
  afi < 65536 ∧ safi < 256 ∧ ns ≠ [] ∧ validAddr nh = true ∧ unmap nh = nh ∧
  (ll = [] ∨ (nhIsV6 afi nh = true ∧ isLinkLocal ll = true)) ∧ ∀ n ∈ ns, NlriWF n

/-- **lossless on RIB-form MP_REACH**: an attribute as the constructor builds it from RIB-form arguments
    (path ids 0, masked prefixes, label stacks, next hop not IPv4-mapped, second next hop link-local)
    is rebuilt identically — hence same octets and Len() -/
theorem mpreach_rebuild_eq_self (afi safi : Nat) (nh ll : Bytes) (ns : List Nlri) (a : XAttr)
    (h : MpArgsWF afi safi nh ll ns) (ha : mkMpReach afi safi (ns.map fun n => (0, n)) nh ll = some a) :
    rebuildX a = some a := by
  obtain ⟨hafi, hsafi, _, hnh, hun, hll, hw⟩ := h
  -- the constructor kept both next hops as given, and they pass the filter of `toApiX` again,
  -- so `rebuildX a` is the same constructor call
  have hll1 : (if (nhIsV6 afi nh && isLinkLocal ll) = true then ll else []) = ll := by
    rcases hll with rfl | ⟨hv6, hl⟩
    · exact ite_self _
    · rw [hv6, hl]; rfl
  have hll2 : (if (validAddr ll && isLinkLocal ll) = true then ll else []) = ll := by
    rcases hll with rfl | ⟨_, hl⟩
    · rfl
    · rw [show validAddr ll = true by rw [validAddr, isLinkLocal_length hl]; rfl, hl]; rfl
  have hid : (ns.map fun n => ((0 : Nat), n)).map (fun p => ((0 : Nat), rebuildNlri p.2)) =
      ns.map fun n => (0, n) := by
    rw [List.map_map]
    exact List.map_congr_left fun n hn => by rw [Function.comp, rebuildNlri_eq_self n (hw n hn)]
  rw [rebuildX, mkMpReach_val ha hnh, hll1]
  simp only [Nat.mod_eq_of_lt hafi, Nat.mod_eq_of_lt hsafi, hid, hun, hll2, ha]

theorem mpreach_wire_preserved (afi safi : Nat) (nh ll : Bytes) (ns : List Nlri) (a : XAttr)
    (h : MpArgsWF afi safi nh ll ns) (ha : mkMpReach afi safi (ns.map fun n => (0, n)) nh ll = some a) :
    ∃ a', rebuildX a = some a' ∧ encXAttr a' = encXAttr a ∧ xattrLen a' = xattrLen a :=
  ⟨a, mpreach_rebuild_eq_self afi safi nh ll ns a h ha, rfl, rfl⟩

example : MpArgsWF 2 1 [32, 1, 13, 184, 0, 0, 0, 0, 0, 0, 0, 0, 0, 0, 0, 1]
    [254, 128, 0, 0, 0, 0, 0, 0, 0, 0, 0, 0, 0, 0, 0, 1]
    [.ip 48 [32, 1, 13, 184, 0, 1, 0, 0, 0, 0, 0, 0, 0, 0, 0, 0]] := by
  refine ⟨by decide, by decide, by decide, by decide, by decide, Or.inr ⟨by decide, by decide⟩, ?_⟩
  intro n hn; simp at hn; subst hn; exact ⟨by decide, by decide⟩

/-- the path identifiers inside MP_REACH are not part of the API attribute (the API carries one
    identifier per api.Path): ID 7 comes back 0 -/
theorem mp_path_id_counterexample :
    let a : XAttr := ⟨128, 14, 9, .mpReach 1 1 [10, 0, 0, 1] [] [(7, .ip 8 [10, 0, 0, 0])]⟩
    ∃ x a', toApiX a = some x ∧ fromApiX x = some a' ∧ a'.val = .mpReach 1 1 [10, 0, 0, 1] [] [(0, .ip 8 [10, 0, 0, 0])] :=
  ⟨_, _, rfl, rfl, rfl⟩

/-- an IPv4-mapped IPv6 next hop of an AFI-1 route (a 16-octet next hop on the wire) is printed
    un-mapped and comes back as a 4-octet next hop: the octets differ -/
theorem v4mapped_nexthop_counterexample :
    let nh : Bytes := [0, 0, 0, 0, 0, 0, 0, 0, 0, 0, 255, 255, 10, 0, 0, 1]
    ∃ a x a', mkMpReach 1 1 [(0, .ip 8 [10, 0, 0, 0])] nh [] = some a ∧ toApiX a = some x ∧
      fromApiX x = some a' ∧ encXAttr a' ≠ encXAttr a :=
  ⟨_, _, _, rfl, rfl, rfl, by decide +kernel⟩

/-- **api.Path -> apiutil.Path -> api.Path: the fields that survive** (gRPC AddPath input read back
    through toPathApi): flags, source AS, both identifiers, whole seconds of age, family (narrowed) -/
theorem api_path_fields_preserved (p : ApiPath) (u : UPath) (h : api2apiutil p = some u) :
    let q := apiutil2api u
    q.best = p.best ∧ q.isWithdraw = p.isWithdraw ∧ q.noImplicitWithdraw = p.noImplicitWithdraw ∧
    q.sourceAsn = p.sourceAsn ∧ q.stale = p.stale ∧ q.isFromExternal = p.isFromExternal ∧
    q.identifier = p.identifier ∧ q.localIdentifier = p.localIdentifier ∧
    q.ageSec = (if p.ageSet then p.ageSec else 0) ∧
    q.family = ⟨p.family.afi % 65536, p.family.safi % 256⟩ ∧
    q.sourceId = parseOrZero p.sourceId ∧ q.neighborIp = parseOrZero p.neighborIp := by
  obtain ⟨n, as, _, _, _, rfl⟩ := api2apiutil_some h
  dsimp only [apiutil2api]
  exact ⟨rfl, rfl, rfl, rfl, rfl, rfl, rfl, rfl, rfl, rfl, parseOrZero_idem _, parseOrZero_idem _⟩

/-- **… and the fields that never do**: validation, filtered, is_nexthop_invalid, send_max_filtered and
    uuid are not read by api2apiutilPath, nanoseconds are dropped (for EVERY accepted path) -/
theorem api_path_fields_lost (p : ApiPath) (u : UPath) (h : api2apiutil p = some u) :
    let q := apiutil2api u
    q.validation = none ∧ q.filtered = false ∧ q.isNexthopInvalid = false ∧ q.sendMaxFiltered = false ∧
    q.uuid = [] ∧ q.ageNanos = 0 ∧ q.ageSet = true := by
  obtain ⟨n, as, _, _, _, rfl⟩ := api2apiutil_some h
  exact ⟨rfl, rfl, rfl, rfl, rfl, rfl, rfl⟩

/-- a source AS without a parseable source id is refused; with source AS 0 a bad id is silently dropped -/
theorem api_path_source_id_rule (p : ApiPath) (hbad : validAddr p.sourceId = false) :
    (p.sourceAsn ≠ 0 → api2apiutil p = none) ∧
    (p.sourceAsn = 0 → ∀ u, api2apiutil p = some u → u.peerId = []) := by
  have hz : parseOrZero p.sourceId = [] := if_neg (Bool.eq_false_iff.mp hbad)
  constructor
  · intro hs
    cases hu : api2apiutil p with
    | none => rfl
    | some u =>
      obtain ⟨_, _, _, _, hno, _⟩ := api2apiutil_some hu
      exact absurd ⟨hs, by rw [hz]; rfl⟩ hno
  · intro _ u hu
    obtain ⟨_, _, _, _, _, rfl⟩ := api2apiutil_some hu
    exact hz

/-- **apiutil.Path -> table.Path -> apiutil.Path (AddPath / DeletePath, then toPathApiUtil): survivors** -/
theorem table_fields_preserved (isVrf del : Bool) (u : UPath) (t : TPath) (h : apiutil2table isVrf del u = some t) :
    let v := table2apiutil t
    v.afi = u.afi ∧ v.safi = u.safi ∧ v.nlri = u.nlri ∧ v.age = u.age ∧ v.remoteId = u.remoteId ∧
    v.isFromExternal = u.isFromExternal ∧ v.noImplicitWithdraw = u.noImplicitWithdraw ∧
    v.withdrawal = (del || u.withdrawal) := by
  obtain ⟨_, _, _, _, _, _, rfl⟩ := apiutil2table_some h
  exact ⟨rfl, rfl, rfl, rfl, rfl, rfl, rfl, rfl⟩

/-- **… and what is never carried into the RIB**: best, stale, is-nexthop-invalid, filtered,
    send-max-filtered, validation and the caller's local identifier (the destination assigns its own) -/
theorem table_fields_lost (isVrf del : Bool) (u : UPath) (t : TPath) (h : apiutil2table isVrf del u = some t) :
    let v := table2apiutil t
    v.best = false ∧ v.stale = false ∧ v.isNexthopInvalid = false ∧ v.filtered = false ∧
    v.sendMaxFiltered = false ∧ v.validation = none ∧ v.localId = 0 := by
  obtain ⟨_, _, _, _, _, _, rfl⟩ := apiutil2table_some h
  exact ⟨rfl, rfl, rfl, rfl, rfl, rfl, rfl⟩

/-- the source triple survives iff a source AS is given; a locally originated path (source AS 0) loses
    any source id / neighbour address the request carried -/
theorem table_source_rule (isVrf del : Bool) (u : UPath) (t : TPath) (h : apiutil2table isVrf del u = some t) :
    let v := table2apiutil t
    (u.peerAsn ≠ 0 → v.peerAsn = u.peerAsn ∧ v.peerId = u.peerId ∧ v.peerAddress = u.peerAddress) ∧
    (u.peerAsn = 0 → v.peerAsn = 0 ∧ v.peerId = [] ∧ v.peerAddress = []) := by
  obtain ⟨_, _, _, _, _, _, rfl⟩ := apiutil2table_some h
  constructor <;> intro hs <;> simp [table2apiutil, hs]

/-- the attribute list that is installed: the request's attributes minus NEXT_HOP / MP_REACH_NLRI, in
    order, followed by exactly one rebuilt next-hop attribute (IPv4 unicast + IPv4 next hop outside a
    VRF: NEXT_HOP; otherwise MP_REACH_NLRI of the path's own NLRI with path id 0) -/
theorem table_attrs_shape (isVrf del : Bool) (u : UPath) (t : TPath) (h : apiutil2table isVrf del u = some t) :
    ∃ kept nh ll, scanAttrs [] [] [] u.attrs = some (kept, nh, ll) ∧
      t.attrs = kept ++ nextHopAttr isVrf u.afi u.safi u.nlri nh ll := by
  obtain ⟨kept, nh, ll, _, hs, _, rfl⟩ := apiutil2table_some h
  exact ⟨kept, nh, ll, hs, rfl⟩

/-- concrete replay of the shape: ORIGIN + NEXT_HOP + MED for 10.0.0.0/8 comes back as ORIGIN, MED, NEXT_HOP;
    the same request into a VRF gets MP_REACH_NLRI instead -/
theorem table_attrs_example :
    let u : UPath := ⟨1, 1, .ip 8 [10, 0, 0, 0], 0, true, [.core (mkOrigin 0), .core (mkNextHop [192, 0, 2, 1]), .core (mkMed 5)],
      true, false, 0, [1, 1, 1, 1], [], false, false, true, false, false, some 3, 9, 4⟩
    (apiutil2table false false u).map (·.attrs) =
      some [.core (mkOrigin 0), .core (mkMed 5), .core (mkNextHop [192, 0, 2, 1])] ∧
    ((apiutil2table true false u).map fun t => t.attrs.map AnyAttr.typ) = some [1, 4, 14] ∧
    (apiutil2table false false u).map (fun t => (table2apiutil t).peerId) = some [] := by decide +kernel

/-- a request without any next hop is refused unless it is a withdrawal -/
theorem table_nexthop_required (isVrf del : Bool) (u : UPath) (kept : List AnyAttr) (nh ll : Bytes)
    (hf : ¬(u.afi = 0 ∧ u.safi = 0)) (hs : scanAttrs [] [] [] u.attrs = some (kept, nh, ll))
    (hw : u.withdrawal = false) (hn : validAddr nh = false) : apiutil2table isVrf del u = none := by
  simp [apiutil2table, hf, hs, hw, hn]

end C18
