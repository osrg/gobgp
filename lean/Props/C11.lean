import Lemmas.PackSize
/-!
# C11 — UPDATE packing preserves the route changes and respects the message size limit

All theorems are about `Model/Pack.lean`, the hand-written mirror of
`table.CreateUpdateMsgFromPaths` (with packerV4, packerMP, their splitting arithmetic and the
`last` map), of the serialised sizes of the emitted UPDATEs and of `sendMessageloop`'s
"serialise, or log and skip". The model is tied to the Go code by the correspondence run of
`./check C11` (real packer output, real serialised sizes vs. `Pack.pack` / `Pack.size` on the
same generated inputs); that tie is sampled, not proved.

Vocabulary: `pack o is` = the messages the packer returns for the path list `is` under the
marshalling options `o`; `wire o is` = those of them that serialise within the limit (what is
written to the peer); `dropped o is` = those that do not (what `send()` logs and skips);
`applyMsgs` = a receiver applying UPDATEs in order to its table (`View`); `applyCs` = applying
route changes one at a time; `changes is` = the route changes of the input in order;
`fitsAlone o c` = the UPDATE carrying the change `c` alone is within the limit.

Go iterates its family map and its cage maps in random order, so the theorems quantify over every
permutation `ms` of the model's message list.
-/
namespace C11
open Pack

/-- **pack_effect** (no size limit involved): whatever order the packed messages are emitted in,
    a receiver that applies them ends with exactly the table it would have after applying the
    input changes one at a time — the last action per (family, prefix, path-id on the wire)
    wins and every announced prefix has its own route's attributes and next hop. -/
theorem pack_effect (o : Opts) (is : List Item) (ms : List Msg) (v : View)
    (hp : ms.Perm (pack o is)) :
    applyMsgs o ms v = applyCs o (changes is) v := by
  rw [← applyCs_dedup]
  exact applyMsgs_of_perm o ms _ v ((hp.flatMap_right flat).trans (flat_pack o is))
    (dedup_nodup_wkey o is)

/-- **pack_fits**: a packed message either fits the session's limit or carries a single route
    whose own single-route encoding does not fit (hypothesis `SizesOK`: IPv4 prefixes are at most
    /32 and the MP_REACH next-hop length the constructor declares covers what is serialised). -/
theorem pack_fits (o : Opts) (is : List Item) (hs : SizesOK is) (m : Msg) (hm : m ∈ pack o is) :
    size o m ≤ limit o ∨ ∃ c, flat m = [c] ∧ m = aloneMsg c ∧ fitsAlone o c = false := by
  obtain ⟨hok, h⟩ := pack_good o is hs m hm
  by_cases hf : size o m ≤ limit o
  · exact Or.inl hf
  · obtain ⟨c, hc⟩ := List.length_eq_one_iff.mp (h.resolve_left hf)
    have hcm : c ∈ flat m := hc ▸ List.mem_singleton_self c
    exact Or.inr ⟨c, hc, single_alone m hok c hc,
      (fitsAlone_eq_fits o is hs m hm c hcm).trans (decide_eq_false hf)⟩

/-- everything that is written to the peer is within the limit (by construction of `wire`) -/
theorem wire_fits (o : Opts) (is : List Item) (m : Msg) (hm : m ∈ wire o is) : size o m ≤ limit o :=
  of_decide_eq_true (List.mem_filter.mp hm).2

/-- **wire_effect** (with `oversize_reported`, the `oversize_skipped` of DESIGN.md §5): the messages actually written (any emission order) have
    exactly the effect of the last action per key of every route whose single-route encoding
    fits; the routes that cannot fit are left out and nothing else is disturbed. -/
theorem wire_effect (o : Opts) (is : List Item) (hs : SizesOK is) (ms : List Msg) (v : View)
    (hp : ms.Perm (wire o is)) :
    applyMsgs o ms v = applyCs o ((changes (dedup o is)).filter (fitsAlone o)) v :=
  applyMsgs_of_perm o ms _ v ((hp.flatMap_right flat).trans (flat_filter_pack o is hs id))
    ((dedup_nodup_wkey o is).sublist (List.filter_sublist.map _))

/-- **the property's equivalence claim**: when every input route's single-route encoding fits,
    every written message fits the limit (`wire_fits`) and the receiver ends with exactly the
    effect of applying the changes one at a time. -/
theorem wire_effect_all_fit (o : Opts) (is : List Item) (hs : SizesOK is)
    (hfit : ∀ c ∈ changes is, fitsAlone o c = true) (ms : List Msg) (v : View)
    (hp : ms.Perm (wire o is)) :
    applyMsgs o ms v = applyCs o (changes is) v := by
  rw [wire_effect o is hs ms v hp, ← applyCs_dedup o is v,
    List.filter_eq_self.mpr (fun c hc => hfit c (changes_dedup_sub o hc))]

/-- **oversize_reported**: what `send()` logs and skips is, route for route, exactly the set of
    last actions whose single-route encoding exceeds the limit, one route per skipped message. -/
theorem oversize_reported (o : Opts) (is : List Item) (hs : SizesOK is) :
    ((dropped o is).flatMap flat).Perm ((changes (dedup o is)).filter (fun c => !fitsAlone o c)) ∧
    ∀ m ∈ dropped o is, ∃ c, flat m = [c] ∧ m = aloneMsg c := by
  refine ⟨flat_filter_pack o is hs (!·), fun m hm => ?_⟩
  obtain ⟨hin, hf⟩ := List.mem_filter.mp hm
  rcases pack_fits o is hs m hin with h | ⟨c, hc, he, _⟩
  · rw [fits, decide_eq_true h] at hf
    cases hf
  · exact ⟨c, hc, he⟩

/-- **pack_groups_only_equal**: the routes that share a message have the same family, the same
    attribute set and the same next hop, and each of them is an input route (its own last
    action) — a route never rides on another route's attributes. -/
theorem pack_groups_only_equal (o : Opts) (is : List Item) (m : Msg) (hm : m ∈ pack o is)
    (c : Change) (hc : c ∈ flat m) :
    c ∈ changes is ∧ ∀ d ∈ flat m, d.fam = c.fam ∧ d.act = c.act := by
  refine ⟨changes_dedup_sub o ((flat_pack o is).mem_iff.mp (List.mem_flatMap.mpr ⟨m, hm, hc⟩)),
    fun d hd => ?_⟩
  cases m with
  | wd4 ns | ann4 a nh ns | unreach f ns | reach f a nh ns =>
    obtain ⟨n, _, rfl⟩ := List.mem_map.mp hc
    obtain ⟨n', _, rfl⟩ := List.mem_map.mp hd
    exact ⟨rfl, rfl⟩
  | eor f => cases hc

/-- End-of-RIB messages carry no route -/
theorem flat_eor (f : Nat) : flat (Msg.eor f) = [] := rfl

/-- **eor_last**: within a family the End-of-RIB marker is the last message the packer returns
    (`packFam` is one family's packer; `pack` concatenates the families' outputs) -/
theorem eor_last (o : Opts) (f : Nat) (xs : List Item) :
    ∃ body, packFam o f xs = body ++ eorMsg f (xs.any isEor) ∧ ∀ g, Msg.eor g ∉ body := by
  unfold packFam
  split
  · next h0 =>
    subst h0
    refine ⟨_, rfl, fun g hg => ?_⟩
    simp only [List.mem_append, List.mem_map, List.mem_flatMap] at hg
    rcases hg with (⟨_, _, h⟩ | ⟨_, _, _, _, h⟩) | ⟨_, _, h⟩ <;> cases h
  · refine ⟨_, rfl, fun g hg => ?_⟩
    simp only [List.mem_append, List.mem_map, List.mem_flatMap] at hg
    rcases hg with ⟨_, _, h⟩ | ⟨g', _, h⟩
    · cases h
    · split at h
      · cases h
      · obtain ⟨_, _, h⟩ := List.mem_map.mp h
        cases h

theorem eor_mem_packFam (o : Opts) (f g : Nat) (xs : List Item) :
    Msg.eor g ∈ packFam o f xs ↔ (g = f ∧ xs.any isEor = true) := by
  obtain ⟨body, hb, hno⟩ := eor_last o f xs
  rw [hb, List.mem_append, mem_eorMsg]
  constructor
  · rintro (h | ⟨he, hg⟩)
    · exact absurd h (hno g)
    · exact ⟨Msg.eor.inj hg, he⟩
  · rintro ⟨rfl, he⟩
    exact Or.inr ⟨he, rfl⟩

/-- **eor_kept**: an End-of-RIB marker for a family is emitted iff the input contains one -/
theorem eor_kept (o : Opts) (is : List Item) (f : Nat) :
    Msg.eor f ∈ pack o is ↔ Item.eor f ∈ is := by
  unfold pack
  rw [List.mem_flatMap, ← eor_mem_dedup o f is]
  constructor
  · rintro ⟨g, hg, hm⟩
    obtain ⟨rfl, ha⟩ := (eor_mem_packFam o g.1 f g.2).mp hm
    obtain ⟨i, hi, hie⟩ := List.any_eq_true.mp ha
    cases i with
    | path p => cases hie
    | eor f' =>
      obtain ⟨h1, h2⟩ := (groupBy_key _ _ _ g hg).2 _ hi
      exact (h1 : f' = g.1) ▸ h2
  · intro hd
    -- the marker lies in some bucket, and that bucket's key is its family
    obtain ⟨g, hg, h2⟩ := List.mem_flatMap.mp ((groupBy_perm famOf _).mem_iff.mpr hd)
    have h1 : f = g.1 := ((groupBy_key _ _ _ g hg).2 _ h2).1
    exact ⟨g, hg, (eor_mem_packFam o g.1 f g.2).mpr ⟨h1, List.any_eq_true.mpr ⟨_, h2, rfl⟩⟩⟩

/-- **dedup_key_matches_wire**: the last-action key (`wireKey` of CreateUpdateMsgFromPaths, which is
    also the receiver's key) contains the local path identifier iff the SEND bit of the family's
    negotiated ADD-PATH mode is set — exactly when the identifier is written on the wire (4 more
    octets per NLRI entry). In particular with mode receive-only (1) two changes of one prefix with
    different local ids have the same key, so only the later one is emitted. -/
theorem dedup_key_matches_wire (o : Opts) (c d : Change) :
    (wkey o c = wkey o d ↔
      c.fam = d.fam ∧ c.n.bits = d.n.bits ∧ c.n.pfx = d.n.pfx ∧ (apSend o c.fam = true → c.n.id = d.n.id)) ∧
    entryLen o c.fam c.n = nlriLen c.fam c.n + (if apSend o c.fam = true then 4 else 0) := by
  refine ⟨?_, rfl⟩
  simp only [wkey, Prod.mk.injEq]
  refine and_congr_right (fun h1 => and_congr_right (fun _ => and_congr_right (fun _ => ?_)))
  rw [← h1]
  unfold ap
  cases apSend o c.fam <;> simp

/-- the SEND bit for each of the four negotiated modes -/
example : (List.range 4).map (fun m => apSend ⟨false, [(0, m)]⟩ 0) = [false, false, true, true] := by decide

/-- one prefix, local ids 1 then 2, in one batch: with modes none / receive-only only the later
    change is emitted, with send / both each id is its own route -/
def exTwoIds : List Item :=
  [ .path ⟨⟨0, ⟨24, 1, 1⟩, some ⟨⟨1, 30⟩, none⟩⟩, 5, 0⟩,
    .path ⟨⟨0, ⟨24, 1, 2⟩, none⟩, 0, 0⟩ ]

-- `+kernel`: where the packer is run, it is run by the kernel only, not by the elaborator first
example : (List.range 4).map (fun m => (pack ⟨false, [(0, m)]⟩ exTwoIds).length) = [1, 1, 2, 2] := by
  decide +kernel
example : pack ⟨false, [(0, 1)]⟩ exTwoIds = [Msg.wd4 [⟨24, 1, 2⟩]] := by decide +kernel

/-! ### non-vacuity: concrete inputs that satisfy the hypotheses and exercise the branches -/

/-- an announcement with a 4075-octet attribute set (does not fit a 4096-octet session), an
    ordinary one, a replaced one, a withdrawal, an IPv6 route and two EOR markers -/
def exItems : List Item :=
  [ .path ⟨⟨0, ⟨24, 1, 1⟩, some ⟨⟨1, 4075⟩, none⟩⟩, 11, 0⟩,
    .path ⟨⟨0, ⟨24, 2, 1⟩, some ⟨⟨2, 40⟩, none⟩⟩, 12, 0⟩,
    .path ⟨⟨0, ⟨24, 2, 2⟩, some ⟨⟨3, 44⟩, none⟩⟩, 13, 0⟩,
    .eor 0,
    .path ⟨⟨0, ⟨16, 3, 1⟩, none⟩, 0, 0⟩,
    .path ⟨⟨1, ⟨64, 4, 1⟩, some ⟨⟨4, 50⟩, some ⟨1, 16, 16, false⟩⟩⟩, 0, 0⟩,
    .eor 1 ]

def exOpts : Opts := ⟨false, []⟩

example : SizesOK exItems := by decide

example : (pack exOpts exItems).length = 6 := by decide +kernel
example : (wire exOpts exItems).length = 5 := by decide +kernel
example : (dropped exOpts exItems) = [Msg.ann4 ⟨1, 4075⟩ none [⟨24, 1, 1⟩]] := by decide +kernel
example : (pack exOpts exItems).Perm (pack exOpts exItems) := List.Perm.refl _
example : Msg.eor 1 ∈ pack exOpts exItems := by decide +kernel
/-- the second announcement of prefix 2 (other path id, ADD-PATH off) replaces the first -/
example : Msg.ann4 ⟨3, 44⟩ none [⟨24, 2, 2⟩] ∈ pack exOpts exItems ∧
    Msg.ann4 ⟨2, 40⟩ none [⟨24, 2, 1⟩] ∉ pack exOpts exItems := by decide +kernel

/-- IPv4 routes whose IPv4 next hop is carried in MP_REACH_NLRI (no NEXT_HOP attribute): two routes
    of one received UPDATE (same MP_REACH bytes, `grp` 7) share a message with the synthesised
    NEXT_HOP; a third with identical other attributes but another next hop gets its own message;
    an RFC 5549 route (IPv6 next hop) goes out in MP_REACH_NLRI -/
def exMp4 : List Item :=
  [ .path ⟨⟨0, ⟨24, 1, 1⟩, some ⟨⟨1, 30⟩, some ⟨1, 4, 4, true⟩⟩⟩, 5, 7⟩,
    .path ⟨⟨0, ⟨24, 2, 1⟩, some ⟨⟨1, 30⟩, some ⟨1, 4, 4, true⟩⟩⟩, 5, 7⟩,
    .path ⟨⟨0, ⟨24, 3, 1⟩, some ⟨⟨1, 30⟩, some ⟨2, 4, 4, true⟩⟩⟩, 5, 8⟩,
    .path ⟨⟨0, ⟨24, 4, 1⟩, some ⟨⟨1, 30⟩, some ⟨3, 16, 16, false⟩⟩⟩, 5, 9⟩ ]

example : pack exOpts exMp4 =
    [ Msg.ann4 ⟨1, 30⟩ (some ⟨1, 4, 4, true⟩) [⟨24, 1, 1⟩, ⟨24, 2, 1⟩],
      Msg.ann4 ⟨1, 30⟩ (some ⟨2, 4, 4, true⟩) [⟨24, 3, 1⟩],
      Msg.reach 0 ⟨1, 30⟩ (some ⟨3, 16, 16, false⟩) [⟨24, 4, 1⟩] ] := by decide +kernel
example : SizesOK exMp4 := by decide
example : SizesOK (exItems.drop 1) := by decide
/-- all routes of a smaller input fit, so `wire_effect_all_fit` applies to it -/
example : ∀ c ∈ changes (exItems.drop 1), fitsAlone exOpts c = true := by decide

end C11
