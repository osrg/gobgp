import Lemmas.FramingBodies
/-!
  C19 — MRT, BMP, RTR, Zebra and BFD codecs decode safely and round-trip.

  What is PROVED here is about `Model/Framing.lean` and `Model/FramingBodies.lean` (hand-written
  mirrors of the Go code, tied to it by the correspondence run on every check):
    * RTR  : every well-formed PDU serialises (no panic), to exactly `Len` octets, and ParseRTR
             returns the same PDU; the constructors only build well-formed PDUs.
    * BFD  : Marshal succeeds exactly on valid headers, gives 24 octets, Unmarshal inverts it.
    * MRT / BMP / ZAPI : header round-trips; the splitters never return a token longer than the
             data, never advance past it, the token is a prefix of the data, and they either make
             progress or ask for more (BMP: or fail); a serialised MRT record is cut at its boundary;
             ParseBMPMessage accepts only what lies inside `len(data)`; ReceiveSingleMsg never
             consumes more than the announced length.
    * bodies the daemon itself writes (MRT PEER_INDEX_TABLE, RIB, BGP4MP; BMP Route Monitoring,
             Peer Up, Peer Down): round-trips, attributes and embedded messages being opaque octets.
  "Decoders do not panic / loop / over-read" is, for the modelled functions, the fact that they
  are total Lean functions reading through guarded accessors; for the Go code itself, and for all
  other message BODIES (MRT, BMP, ZAPI), it is SAMPLED by the harness oracles only.
-/
namespace C19
open Framing

def rtrLen : Rtr.Pdu → Nat
  | .common _ _ _ l _ => l | .reset _ _ l => l | .cacheResp _ _ _ l => l
  | .ipPrefix _ _ l _ _ _ _ _ => l | .errReport _ _ _ l _ _ _ _ => l

/-- well-formed PDU: every field fits its wire width, the type octet is one ParseRTR maps to this
    struct, `Len` covers the fixed part (the Error Report: exactly 16 + |PDU| + |text|). -/
def RtrWF : Rtr.Pdu → Prop
  | .common ver typ sess len serial =>
      ver < 256 ∧ (typ = 0 ∨ typ = 1 ∨ typ = 7) ∧ sess < 65536 ∧ 12 ≤ len ∧ len < 4294967296 ∧ serial < 4294967296
  | .reset ver typ len => ver < 256 ∧ (typ = 2 ∨ typ = 8) ∧ 8 ≤ len ∧ len < 4294967296
  | .cacheResp ver typ sess len => ver < 256 ∧ typ = 3 ∧ sess < 65536 ∧ 8 ≤ len ∧ len < 4294967296
  | .ipPrefix ver typ len flags plen mlen addr asn =>
      ver < 256 ∧ flags < 256 ∧ asn < 4294967296 ∧ len < 4294967296 ∧ plen ≤ mlen ∧
      ((typ = 4 ∧ addr.length = 4 ∧ mlen ≤ 32 ∧ 20 ≤ len) ∨ (typ = 6 ∧ addr.length = 16 ∧ mlen ≤ 128 ∧ 32 ≤ len))
  | .errReport ver typ code len pduLen pdu textLen text =>
      ver < 256 ∧ typ = 10 ∧ code < 65536 ∧ pduLen = pdu.length ∧ textLen = text.length ∧
      len = 16 + pduLen + textLen ∧ len < 4294967296

/-- Whatever the struct holds, `Serialize` either panics or returns exactly `Len` octets. -/
theorem rtr_serialize_length (p : Rtr.Pdu) (bs : Bytes) (h : Rtr.serialize p = some bs) :
    bs.length = rtrLen p := by
  cases p with
  | common ver typ sess len serial => exact Rtr.padTo_length _ _ _ h
  | reset ver typ len => exact Rtr.padTo_length _ _ _ h
  | cacheResp ver typ sess len => exact Rtr.padTo_length _ _ _ h
  | ipPrefix ver typ len flags plen mlen addr asn =>
    simp only [Rtr.serialize] at h
    split at h <;> exact Rtr.padTo_length _ _ _ h
  | errReport ver typ code len pduLen pdu textLen text =>
    simp only [Rtr.serialize] at h
    split at h
    · cases h
    split at h
    · cases h
    cases h
    simp only [blit_length, List.length_append, enc8_length, enc16_length, enc32_length, zeros_length, rtrLen]
    omega

/-- ROUND TRIP (full): a well-formed PDU serialises without panic, to `Len` octets, and ParseRTR
    gives back the same PDU. -/
theorem rtr_parse_serialize (p : Rtr.Pdu) (h : RtrWF p) :
    ∃ bs, Rtr.serialize p = some bs ∧ bs.length = rtrLen p ∧ Rtr.parse bs = .ok p := by
  suffices ∃ bs, Rtr.serialize p = some bs ∧ Rtr.parse bs = .ok p by
    obtain ⟨bs, hs, hp⟩ := this
    exact ⟨bs, hs, rtr_serialize_length p bs hs, hp⟩
  cases p with
  | common ver typ sess len serial =>
    obtain ⟨hv, ht, hs, hl, hl2, hsn⟩ := h
    have ht' : typ < 256 := by omega
    refine ⟨_, Rtr.padTo_ok _ _ (by simp; omega), ?_⟩
    simp +arith [Rtr.parse, Rtr.decCommon, *]
  | reset ver typ len =>
    obtain ⟨hv, ht, hl, hl2⟩ := h
    have ht' : typ < 256 := by omega
    have h0 : ¬ (typ = 0 ∨ typ = 1 ∨ typ = 7) := by omega
    refine ⟨_, Rtr.padTo_ok _ _ (by simp; omega), ?_⟩
    simp +arith [Rtr.parse, Rtr.decReset, *]
  | cacheResp ver typ sess len =>
    obtain ⟨hv, rfl, hs, hl, hl2⟩ := h
    refine ⟨_, Rtr.padTo_ok _ _ (by simp; omega), ?_⟩
    simp +arith [Rtr.parse, Rtr.decCacheResp, *]
  | ipPrefix ver typ len flags plen mlen addr asn =>
    obtain ⟨hv, hf, ha, hl2, hpm, hshape⟩ := h
    have hm' : mlen < 256 := by omega
    have hp : plen < 256 := by omega
    rcases hshape with ⟨rfl, hal, hm, hl⟩ | ⟨rfl, hal, hm, hl⟩
    · refine ⟨_, by simp only [Rtr.serialize, if_true]; exact Rtr.padTo_ok _ _ (by simp; omega), ?_⟩
      simp +arith [Rtr.parse, Rtr.decPrefix, copyInto_exact, *]
    · refine ⟨_, by simp only [Rtr.serialize, if_neg (show ¬ 6 = 4 by decide)]; exact Rtr.padTo_ok _ _ (by simp; omega), ?_⟩
      simp +arith [Rtr.parse, Rtr.decPrefix, copyInto_exact, *]
  | errReport ver typ code len pduLen pdu textLen text =>
    obtain ⟨hv, rfl, hc, rfl, rfl, rfl, hl2⟩ := h
    exact ⟨_, Rtr.serialize_errReport ver code pdu text hl2, Rtr.parse_errReport ver code pdu text hv hc hl2⟩

/-- Every PDU the package's constructors build is well-formed, hence round-trips
    (`rtr_parse_serialize`). Hypotheses are the Go parameter types (uint16 / uint32 / uint8) and
    that the lengths of the erroneous PDU and text fit the 32-bit Length. -/
theorem rtr_constructors_wf :
    (∀ typ id sn, (typ = 0 ∨ typ = 1 ∨ typ = 7) → id < 65536 → sn < 4294967296 → RtrWF (Rtr.mkCommon typ id sn)) ∧
    (∀ typ, (typ = 2 ∨ typ = 8) → RtrWF (Rtr.mkReset typ)) ∧
    (∀ id, id < 65536 → RtrWF (Rtr.mkCacheResp id)) ∧
    (∀ addr plen mlen asn flags p, asn < 4294967296 → flags < 256 →
        Rtr.mkPrefix addr plen mlen asn flags = some p → RtrWF p) ∧
    (∀ code pdu text p, code < 65536 → 16 + pdu.length + text.length < 4294967296 →
        Rtr.mkErrReport code pdu text = some p → RtrWF p) := by
  refine ⟨?_, ?_, ?_, ?_, ?_⟩
  · intro typ id sn ht hid hsn
    simp [Rtr.mkCommon, RtrWF]; omega
  · intro typ ht
    simp [Rtr.mkReset, RtrWF]; omega
  · intro id hid
    simp [Rtr.mkCacheResp, RtrWF]; omega
  · intro addr plen mlen asn flags p ha hf h
    unfold Rtr.mkPrefix at h
    split at h
    · cases h; simp [RtrWF]; omega
    · split at h
      · cases h; simp [RtrWF]; omega
      · cases h
  · intro code pdu text p hc hl h
    unfold Rtr.mkErrReport at h
    split at h
    · cases h
    · cases h; simp [RtrWF]; omega

example : Rtr.serialize (Rtr.mkReset 2) = some [0, 2, 0, 0, 0, 0, 0, 8] := by rfl
example : RtrWF (Rtr.mkCommon 7 4660 305419896) := by simp [Rtr.mkCommon, RtrWF]
example : RtrWF (.ipPrefix 0 6 32 1 48 64 (List.replicate 16 7) 65001) := by simp [RtrWF]
example : Rtr.mkPrefix [192, 168, 0, 0] 24 16 65001 1 = none := by decide
example : RtrWF (.errReport 0 10 2 26 8 [0, 2, 0, 0, 0, 0, 0, 8] 2 [97, 98]) := by simp [RtrWF]
example : Rtr.parse [0, 10, 0, 2, 0, 0, 0, 26, 0, 0, 0, 8, 0, 2, 0, 0, 0, 0, 0, 8, 0, 0, 0, 2, 97, 98] =
    .ok (.errReport 0 10 2 26 8 [0, 2, 0, 0, 0, 0, 0, 8] 2 [97, 98]) := by rfl
/-- Serialising a struct whose `Len` is shorter than its fixed part panics (as the Go code does:
    `make([]byte, m.Len)` followed by fixed indices) — e.g. what ParseRTR returns for a Serial
    Notify that announces Length 5. Not part of the property (decoders do not panic), recorded as
    behaviour of the model. -/
example : (Rtr.parse [0, 0, 0, 1, 0, 0, 0, 5, 0, 0, 0, 9]).toOption.bind Rtr.serialize = none := by decide

/-- field ranges of the Go struct (uint8 / uint32); `validate` bounds version, diag, state -/
def BfdRanges (h : Bfd.Hdr) : Prop :=
  h.mult < 256 ∧ h.my < 4294967296 ∧ h.your < 4294967296 ∧ h.tx < 4294967296 ∧ h.rx < 4294967296

theorem bfd_validate_none {h : Bfd.Hdr} (hv : Bfd.validate h = none) :
    h.ver ≤ 7 ∧ h.diag ≤ 31 ∧ h.state ≤ 3 := by
  simp only [Bfd.validate] at hv
  split at hv
  · cases hv
  split at hv
  · cases hv
  split at hv
  · cases hv
  · omega

/-- the first octet `ver<<5 | diag` unpacks -/
theorem bfd_octet0 (v d : Nat) (hv : v ≤ 7) (hd : d ≤ 31) :
    (v * 32 % 256 + d % 32) / 32 = v ∧ (v * 32 % 256 + d % 32) % 32 = d := by omega

/-- the second octet `state<<6 | poll<<5 | final<<4` unpacks (`p`, `f` are single bits) -/
theorem bfd_octet1 (s p f : Nat) (hs : s ≤ 3) (hp : p ≤ 1) (hf : f ≤ 1) :
    (s * 64 % 256 + p * 32 + f * 16) / 64 = s ∧ (s * 64 % 256 + p * 32 + f * 16) / 32 % 2 = p ∧
    (s * 64 % 256 + p * 32 + f * 16) / 16 % 2 = f := by omega

theorem b2n_le (b : Bool) : Bfd.b2n b ≤ 1 := by cases b <;> decide

theorem b2n_ne_zero (b : Bool) : (Bfd.b2n b != 0) = b := by cases b <;> rfl

/-- ROUND TRIP (full): MarshalBinary succeeds on a valid header, yields 24 octets, and
    UnmarshalBinary returns the same header. -/
theorem bfd_unmarshal_marshal (h : Bfd.Hdr) (hv : Bfd.validate h = none) (hr : BfdRanges h) :
    ∃ bs, Bfd.marshal h = .ok bs ∧ bs.length = 24 ∧ Bfd.unmarshal bs = .ok h := by
  obtain ⟨hm, hmy, hyo, htx, hrx⟩ := hr
  obtain ⟨h1, h2, h3⟩ := bfd_validate_none hv
  obtain ⟨e0, e1⟩ := bfd_octet0 h.ver h.diag h1 h2
  obtain ⟨e2, e3, e4⟩ := bfd_octet1 h.state _ _ h3 (b2n_le h.poll) (b2n_le h.final)
  refine ⟨_, by simp only [Bfd.marshal, hv]; rfl, by simp, ?_⟩
  simp [Bfd.unmarshal, *, b2n_ne_zero, Nat.mod_eq_of_lt hm]

/-- MarshalBinary refuses exactly the headers Validate refuses. -/
theorem bfd_marshal_error_iff (h : Bfd.Hdr) :
    (∃ e, Bfd.marshal h = .error e) ↔ Bfd.validate h ≠ none := by
  unfold Bfd.marshal
  cases hv : Bfd.validate h <;> simp

/-- UnmarshalBinary accepts a packet only when its Length octet equals the number of octets
    received, which is at least 24: it never reads what it was not given. -/
theorem bfd_unmarshal_ok_length (d : Bytes) (h : Bfd.Hdr) (hd : Bfd.unmarshal d = .ok h) :
    24 ≤ d.length ∧ d.length = rd8 d 3 := by
  unfold Bfd.unmarshal at hd
  split at hd
  · cases hd
  · split at hd
    · cases hd
    · constructor <;> omega

example : Bfd.validate ⟨1, 0, 3, true, false, 3, 1, 2, 1000000, 1000000⟩ = none ∧
    BfdRanges ⟨1, 0, 3, true, false, 3, 1, 2, 1000000, 1000000⟩ := by
  simp [Bfd.validate, BfdRanges]
example : Bfd.marshal ⟨8, 0, 3, true, false, 3, 1, 2, 3, 4⟩ = .error .version := by rfl
example : Bfd.unmarshal [32, 192, 3, 24, 0, 0, 0, 1, 0, 0, 0, 2, 0, 0, 0, 3, 0, 0, 0, 4, 0, 0, 0, 0] =
    .ok ⟨1, 0, 3, false, false, 3, 1, 2, 3, 4⟩ := by rfl

/-- field widths of MRTHeader; the microsecond field only exists for the _ET types
    (NewMRTHeader leaves it 0 otherwise) -/
def MrtWF (h : Mrt.Hdr) : Prop :=
  h.ts < 4294967296 ∧ h.typ < 65536 ∧ h.sub < 65536 ∧ h.len < 4294967296 ∧ h.usec < 4294967296 ∧
  (Mrt.hasET h.typ = false → h.usec = 0)

theorem mrt_header_roundtrip_append (h : Mrt.Hdr) (hw : MrtWF h) (rest : Bytes) :
    Mrt.parseHeader (Mrt.serializeHeader h ++ rest) = .ok h := by
  obtain ⟨ts, typ, sub, len, usec⟩ := h
  obtain ⟨h1, h2, h3, h4, h5, h6⟩ := hw
  simp only [] at *
  cases het : Mrt.hasET typ
  · obtain rfl := h6 het
    simp +arith [Mrt.serializeHeader, Mrt.parseHeader, *]
  · simp +arith [Mrt.serializeHeader, Mrt.parseHeader, *]

theorem mrt_header_length (h : Mrt.Hdr) :
    (Mrt.serializeHeader h).length = (if Mrt.hasET h.typ then 16 else 12) := by
  cases het : Mrt.hasET h.typ <;> simp [Mrt.serializeHeader, het]

/-- HEADER ROUND TRIP, extended-timestamp types included. -/
theorem mrt_header_roundtrip (h : Mrt.Hdr) (hw : MrtWF h) :
    Mrt.parseHeader (Mrt.serializeHeader h) = .ok h ∧
    (Mrt.serializeHeader h).length = (if Mrt.hasET h.typ then 16 else 12) :=
  ⟨by simpa using mrt_header_roundtrip_append h hw [], mrt_header_length h⟩

/-- SPLITTER SAFETY (for ALL byte strings): SplitMrt never fails, and when it returns a token the
    token is the first `adv` octets of the data, `adv` is at least a header and at most
    `len(data)` — it makes progress or asks for more. -/
theorem mrt_split_token_le (d : Bytes) (eof : Bool) :
    match Mrt.split d eof with
    | .more => True
    | .err => False
    | .tok adv t => 12 ≤ adv ∧ adv ≤ d.length ∧ t = d.take adv ∧ t.length = adv := by
  unfold Mrt.split
  by_cases h1 : (eof = true ∧ d.length = 0)
  · rw [if_pos h1]; trivial
  · by_cases h2 : d.length < 12
    · rw [if_neg h1, if_pos h2]; trivial
    · by_cases h3 : d.length < rd32 d 8 + 12
      · rw [if_neg h1, if_neg h2]; simp only []; rw [if_pos h3]; trivial
      · rw [if_neg h1, if_neg h2]; simp only []; rw [if_neg h3]
        exact ⟨by omega, by omega, rfl, by rw [List.length_take]; omega⟩

/-- FRAMING AGREES: a serialised record (non-ET header whose Length is the body length) followed
    by anything is cut exactly at the record boundary. -/
theorem mrt_split_frames_record (h : Mrt.Hdr) (body rest : Bytes) (eof : Bool) (hw : MrtWF h)
    (het : Mrt.hasET h.typ = false) (hl : h.len = body.length) :
    Mrt.split (Mrt.serializeHeader h ++ body ++ rest) eof =
      .tok (12 + body.length) (Mrt.serializeHeader h ++ body) := by
  have hlen : (Mrt.serializeHeader h).length = 12 := by rw [mrt_header_length, het]; rfl
  have hrd : rd32 (Mrt.serializeHeader h ++ body ++ rest) 8 = body.length := by
    rw [← hl]
    simp [Mrt.serializeHeader, hw.2.2.2.1]
  have htake : List.take (12 + body.length) (Mrt.serializeHeader h ++ body ++ rest)
      = Mrt.serializeHeader h ++ body :=
    List.take_left' (by rw [List.length_append, hlen])
  have hDlen : (Mrt.serializeHeader h ++ body ++ rest).length = 12 + body.length + rest.length := by
    rw [List.length_append, List.length_append, hlen]
  generalize Mrt.serializeHeader h ++ body ++ rest = D at hrd htake hDlen ⊢
  unfold Mrt.split
  rw [if_neg (by omega), if_neg (by omega)]
  simp only [hrd]
  rw [if_neg (by omega), Nat.add_comm body.length 12, htake]

/-- THE DEFECT of the pinned commit (model `splitOld`, repaired by the fix commit): with fewer
    than 12 octets of data the header was completed from the spare capacity, so the result
    depended on octets beyond len(data); and a Length of 0xfffffff4 wrapped to a zero-length
    token with advance 0 (a bufio.Scanner then never makes progress); an _ET record was refused. -/
theorem mrt_splitOld_counterexample :
    Mrt.splitOld [0, 0, 0, 10, 0, 13, 0, 2] [255, 255, 255, 244] false = .tok 0 [] ∧
    Mrt.splitOld [0, 0, 0, 10, 0, 13, 0, 2] [0, 0, 0, 0] false = .more ∧
    Mrt.splitOld [0, 0, 0, 10, 0, 13, 0, 2, 255, 255, 255, 244] [] false = .tok 0 [] ∧
    Mrt.splitOld [0, 0, 0, 10, 0, 17, 0, 0, 0, 0, 0, 4, 0, 1, 226, 64, 1, 2, 3, 4] [] false = .err := by
  refine ⟨by rfl, by rfl, by rfl, by rfl⟩

example : MrtWF ⟨1234, 17, 4, 100, 999999⟩ := by simp [MrtWF, Mrt.hasET]
example : MrtWF ⟨1234, 13, 2, 100, 0⟩ := by simp [MrtWF]
example : MrtWF ⟨1234, 13, 2, 2, 0⟩ ∧ Mrt.hasET 13 = false ∧ (2 : Nat) = [1, 2].length := by
  refine ⟨by simp [MrtWF], by rfl, by rfl⟩
example : Mrt.split [0, 0, 0, 10, 0, 13, 0, 2, 0, 0, 0, 2, 1, 2, 9] false =
    .tok 14 [0, 0, 0, 10, 0, 13, 0, 2, 0, 0, 0, 2, 1, 2] := by rfl
example : Mrt.split [0, 0, 0, 10, 0, 13, 0, 2, 255, 255, 255, 244] false = .more := by rfl

theorem bmp_header_roundtrip_append (h : Bmp.Hdr) (hv : h.ver = 3) (hl : h.len < 4294967296) (ht : h.typ < 256)
    (rest : Bytes) : Bmp.decHdr (Bmp.serHdr h ++ rest) = .ok h := by
  obtain ⟨ver, len, typ⟩ := h
  subst hv
  simp +arith [Bmp.serHdr, Bmp.decHdr, *]

/-- COMMON HEADER ROUND TRIP (DecodeFromBytes only accepts version 3). -/
theorem bmp_header_roundtrip (h : Bmp.Hdr) (hv : h.ver = 3) (hl : h.len < 4294967296) (ht : h.typ < 256) :
    Bmp.decHdr (Bmp.serHdr h) = .ok h ∧ (Bmp.serHdr h).length = 6 :=
  ⟨by simpa using bmp_header_roundtrip_append h hv hl ht [], by simp [Bmp.serHdr]⟩

/-- field widths of BMPPeerHeader and the address shape NewBMPPeerHeader / DecodeFromBytes
    produce: none for the Loc-RIB peer type, 16 octets with the V flag, 4 without. -/
def BmpPeerWF (h : Bmp.PeerHdr) : Prop :=
  h.ptype < 256 ∧ h.flags < 256 ∧ h.dist < 18446744073709551616 ∧ h.asn < 4294967296 ∧
  h.bgpid.length = 4 ∧ h.sec < 4294967296 ∧ h.usec < 4294967296 ∧
  ((h.ptype = 3 ∧ h.addr = []) ∨
   (h.ptype ≠ 3 ∧ Bmp.hasV h.ptype h.flags = true ∧ h.addr.length = 16) ∨
   (h.ptype ≠ 3 ∧ Bmp.hasV h.ptype h.flags = false ∧ h.addr.length = 4))

theorem bmp_peer_length (h : Bmp.PeerHdr) : (Bmp.serPeer h).length = 42 := by
  simp only [Bmp.serPeer]
  split
  · simp
  · split <;> simp

/-- The address field is 16 octets in each of its three layouts, so the other fields sit at fixed
    offsets. -/
theorem bmp_peer_roundtrip_append (h : Bmp.PeerHdr) (hw : BmpPeerWF h) (rest : Bytes) :
    Bmp.decPeer (Bmp.serPeer h ++ rest) = .ok h := by
  obtain ⟨ptype, flags, dist, addr, asn, bgpid, sec, usec⟩ := h
  obtain ⟨h1, h2, h3, h4, h5, h6, h7, hs⟩ := hw
  simp only [] at *
  rcases hs with ⟨hp, ha⟩ | ⟨hp, hv, ha⟩ | ⟨hp, hv, ha⟩ <;>
    simp +arith [Bmp.serPeer, Bmp.decPeer, copyInto_exact, *]

/-- PER-PEER HEADER ROUND TRIP for every peer type and flag set (the float64 timestamp is the
    pair (seconds, microseconds) here; its conversion is covered by the harness oracle only). -/
theorem bmp_peer_roundtrip (h : Bmp.PeerHdr) (hw : BmpPeerWF h) :
    Bmp.decPeer (Bmp.serPeer h) = .ok h ∧ (Bmp.serPeer h).length = 42 :=
  ⟨by simpa using bmp_peer_roundtrip_append h hw [], bmp_peer_length h⟩

/-- SPLITTER SAFETY (for ALL byte strings): a token is the first `adv` octets of the data,
    `adv` is at least a header and at most `len(data)`; otherwise SplitBMP asks for more or
    fails — it never returns an empty token without progress. -/
theorem bmp_split_token_le (d : Bytes) (eof : Bool) :
    match Bmp.split d eof with
    | .more => True
    | .err => 6 ≤ d.length
    | .tok adv t => 6 ≤ adv ∧ adv ≤ d.length ∧ t = d.take adv ∧ t.length = adv := by
  unfold Bmp.split
  by_cases h1 : ((eof = true ∧ d.length = 0) ∨ d.length < 6)
  · rw [if_pos h1]; trivial
  · rw [if_neg h1]
    cases hh : Bmp.decHdr (d.take 6) with
    | error e => trivial
    | ok h =>
      simp only []
      by_cases h2 : h.len < 6
      · rw [if_pos h2]; show 6 ≤ d.length; omega
      · by_cases h3 : d.length < h.len
        · rw [if_neg h2, if_pos h3]; trivial
        · rw [if_neg h2, if_neg h3]
          exact ⟨by omega, by omega, rfl, by rw [List.length_take]; omega⟩

/-- THE DEFECT of the pinned commit: Length = 0 gave an empty token with advance 0. -/
theorem bmp_splitOld_counterexample : Bmp.splitOld [3, 0, 0, 0, 0, 4] false = .tok 0 [] := by rfl

example : Bmp.decHdr (Bmp.serHdr ⟨3, 48, 0⟩) = .ok ⟨3, 48, 0⟩ := by rfl
example : Bmp.parseMsg [3, 0, 0, 0, 12, 4, 0, 1, 0, 2, 97, 98] = .ok ⟨⟨3, 12, 4⟩, none, .info [(1, [97, 98])]⟩ := by rfl
example : Bmp.parseMsg [3, 0, 0, 0, 14, 4, 0, 1, 0, 2, 97, 98] = .error .length := by rfl
example : Bmp.split [3, 0, 0, 0, 0, 4] false = .err := by rfl
example : Bmp.split [3, 0, 0, 0, 6, 4, 3, 0] false = .tok 6 [3, 0, 0, 0, 6, 4] := by rfl
example : BmpPeerWF ⟨0, 192, 7, List.replicate 16 1, 65001, [10, 0, 0, 1], 1700000000, 3⟩ := by
  simp [BmpPeerWF, Bmp.hasV]
example : BmpPeerWF ⟨3, 128, 0, [], 65001, [10, 0, 0, 1], 1700000000, 0⟩ := by simp [BmpPeerWF]

/-- ParseBMPMessage (framing, after the fix): a message is accepted only if its header decodes
    and the announced Length is at least the header and at most `len(data)` — nothing is parsed
    from beyond the data handed in. (At the pinned commit the bound was cap(data).) -/
theorem bmp_parse_within_len (d : Bytes) (m : Bmp.Msg) (h : Bmp.parseMsg d = .ok m) :
    Bmp.decHdr d = .ok m.hdr ∧ 6 ≤ m.hdr.len ∧ m.hdr.len ≤ d.length := by
  unfold Bmp.parseMsg at h
  cases hd : Bmp.decHdr d with
  | error e => rw [hd] at h; cases h
  | ok hh =>
    rw [hd] at h
    simp only [] at h
    by_cases hl : hh.len < 6 ∨ hh.len > d.length
    · rw [if_pos hl] at h; cases h
    rw [if_neg hl] at h
    -- Every accepting leaf of the body parser returns the decoded header. The outer guards are
    -- taken by hand: `split` on the whole tree is very slow.
    have e : m.hdr = hh := by
      generalize slice d 6 (hh.len - 6) = body at h
      by_cases t6 : hh.typ > 6
      · rw [if_pos t6] at h; cases h
      by_cases t4 : hh.typ = 4
      · rw [if_neg t6, if_pos t4] at h
        split at h
        · cases h
        · cases h; rfl
      by_cases t5 : hh.typ = 5
      · rw [if_neg t6, if_neg t4, if_pos t5] at h
        split at h
        · cases h
        · cases h; rfl
      rw [if_neg t6, if_neg t4, if_neg t5] at h
      cases hp : Bmp.decPeer body with
      | error e => rw [hp] at h; cases h
      | ok p =>
        rw [hp] at h
        simp only [] at h
        by_cases t2 : hh.typ = 2
        · rw [if_pos t2] at h
          by_cases hb : (body.drop 42).length < 1
          · rw [if_pos hb] at h; cases h
          rw [if_neg hb] at h
          split at h
          · cases h; rfl
          split at h
          · split at h
            · split at h
              · cases h
              · cases h; rfl
            · cases h; rfl
          · cases h; rfl
        · rw [if_neg t2] at h
          cases h; rfl
    rw [e]
    exact ⟨rfl, by omega, by omega⟩

/-- field widths per version: no VRF id in version 2, 16 bits in 3 and 4, 32 bits in 5 and 6;
    Len at least the header size (decodeFromBytes rejects less) -/
def ZapiWF (h : Zapi.Hdr) : Prop :=
  h.len < 65536 ∧ h.marker < 256 ∧ h.cmd < 65536 ∧ Zapi.headerSize h.ver ≤ h.len ∧
  ((h.ver = 2 ∧ h.vrf = 0) ∨ ((h.ver = 3 ∨ h.ver = 4) ∧ h.vrf < 65536) ∨
   ((h.ver = 5 ∨ h.ver = 6) ∧ h.vrf < 4294967296))

/-- HEADER ROUND TRIP for ZAPI versions 2 to 6. -/
theorem zapi_header_roundtrip (h : Zapi.Hdr) (hw : ZapiWF h) :
    ∃ bs, Zapi.serialize h = some bs ∧ bs.length = Zapi.headerSize h.ver ∧ Zapi.decode bs = .ok h := by
  obtain ⟨len, marker, ver, vrf, cmd⟩ := h
  obtain ⟨h1, h2, h3, h4, hv⟩ := hw
  simp only [] at *
  -- the command is the last field: nothing follows it
  have hc : rd16 (enc16 cmd) 0 = cmd := Octets.horner16 h3
  rcases hv with ⟨rfl, rfl⟩ | ⟨rfl | rfl, hvrf⟩ | ⟨rfl | rfl, hvrf⟩
  all_goals
    simp [Zapi.headerSize] at h4
    refine ⟨_, by simp only [Zapi.serialize]; rfl, by simp [Zapi.headerSize], ?_⟩
    simp [Zapi.decode, Zapi.headerSize, *]

example : ZapiWF ⟨10, 254, 6, 7, 23⟩ := by simp [ZapiWF, Zapi.headerSize]
example : ZapiWF ⟨6, 255, 2, 0, 1⟩ := by simp [ZapiWF, Zapi.headerSize]

/-- ReceiveSingleMsg, LENGTH HANDLING (for ALL byte streams and configured versions): it never
    consumes more than the stream holds; a message handed to the body parser has the configured
    version, consumed exactly its `Len` octets (header included, so `Len` ≥ header size) and its
    body is the `Len` − header octets that follow the header. -/
theorem zapi_recv_consumes_le (v : Nat) (s : Bytes) (hb : ∀ x ∈ s, x < 256) :
    match Zapi.recv v s with
    | .hdrRead c => c = s.length ∧ c < Zapi.headerSize v
    | .mismatch c => c = Zapi.headerSize v ∧ c ≤ s.length
    | .hdrErr c => c = Zapi.headerSize v ∧ c ≤ s.length
    | .bodyRead c => c = s.length
    | .framed c h body =>
        c ≤ s.length ∧ c = h.len ∧ h.ver = v ∧ Zapi.headerSize v ≤ c ∧
        body = (s.drop (Zapi.headerSize v)).take (c - Zapi.headerSize v) := by
  -- through the equations of `recv`: unfolding it under the `match` of the statement is very
  -- slow in the kernel
  by_cases h1 : s.length < Zapi.headerSize v
  · rw [Zapi.recv_hdrRead h1]
    exact ⟨rfl, h1⟩
  by_cases h2 : v = rd8 (s.take (Zapi.headerSize v)) 3
  · cases hd : Zapi.decode (s.take (Zapi.headerSize v)) with
    | error e =>
      rw [Zapi.recv_hdrErr h1 h2 hd]
      exact ⟨rfl, Nat.le_of_not_lt h1⟩
    | ok h =>
      obtain ⟨f1, f2, f3⟩ := Zapi.decode_ok_facts _ _ hd
      have hlt : h.len < 65536 := by
        rw [f1]
        exact Zapi.rd16_lt _ (fun x hx => hb x (List.mem_of_mem_take hx))
      have hv : h.ver = v := f2.trans h2.symm
      rw [hv] at f3
      -- the uint16 subtraction does not wrap: Len is at least the header size
      have hbl : (h.len + 65536 - Zapi.headerSize v) % 65536 = h.len - Zapi.headerSize v := by omega
      rw [Zapi.recv_decoded h1 h2 hd, hbl]
      by_cases h3 : (s.drop (Zapi.headerSize v)).length < h.len - Zapi.headerSize v
      · rw [if_pos h3]
      · rw [if_neg h3]
        rw [List.length_drop] at h3
        have e : Zapi.headerSize v + (h.len - Zapi.headerSize v) = h.len := by omega
        refine ⟨by omega, by omega, hv, by omega, ?_⟩
        rw [e]
  · rw [Zapi.recv_mismatch h1 h2]
    exact ⟨rfl, Nat.le_of_not_lt h1⟩

example : Zapi.recv 6 [0, 12, 254, 6, 0, 0, 0, 0, 0, 23, 1, 2, 9, 9] =
    .framed 12 ⟨12, 254, 6, 0, 23⟩ [1, 2] := by rfl
example : Zapi.recv 2 [0, 5, 255, 2, 0, 1, 9, 9, 9] = .hdrErr 6 := by rfl
example : ∀ x ∈ [0, 12, 254, 6, 0, 0, 0, 0, 0, 23, 1, 2, 9, 9], x < 256 := by decide

/-! ## MRT TABLE_DUMPv2 bodies (what mrtWriter.dumpTable writes)

  Path attributes and the NLRIs of RIB_GENERIC families are opaque octet strings here. -/

/-- well-formed PEER_INDEX_TABLE: IPv4 collector id, view name and peer count fit 16 bits, every
    peer entry is what NewPeer builds (`Mrt.PeerWF`) -/
def PeerTableWF (t : Mrt.PeerTable) : Prop :=
  t.collector.length = 4 ∧ t.view.length < 65536 ∧ t.peers.length < 65536 ∧ ∀ p ∈ t.peers, Mrt.PeerWF p

/-- PEER_INDEX_TABLE ROUND TRIP: a well-formed table serialises (no AS error) and
    parsePeerIndexTable gives it back, leaving what follows untouched. -/
theorem mrt_peer_table_roundtrip (t : Mrt.PeerTable) (rest : Bytes) (h : PeerTableWF t) :
    ∃ bs, Mrt.serPeerTable t = some bs ∧ Mrt.parsePeerTable (bs ++ rest) = some (t, rest) := by
  obtain ⟨c, v, ps⟩ := t
  obtain ⟨h1, h2, h3, h4⟩ := h
  simp only [] at *
  obtain ⟨pb, hs, hp⟩ := Mrt.parsePeers_ser ps h4
  refine ⟨_, by simp only [Mrt.serPeerTable, hs]; rfl, ?_⟩
  simp [Mrt.parsePeerTable, copyInto_exact, *]

/-- well-formed RIB record for the ADD-PATH flag `ap`; `glen` is the NLRI length the family's
    decoder reports for a RIB_GENERIC family. IP prefixes: bit length within the address width,
    ⌈bits/8⌉ octets, trailing bits already cleared. -/
def RibWF (ap : Bool) (glen : Nat) (r : Mrt.Rib) : Prop :=
  r.seq < 4294967296 ∧ r.afi < 65536 ∧ r.safi < 256 ∧ ¬ (r.afi = 0 ∧ r.safi = 0) ∧
  r.entries.length < 65536 ∧ (∀ e ∈ r.entries, Mrt.EntryWF ap e) ∧
  (if Mrt.isIPFamily r.afi r.safi then
     ∃ bits p, r.nlri = bits :: p ∧ bits ≤ (if r.afi = 2 then 128 else 32) ∧ p.length = (bits + 7) / 8 ∧
       (bits % 8 ≠ 0 → Mrt.maskLast (8 - bits % 8) p = p)
   else r.nlri.length = glen)

/-- SUBTYPE CONSISTENCY (RFC 6396 4.3.2, RFC 8050 4): the subtype dumpTable picks for a family
    makes the parser expect AFI/SAFI exactly when Rib.Serialize writes them, keeps the
    ADD-PATH flag, and for the four IP families implies that very family. -/
theorem mrt_subtype_consistent (afi safi : Nat) (ap : Bool) :
    Mrt.ribKind (Mrt.subtypeOf afi safi ap) =
      some (if Mrt.isIPFamily afi safi then (afi, safi, ap) else (0, 0, ap)) := by
  by_cases hip : Mrt.isIPFamily afi safi = true
  · rw [if_pos hip]
    unfold Mrt.isIPFamily at hip
    simp at hip
    rcases hip with ⟨ha | ha, hs | hs⟩ <;> subst ha <;> subst hs <;> cases ap <;> rfl
  · rw [if_neg hip]
    have hn : ¬ (afi = 1 ∧ safi = 1) ∧ ¬ (afi = 1 ∧ safi = 2) ∧ ¬ (afi = 2 ∧ safi = 1) ∧ ¬ (afi = 2 ∧ safi = 2) := by
      unfold Mrt.isIPFamily at hip
      simp at hip
      omega
    obtain ⟨n1, n2, n3, n4⟩ := hn
    unfold Mrt.subtypeOf
    rw [if_neg n1, if_neg n2, if_neg n3, if_neg n4]
    cases ap <;> rfl

/-- RIB RECORD ROUND TRIP under the subtype dumpTable picks (RFC 6396 / RFC 8050): for every
    family and both ADD-PATH variants, `parseRib (subtypeOf family addPath)` reads back exactly
    the record `Rib.Serialize` wrote — in particular AFI/SAFI are written exactly for the
    subtypes under which they are expected (what the seeded change seeded/C19-E breaks). -/
theorem mrt_rib_roundtrip (ap : Bool) (glen : Nat) (r : Mrt.Rib) (rest : Bytes) (h : RibWF ap glen r) :
    Mrt.parseRib (Mrt.subtypeOf r.afi r.safi ap) glen (Mrt.serRib ap r ++ rest) = some (r, rest) := by
  obtain ⟨seq, afi, safi, nlri, es⟩ := r
  obtain ⟨h1, h2, h3, h0, h4, h5, h6⟩ := h
  simp only [] at *
  have hes := Mrt.parseEntries_ser ap es rest h5
  unfold Mrt.parseRib
  rw [mrt_subtype_consistent]
  cases hip : Mrt.isIPFamily afi safi
  · simp only [hip, Bool.false_eq_true, if_false] at h6
    simp [Mrt.serRib, *]
  · simp only [hip, if_true] at h6
    obtain ⟨bits, p, rfl, hb, hl, hm⟩ := h6
    have hpp := Mrt.parseIPPrefix_ser afi bits p (enc16 es.length ++ (Mrt.serEntries ap es ++ rest)) hb hl hm
    simp at hpp
    simp [Mrt.serRib, *]

/-- RECORD LENGTH: the Length field of the common header MRTMessage.Serialize writes is the
    body length, the record is header + body, and SplitMrt cuts it off exactly there. -/
theorem mrt_record_length (ts typ sub : Nat) (body rest : Bytes) (eof : Bool)
    (h1 : ts < 4294967296) (h2 : typ < 65536) (h3 : sub < 65536) (h4 : body.length < 4294967296)
    (het : Mrt.hasET typ = false) :
    (Mrt.serRecord ts typ sub body).length = 12 + body.length ∧
    Mrt.parseHeader (Mrt.serRecord ts typ sub body) = .ok ⟨ts, typ, sub, body.length, 0⟩ ∧
    Mrt.split (Mrt.serRecord ts typ sub body ++ rest) eof = .tok (12 + body.length) (Mrt.serRecord ts typ sub body) := by
  have hw : MrtWF ⟨ts, typ, sub, body.length, 0⟩ := ⟨h1, h2, h3, h4, Nat.zero_lt_succ _, fun _ => rfl⟩
  have hlen : (Mrt.serializeHeader ⟨ts, typ, sub, body.length, 0⟩).length = 12 := by
    rw [mrt_header_length, het]; rfl
  exact ⟨by rw [Mrt.serRecord, List.length_append, hlen], mrt_header_roundtrip_append _ hw body,
    mrt_split_frames_record ⟨ts, typ, sub, body.length, 0⟩ body rest eof hw het rfl⟩

/-- ATTRIBUTION (what the seeded change seeded/C19-D breaks): after writing and reading back a peer table and a RIB
    record, entry `i` of the record is attributed to the very peer entry the daemon's table
    holds at that entry's peer index — address, BGP id, AS and type octet. -/
theorem mrt_attribution_roundtrip (t : Mrt.PeerTable) (r : Mrt.Rib) (ap : Bool) (glen : Nat) (i : Nat)
    (ht : PeerTableWF t) (hr : RibWF ap glen r) :
    ∃ tb, Mrt.serPeerTable t = some tb ∧
      ∃ t' r', Mrt.parsePeerTable tb = some (t', []) ∧
        Mrt.parseRib (Mrt.subtypeOf r.afi r.safi ap) glen (Mrt.serRib ap r) = some (r', []) ∧
        Mrt.entryPeer t' r' i = Mrt.entryPeer t r i := by
  obtain ⟨tb, hs, hp⟩ := mrt_peer_table_roundtrip t [] ht
  have hrr := mrt_rib_roundtrip ap glen r [] hr
  simp only [List.append_nil] at hp hrr
  exact ⟨tb, hs, t, r, hp, hrr, rfl⟩

example : PeerTableWF ⟨[1, 1, 1, 1], [], [Mrt.mkPeer [2, 2, 2, 2] [10, 0, 0, 2] 65002 true,
    Mrt.mkPeer [5, 5, 5, 5] (List.replicate 16 9) 65005 false]⟩ := by
  simp [PeerTableWF, Mrt.mkPeer, Mrt.PeerWF]
example : RibWF true 0 ⟨7, 1, 2, [20, 10, 84, 96], [⟨1, 1700000000, 21, [64, 1, 1, 0]⟩]⟩ := by
  refine ⟨by decide, by decide, by decide, by decide, by decide, ?_, ?_⟩
  · intro e he
    simp at he
    subst he
    simp [Mrt.EntryWF]
  · rw [if_pos (by rfl)]
    exact ⟨20, [10, 84, 96], rfl, by decide, rfl, fun _ => rfl⟩
example : RibWF false 12 ⟨7, 1, 128, List.replicate 12 3, []⟩ := by
  simp [RibWF, Mrt.isIPFamily]
example : Mrt.subtypeOf 1 2 true = 9 ∧ Mrt.subtypeOf 25 70 false = 6 := by decide

/-! ## MRT BGP4MP records (what the mrtWriter loop writes) -/

/-- BGP4MP STATE CHANGE ROUND TRIP (BGP4MP_STATE_CHANGE = 0 and _AS4 = 5). -/
theorem mrt_bgp4mp_state_roundtrip (as4 : Bool) (h : Mrt.Bgp4mpHdr) (o n : Nat)
    (hw : Mrt.Bgp4mpHdrWF as4 h) (ho : o < 65536) (hn : n < 65536) :
    ∃ bs, Mrt.serBgp4mp as4 (.state h o n) = some bs ∧
      Mrt.parseBgp4mp (if as4 then 5 else 0) bs = some (.state h o n) := by
  obtain ⟨hb, hs, hp⟩ := Mrt.parseBgp4mpHdr_ser as4 h hw
  have hk : Mrt.bgp4mpKind (if as4 then 5 else 0) = some (true, as4) := by cases as4 <;> rfl
  have hlast := getU16_enc n [] hn
  rw [List.append_nil] at hlast
  refine ⟨hb ++ enc16 o ++ enc16 n, by simp [Mrt.serBgp4mp, hs], ?_⟩
  simp [Mrt.parseBgp4mp, hk, hp, ho, hlast]

/-- BGP4MP MESSAGE ROUND TRIP for every message subtype (_AS4, _LOCAL, _ADDPATH variants): peer
    AS width as the subtype says, and THE EMBEDDED BGP MESSAGE IS FRAMED BY ITS OWN HEADER
    LENGTH — the parser returns exactly the message octets. -/
theorem mrt_bgp4mp_message_roundtrip (sub : Nat) (as4 : Bool) (h : Mrt.Bgp4mpHdr) (body : Bytes)
    (hk : Mrt.bgp4mpKind sub = some (false, as4)) (hw : Mrt.Bgp4mpHdrWF as4 h)
    (h1 : 1 ≤ body.length) (h2 : 18 + body.length < 65536) :
    ∃ bs, Mrt.serBgp4mp as4 (.message h (mkBgpMsg body)) = some bs ∧
      Mrt.parseBgp4mp sub bs = some (.message h (mkBgpMsg body)) := by
  obtain ⟨hb, hs, hp⟩ := Mrt.parseBgp4mpHdr_ser as4 h hw
  refine ⟨hb ++ mkBgpMsg body, by simp [Mrt.serBgp4mp, hs], ?_⟩
  simp [Mrt.parseBgp4mp, hk, hp, bgpFrame_mk_nil body h1 h2]

/-- the subtype eventToMrtMsg picks selects the AS width it was given -/
theorem mrt_bgp4mp_subtype_kind (as4 ap : Bool) :
    Mrt.bgp4mpKind (Mrt.bgp4mpSubtype as4 ap) = some (false, as4) := by
  cases as4 <;> cases ap <;> rfl

example : Mrt.Bgp4mpHdrWF true ⟨4200000001, 65001, 0, 2, List.replicate 16 1, List.replicate 16 2⟩ := by
  refine ⟨by decide, by decide, by decide, Or.inr ⟨rfl, rfl, rfl⟩⟩
example : Mrt.bgp4mpKind 9 = some (false, true) := by rfl

/-- ROUTE MONITORING: the body is the embedded UPDATE, framed by its own header length. -/
theorem bmp_route_monitoring_roundtrip (body : Bytes) (h1 : 1 ≤ body.length) (h2 : 18 + body.length < 65536) :
    Bmp.parseBody2 0 (Bmp.serBody2 (.routeMon (mkBgpMsg body))) = some (.routeMon (mkBgpMsg body)) := by
  simp [Bmp.parseBody2, Bmp.serBody2, bgpFrame_mk_nil body h1 h2]

/-- PEER UP (without information TLVs, as bmpPeerUp sends it): local address, ports, and the two
    OPEN messages, each framed by its own header length — the second starts where the first ends. -/
theorem bmp_peer_up_roundtrip (la sent recv : Bytes) (lp rp : Nat)
    (hla : la.length = 16) (hlp : lp < 65536) (hrp : rp < 65536)
    (hs : 1 ≤ sent.length) (hr : 1 ≤ recv.length) (hlen : 36 + sent.length + recv.length < 65536) :
    Bmp.parseBody2 3 (Bmp.serBody2 (.peerUp la lp rp (mkBgpMsg sent) (mkBgpMsg recv) [])) =
      some (.peerUp la lp rp (mkBgpMsg sent) (mkBgpMsg recv) []) := by
  have hl : (mkBgpMsg recv).length = 18 + recv.length := by
    simp only [mkBgpMsg, List.length_append, List.length_replicate, enc16_length]
  simp [Bmp.parseBody2, Bmp.serBody2, Bmp.serTlvs, copyInto_exact, *,
    bgpFrame_mk sent (mkBgpMsg recv) hs (by omega), bgpFrame_mk_nil recv hr (by omega)]

/-- PEER DOWN with a NOTIFICATION (reasons 1 and 3) and with opaque data (every other reason but
    6): the reason octet, then the message framed by its own length / the data as it is. -/
theorem bmp_peer_down_roundtrip (reason : Nat) (body data : Bytes) (hr : reason < 256)
    (h1 : 1 ≤ body.length) (h2 : 18 + body.length < 65536) :
    ((reason = 1 ∨ reason = 3) →
      Bmp.parseBody2 2 (Bmp.serBody2 (.peerDownMsg reason (mkBgpMsg body))) = some (.peerDownMsg reason (mkBgpMsg body))) ∧
    (reason ≠ 1 → reason ≠ 3 → reason ≠ 6 →
      Bmp.parseBody2 2 (Bmp.serBody2 (.peerDownData reason data)) = some (.peerDownData reason data)) := by
  constructor
  · intro hre
    simp [Bmp.parseBody2, Bmp.serBody2, hr, hre, bgpFrame_mk_nil body h1 h2]
  · intro n1 n3 n6
    simp [Bmp.parseBody2, Bmp.serBody2, hr, n1, n3, n6]

example : (mkBgpMsg [4]).length = 19 := by rfl
example : bgpFrame (mkBgpMsg [4] ++ [9, 9]) = some (mkBgpMsg [4], [9, 9]) := by rfl

/-- PEER_INDEX_TABLE, serialize ∘ parse = id on the accepted set: whatever parsePeerIndexTable
    accepts (any octet string) serialises back to exactly the octets it consumed. -/
theorem mrt_peer_table_serialize_parse (d r : Bytes) (t : Mrt.PeerTable)
    (h : Mrt.parsePeerTable d = some (t, r)) (ho : Octets d) :
    ∃ bs, Mrt.serPeerTable t = some bs ∧ bs ++ r = d := by
  unfold Mrt.parsePeerTable at h
  obtain ⟨c, d, rfl, hc, ho, h⟩ := getN_bind ho h
  obtain ⟨vl, d, rfl, -, ho, h⟩ := getU16_bind ho h
  obtain ⟨v, d, rfl, hv, ho, h⟩ := getN_bind ho h
  obtain ⟨n, d, rfl, -, ho, h⟩ := getU16_bind ho h
  split at h
  · cases h
  next ps d5 h5 =>
    cases h
    obtain ⟨pb, hs, he, hl, -⟩ := parsePeers_inv n d r ps h5 ho
    refine ⟨_, by simp only [Mrt.serPeerTable, hs]; rfl, ?_⟩
    simp [copyInto_exact, hc, hv, hl, he]

/-- RIB ENTRIES (plain and ADD-PATH), serialize ∘ parse = id on the accepted set, and the parser
    returns exactly the announced number of entries. -/
theorem mrt_rib_entries_serialize_parse (ap : Bool) (n : Nat) (d r : Bytes) (es : List Mrt.Entry)
    (h : Mrt.parseEntries ap n d = some (es, r)) (ho : Octets d) :
    Mrt.serEntries ap es ++ r = d ∧ es.length = n :=
  parseEntries_inv ap n d r es h ho

example : Mrt.parsePeerTable [1, 1, 1, 1, 0, 0, 0, 1, 2, 2, 2, 2, 2, 10, 0, 0, 2, 0, 0, 253, 234, 7] =
    some (⟨[1, 1, 1, 1], [], [⟨2, [2, 2, 2, 2], [10, 0, 0, 2], 65002⟩]⟩, [7]) := by rfl
example : Mrt.parseEntries true 1 [0, 1, 0, 0, 0, 9, 0, 0, 0, 21, 0, 2, 64, 1] =
    some ([⟨1, 9, 21, [64, 1]⟩], []) := by rfl

end C19
