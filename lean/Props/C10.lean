import Lemmas.Policy
import Lemmas.PolicyHeap
/-!
  C10 — policy evaluation equals the documented model and never mutates shared routes.

  What is proved here is about `Model/Policy.lean` and `Model/PolicyHeap.lean` (hand-written mirrors
  of internal/pkg/table/policy.go and path.go as /repo's `fix:` commits to them leave them).
  The tie between the model and the Go code is the correspondence run (sampled), not a proof.

  * `eval_eq_spec`          the Go control flow (`applyPolicy`) computes the documented model (`spec`) for
                            every well-formed program, every route and every option set
                            (`evalCond_eq_spec`: condition by condition).
  * `all_on_empty_set`      the one place where the faithful model departs from the documentation.
  * `first_decision_wins`, `mods_accumulate`, `default_applies`, `withdraw_passthrough`
                            the clauses of the documented model, stated directly on `applyPolicy`
                            (`first_decision_in_policy` among the statements of one policy,
                            `mods_accumulate_policies` across policies).
  * `route_type_documented`, `route_type_partition`
                            what the route-type condition classifies by.
  * `policy_pure`           community-type actions, performed as the repaired code performs them (fresh
                            backing array per result), leave every slice that existed before readable with
                            the same content, and compute the list-level result `listAct` (the
                            interpreter's for a community action: `listAct_is_comm_action`).
  * `append_aliases`        Go's `append` does not have that property (the defect that was repaired),
    `append_pure_when_full` except when the slice has no spare capacity.
  The configuration read-back clause of the property is checked on the implementation only (oracle
  `config-roundtrip:*` of the harness); it has no theorem.
-/
namespace C10
open Policy

/-- every condition's Go loop decides what the documentation says, for conditions the
    configuration path can build (`Cond.wf`) -/
theorem evalCond_eq_spec (c : Cond) (hw : c.wf = true) (r : Route) (o : Opts) :
    evalCond c r o = specCond c r o := by
  cases c with
  | «prefix» fam es opt => exact evalPrefix_eq fam es opt r o hw
  | neighbor nets opt => exact evalNeighbor_eq nets opt r o hw
  | commCount op v => rfl
  | asPathLen op v => rfl
  | rpki st => exact match_beq_some o.rpki st
  | routeType t => exact evalRouteType_eq t r o
  | origin v => exact match_some_beq r.origin v
  | asPath ss res opt => exact evalAsPath_eq ss res opt r o
  | comm ps opt => exact evalComm_eq ps opt r o hw
  | ext ps opt => exact evalExt_eq ps opt r o hw
  | large ps opt => exact evalLarge_eq ps opt r o hw
  | nextHop nets => exact evalNextHop_eq nets r o
  | afiSafi fams => rfl
  | lpEq v => rfl
  | medEq v => exact match_beq_some r.med v

theorem stmtEvaluate_eq_spec (conds : List Cond) (hw : conds.all Cond.wf = true) (r : Route) (o : Opts) :
    stmtEvaluate conds r o = conds.all (fun c => specCond c r o) := by
  induction conds with
  | nil => rfl
  | cons c rest ih =>
    rw [List.all_cons, Bool.and_eq_true] at hw
    rw [stmtEvaluate, evalCond_eq_spec c hw.1, ih hw.2, List.all_cons]
    cases specCond c r o <;> rfl

theorem ite_range {α : Type} (nv hi : Int) (x y : α) :
    (if nv < 0 then y else if nv > hi then y else x) = if 0 ≤ nv ∧ nv ≤ hi then x else y := by
  by_cases h1 : nv < 0
  · rw [if_pos h1, if_neg (fun h => Int.not_le.mpr h1 h.1)]
  · by_cases h2 : nv > hi
    · rw [if_neg h1, if_pos h2, if_neg (fun h => Int.not_le.mpr h2 h.2)]
    · rw [if_neg h1, if_neg h2, if_pos ⟨Int.not_lt.mp h1, Int.not_lt.mp h2⟩]

/-- `applyAct` tests the operation codes with `if`, `specAct` matches on numerals: at each numeral
    (and at `n + k` beyond the last) both sides compute to the same record update. -/
theorem applyAct_eq_spec (a : Act) (r : Route) (o : Opts) : applyAct a r o = specAct a r o := by
  cases a with
  | comm op vals => match op with | 0 | 1 | _ + 2 => rfl
  | ext op vals pats =>
    match op with
    | 0 =>
      -- the code skips an empty addition, the documented effect appends the empty list
      cases vals with
      | nil => show r = { r with exts := r.exts ++ [] }; rw [List.append_nil]
      | cons v vs => rfl
    | 1 | _ + 2 => rfl
  | large op vals => match op with | 0 | 1 | _ + 2 => rfl
  | med replace v =>
    cases replace with
    | true => rfl
    | false => exact ite_range _ _ _ _
  | lp v => rfl
  | prepend useLast asn rep =>
    cases useLast with
    | false => rfl
    | true =>
      unfold applyAct specAct
      cases asSeqList r.asPath with
      | nil => rfl
      | cons first rest => cases first <;> rfl
  | nextHop kind addr =>
    obtain ⟨peer, loc, _, old, _⟩ := o
    match kind with
    | 0 | _ + 4 => rfl
    | 1 => cases loc <;> rfl
    | 2 => cases peer <;> rfl
    | 3 => cases old <;> rfl
  | origin v => rfl

theorem applyMods_eq_spec (mods : List Act) (r : Route) (o : Opts) :
    applyMods mods r o = specMods mods r o := by
  induction mods generalizing r with
  | nil => rfl
  | cons a rest ih => rw [applyMods, applyAct_eq_spec, ih]; rfl

def toRT : Option Bool → RT
  | none => .none
  | some true => .accept
  | some false => .reject

/-- **mods_accumulate**: a statement that applies without route-disposition hands the MODIFIED route
    to the rest of the policy — conditions and actions of later statements see the modifications —
    and a statement that does not apply hands over the route unchanged. -/
theorem mods_accumulate (s : Stmt) (rest : List Stmt) (r : Route) (o : Opts) :
    policyApply (s :: rest) r o =
      if stmtEvaluate s.conds r o then
        (match s.route with
         | none => policyApply rest (applyMods s.mods r o) o
         | some true => (.accept, applyMods s.mods r o)
         | some false => (.reject, applyMods s.mods r o))
      else policyApply rest r o := by
  -- the `isEmpty` guard around the ModActions loop changes nothing
  have hm : (if s.mods.isEmpty then r else applyMods s.mods r o) = applyMods s.mods r o := by
    cases s.mods <;> rfl
  rw [policyApply, stmtApply, hm]
  cases stmtEvaluate s.conds r o with
  | false => rfl
  | true =>
    cases s.route with
    | none => rfl
    | some d => cases d <;> rfl

theorem policyApply_eq_spec (ss : List Stmt) (hw : ss.all Stmt.wf = true) (r : Route) (o : Opts) :
    policyApply ss r o = (toRT (specRun ss r o).1, (specRun ss r o).2) := by
  induction ss generalizing r with
  | nil => rfl
  | cons s rest ih =>
    rw [List.all_cons, Bool.and_eq_true] at hw
    have hs : stmtEvaluate s.conds r o = specMatches s r o := stmtEvaluate_eq_spec s.conds hw.1 r o
    rw [mods_accumulate, specRun, hs, applyMods_eq_spec]
    cases specMatches s r o with
    | false => exact ih hw.2 r
    | true =>
      cases s.route with
      | none => exact ih hw.2 _
      | some d => cases d <;> rfl

theorem policyApply_append (ss ts : List Stmt) (r : Route) (o : Opts) :
    policyApply (ss ++ ts) r o =
      if (policyApply ss r o).1 != .none then policyApply ss r o
      else policyApply ts (policyApply ss r o).2 o := by
  induction ss generalizing r with
  | nil => rfl
  | cons s rest ih =>
    rw [List.cons_append, policyApply, policyApply, ih]
    by_cases h : ((stmtApply s r o).1 != .none) = true
    · rw [if_pos h, if_pos h, if_pos h]
    · rw [if_neg h, if_neg h]

theorem policiesApply_eq_flat (ps : List Pol) (r : Route) (o : Opts) :
    policiesApply ps r o = policyApply (ps.flatMap (·.stmts)) r o := by
  induction ps generalizing r with
  | nil => rfl
  | cons p rest ih => rw [policiesApply, List.flatMap_cons, policyApply_append, ih]

theorem policiesApply_append (ps qs : List Pol) (r : Route) (o : Opts) :
    policiesApply (ps ++ qs) r o =
      if (policiesApply ps r o).1 != .none then policiesApply ps r o
      else policiesApply qs (policiesApply ps r o).2 o := by
  simp only [policiesApply_eq_flat, List.flatMap_append, policyApply_append]

theorem policiesApply_eq_spec (ps : List Pol) (hw : ps.all Pol.wf = true) (r : Route) (o : Opts) :
    policiesApply ps r o =
      (toRT (specRun (ps.flatMap (·.stmts)) r o).1, (specRun (ps.flatMap (·.stmts)) r o).2) := by
  rw [policiesApply_eq_flat]
  exact policyApply_eq_spec _ (List.all_flatMap.trans hw) r o

/-- `applyPolicy` with its `let`s inlined, so that `rw` can reach the policy loop's result -/
theorem applyPolicy_eq (pols : List Pol) (dflt : RT) (r : Route) (o : Opts) :
    applyPolicy pols dflt r o =
      if r.withdraw then some r
      else
        match (if (policiesApply pols r o).1 == .none then dflt else (policiesApply pols r o).1) with
        | .accept => some (policiesApply pols r o).2
        | _ => none := rfl

/-- **eval_eq_spec**: for every program the configuration path can build, every route and every
    option set, `RoutingPolicy.ApplyPolicy` (as modelled, loop for loop) returns what the plain
    interpreter of the documented model returns — verdict and resulting attributes. -/
theorem eval_eq_spec (pols : List Pol) (dflt : RT) (r : Route) (o : Opts)
    (hw : pols.all Pol.wf = true) :
    applyPolicy pols dflt r o = spec pols dflt r o := by
  rw [applyPolicy_eq, spec, policiesApply_eq_spec pols hw]
  cases r.withdraw with
  | true => rfl
  | false =>
    cases specRun (pols.flatMap (·.stmts)) r o with | mk d r' =>
    cases d with
    | none => cases dflt <;> rfl
    | some b => cases b <;> rfl

/-- the hypothesis of `eval_eq_spec` is satisfiable by a program that uses every set condition -/
example : ([⟨[⟨[.prefix (some false) [⟨⟨false, 167772160, 8⟩, 8, 24⟩] .invert, .comm [1] .all,
                .ext [⟨2, 65000, 1⟩] .any, .large [] .invert, .neighbor [] .any],
              some true, [.comm 0 [7]]⟩]⟩] : List Pol).all Pol.wf = true := by decide

/-- the documentation says `all` = "matches all members of the defined set"; on an EMPTY community
    set the code (general loop, `result` initialised to false) answers false where the documented
    reading is vacuously true.  This is why `Cond.wf` asks `all` sets to be non-empty. -/
theorem all_on_empty_set :
    ∃ (r : Route) (o : Opts), evalCond (.comm [] .all) r o = false ∧ specCond (.comm [] .all) r o = true :=
  ⟨default, default, by decide, by decide⟩

/-- inside a policy: once a statement decides, later statements are not looked at -/
theorem first_decision_in_policy (ss ts : List Stmt) (r : Route) (o : Opts)
    (h : (policyApply ss r o).1 ≠ .none) :
    policyApply (ss ++ ts) r o = policyApply ss r o := by
  rw [policyApply_append, if_pos (bne_iff_ne.mpr h)]

example : (policyApply [⟨[.origin 0], some true, [.lp 200]⟩] { (default : Route) with origin := some 0 } default).1 ≠ .none := by
  decide

/-- **first_decision_wins**: once a policy decides, later policies and the default are not looked at -/
theorem first_decision_wins (ps qs : List Pol) (d d' : RT) (r : Route) (o : Opts)
    (h : (policiesApply ps r o).1 ≠ .none) :
    applyPolicy (ps ++ qs) d r o = applyPolicy ps d' r o := by
  have hb : ¬ ((policiesApply ps r o).1 == .none) = true := by rwa [beq_iff_eq]
  rw [applyPolicy_eq, applyPolicy_eq, policiesApply_append, if_pos (bne_iff_ne.mpr h), if_neg hb, if_neg hb]

example : (policiesApply [⟨[⟨[], some false, []⟩]⟩] default default).1 ≠ .none := by decide

/-- … and across policies: an undecided policy hands its (modified) route to the next policy -/
theorem mods_accumulate_policies (p : Pol) (ps : List Pol) (r : Route) (o : Opts)
    (h : (policyApply p.stmts r o).1 = .none) :
    policiesApply (p :: ps) r o = policiesApply ps (policyApply p.stmts r o).2 o := by
  rw [policiesApply, if_neg (by rw [h]; decide)]

example : (policyApply (Pol.mk [⟨[], none, [.med true 5]⟩]).stmts default default).1 = .none := by decide

/-- **default_applies**: when no statement of any attached policy decides, the assignment's default
    decides, and an accepted route carries the accumulated modifications -/
theorem default_applies (ps : List Pol) (d : RT) (r : Route) (o : Opts)
    (hw : r.withdraw = false) (h : (policiesApply ps r o).1 = .none) :
    applyPolicy ps d r o = if d = .accept then some (policiesApply ps r o).2 else none := by
  rw [applyPolicy_eq, hw, h]
  cases d <;> rfl

example : (policiesApply [⟨[⟨[], none, [.lp 200]⟩]⟩] default default).1 = .none := by decide

theorem withdraw_passthrough (ps : List Pol) (d : RT) (r : Route) (o : Opts) (h : r.withdraw = true) :
    applyPolicy ps d r o = some r := by
  rw [applyPolicy_eq, if_pos h]

/-- **route_type_documented**: the route-type condition classifies by the SESSION the route was learned
    on and by nothing else (a `Route` carries no confederation flag, so the classification cannot depend
    on one): local = originated here (no source address); internal = learned from a peer whose AS is the
    local AS of that session (iBGP, also inside a confederation member AS, RR clients); external = learned
    from a peer in another AS — a confederation eBGP session to another member AS and a route-server
    client included. -/
theorem route_type_documented (r : Route) :
    (evalRouteType 3 r = true ↔ r.srcAddr = none) ∧
    (evalRouteType 1 r = true ↔ r.srcAddr ≠ none ∧ r.srcAS = r.srcLocalAS ∧ r.srcAS ≠ 0) ∧
    (evalRouteType 2 r = true ↔ r.srcAddr ≠ none ∧ ¬ (r.srcAS = r.srcLocalAS ∧ r.srcAS ≠ 0)) := by
  have hl : r.isLocal = true ↔ r.srcAddr = none := Option.isNone_iff_eq_none
  have hi : r.isIBGP = true ↔ r.srcAS = r.srcLocalAS ∧ r.srcAS ≠ 0 := by
    simp only [Route.isIBGP, Bool.and_eq_true, beq_iff_eq, bne_iff_ne]
  rw [evalRouteType_local, evalRouteType_internal, evalRouteType_external]
  simp only [Bool.and_eq_true, Bool.not_eq_true', ← Bool.not_eq_true, hl, hi, and_self]

/-- every route has exactly one route type -/
theorem route_type_partition (r : Route) :
    (evalRouteType 3 r || evalRouteType 1 r || evalRouteType 2 r) = true ∧
    (evalRouteType 3 r && evalRouteType 1 r) = false ∧
    (evalRouteType 3 r && evalRouteType 2 r) = false ∧
    (evalRouteType 1 r && evalRouteType 2 r) = false := by
  rw [evalRouteType_local, evalRouteType_internal, evalRouteType_external]
  cases r.isLocal <;> cases r.isIBGP <;> exact ⟨rfl, rfl, rfl, rfl⟩

/-- a route learned over a confederation eBGP session (peer in member AS 65101, local member AS 65000) is external -/
example : evalRouteType 2 { (default : Route) with srcAddr := some ⟨false, 167772673⟩, srcAS := 65101, srcLocalAS := 65000 } = true ∧
    evalRouteType 1 { (default : Route) with srcAddr := some ⟨false, 167772673⟩, srcAS := 65101, srcLocalAS := 65000 } = false := by
  decide

open PolicyHeap in
/-- **policy_pure**: performing any sequence of community-type actions the way the repaired code does
    (every result in a fresh backing array) leaves every slice that was readable before — the stored
    path's attribute lists, the lists of every other clone — with exactly the same content; and
    each single action, from whatever heap and route it starts, leaves the acting clone reading the
    list-level result `listAct` of that action. -/
theorem policy_pure (h : Heap) (r : HRoute) (acts : List HAct) :
    (∀ t : Slice, t.arr < h.length → read (hActs h r acts).1 t = read h t) ∧
    (∀ a : HAct, read (hAct h r a).1 ((hAct h r a).2.get a.which) =
        listAct a.op a.vals (read h (r.get a.which))) :=
  ⟨hActs_frame h r acts, hAct_refines h r⟩

open PolicyHeap in
example : ∃ (h : Heap) (t : Slice), t.arr < h.length ∧ read h t = [1] ∧
    read (hActs h ⟨t, t, t⟩ [⟨2, 0, [7]⟩, ⟨2, 0, [9]⟩]).1 t = [1] :=
  ⟨[[1, 0, 0, 0]], ⟨0, 1, 4⟩, Nat.zero_lt_one, rfl, rfl⟩

/-- the list-level meaning used by `policy_pure` is the interpreter's meaning of a community action -/
theorem listAct_is_comm_action (op : Nat) (vals : List Nat) (r : Route) (o : Opts) :
    (applyAct (.comm op vals) r o).comms = PolicyHeap.listAct op vals r.comms := by
  simp only [applyAct, PolicyHeap.listAct, apply_ite Route.comms]

open PolicyHeap in
/-- **append_aliases**: the same two additions done with Go's `append` on a slice with spare capacity
    (SetLargeCommunities before the repair): the first clone's list changes when the second clone adds
    its value — both end with 9. -/
theorem append_aliases :
    ∃ (h : Heap) (s : Slice),
      let a := goAppend h s [7]
      let b := goAppend a.1 s [9]
      read a.1 a.2 = [1, 7] ∧ read b.1 a.2 = [1, 9] ∧ read b.1 b.2 = [1, 9] :=
  ⟨[[1, 0, 0, 0]], ⟨0, 1, 4⟩, rfl, rfl, rfl⟩

open PolicyHeap in
/-- … and `append` is harmless in the case the existing tests exercise: no spare capacity -/
theorem append_pure_when_full (h : Heap) (s : Slice) (xs : List Nat) (hx : xs ≠ []) (hfull : s.len = s.cap)
    (t : Slice) (ht : t.arr < h.length) :
    read (goAppend h s xs).1 t = read h t :=
  goAppend_frame_of_grow h s xs (hfull ▸ Nat.lt_add_of_pos_right (List.length_pos_iff.mpr hx)) t ht

open PolicyHeap in
example : ∃ (h : Heap) (s t : Slice) (xs : List Nat), xs ≠ [] ∧ s.len = s.cap ∧ t.arr < h.length ∧ read h t = [1, 2] :=
  ⟨[[1, 2]], ⟨0, 2, 2⟩, ⟨0, 2, 2⟩, [9], by decide, rfl, by decide, by decide⟩

end C10
