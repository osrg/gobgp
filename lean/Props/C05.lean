import Lemmas.PTotB
/-!
# C05 — no byte string can crash, hang or over-read the BGP message parser; anything it returns can be
# rendered, measured and re-serialised

WHAT IS PROVED HERE is about the hand-written byte models of gobgp's parser:

* `Wire.parse` (Model/Wire.lean, C04): strict ParseBGPMessage for the header, KEEPALIVE, NOTIFICATION,
  ROUTE-REFRESH, UPDATE framing with IPv4 NLRI (with / without path ids) and 14 attribute types;
* `PTot.parseL` (Model/ParseTotal.lean A): the same parser as the daemon uses it — an UPDATE is handed back
  together with a non-fatal error, discard-class attributes dropped, other faulty attributes kept half-decoded;
* `PTot.parseOpen / decOpen / decCap` (Model/ParseTotal.lean B): OPEN, optional parameters and every
  capability TLV, written with CHECKED indexing — `panic` is an explicit outcome of the model wherever the Go
  expression `d[i]`, `d[a:b]`, `binary.BigEndian.Uint16(d)` would raise a run-time panic;
* `PTot.recvBodyLen` (Model/ParseTotal.lean C): how many octets fsm.go reads after the 19-octet header.

All byte strings are arbitrary `List Nat` (no well-formedness hypothesis anywhere below): these are for-all-inputs
statements.  They are tied to the Go code by the correspondence run of the check (same inputs, same answers).

WHAT IS NOT PROVED: that the Go parser itself does not panic, hang, over-allocate or read beyond a slice —
for the 26 NLRI families, MP_REACH/MP_UNREACH, extended communities, tunnel-encap, BGP-LS, prefix-SID, SR policy,
MUP, VPLS, EVPN, FlowSpec … this is established only by the mutation-driven run of the harness
(go/overlay/pkg/packet/bgp/zz_verif_c05_test.go): a test, not a proof.  In the Lean models totality and
`input_unchanged` (the caller's buffer is not modified) hold by construction — every definition is a total
function on immutable lists — so they are remarks, not theorems.
-/
namespace C05
open Wire PTot

/-! ## 1. No over-read: octets beyond the declared message length never influence the result -/

/-- **decode_prefix_irrelevant** — strict parser.  If the header of `bs` declares a length `L` with
    `19 ≤ L ≤ |bs|`, then parsing `bs` followed by ANY further octets (the next message in the stream, spare
    buffer contents, …) gives the same result as parsing `bs`, which is the result of parsing the first `L`
    octets alone.  (`h64`: the Go code compares `uint16(len(data))`, so buffers are kept below 2^16.) -/
theorem decode_prefix_irrelevant (o : Opts) (bs extra : Bytes)
    (h19 : 19 ≤ rd16 (bs.drop 16)) (hdecl : rd16 (bs.drop 16) ≤ bs.length)
    (h64 : (bs ++ extra).length < 65536) :
    parse o (bs ++ extra) = parse o bs ∧ parse o bs = parse o (bs.take (rd16 (bs.drop 16))) := by
  obtain ⟨h1, h2⟩ := PTotL.frame_prefix_irrelevant bs extra h19 hdecl h64
  simp only [PTotL.parse_frame, h1, ← h2, and_self]

/-- the same for the lenient parser (value + non-fatal error) -/
theorem decode_prefix_irrelevant_lenient (o : Opts) (bs extra : Bytes)
    (h19 : 19 ≤ rd16 (bs.drop 16)) (hdecl : rd16 (bs.drop 16) ≤ bs.length)
    (h64 : (bs ++ extra).length < 65536) :
    parseL o (bs ++ extra) = parseL o bs ∧ parseL o bs = parseL o (bs.take (rd16 (bs.drop 16))) := by
  obtain ⟨h1, h2⟩ := PTotL.frame_prefix_irrelevant bs extra h19 hdecl h64
  simp only [PTotL.parseL_frame, h1, ← h2, and_self]

/-- the same for OPEN messages -/
theorem decode_prefix_irrelevant_open (bs extra : Bytes)
    (h19 : 19 ≤ rd16 (bs.drop 16)) (hdecl : rd16 (bs.drop 16) ≤ bs.length)
    (h64 : (bs ++ extra).length < 65536) :
    parseOpen (bs ++ extra) = parseOpen bs ∧ parseOpen bs = parseOpen (bs.take (rd16 (bs.drop 16))) := by
  obtain ⟨h1, h2⟩ := PTotL.frame_prefix_irrelevant bs extra h19 hdecl h64
  simp only [PTotL.parseOpen_frame, h1, ← h2, and_self]

example : 19 ≤ rd16 ((List.replicate 16 255 ++ [0, 23, 2, 0, 0, 0, 0]).drop 16) ∧
    rd16 ((List.replicate 16 255 ++ [0, 23, 2, 0, 0, 0, 0]).drop 16) ≤ (List.replicate 16 255 ++ [0, 23, 2, 0, 0, 0, 0]).length ∧
    ((List.replicate 16 255 ++ [0, 23, 2, 0, 0, 0, 0]) ++ [9, 9, 9]).length < 65536 := by decide

/-! ## 2. No hang: every decoder loop finishes within its counter

The loops of the models carry a `fuel` argument only because Lean wants structural recursion.  The theorems
say the fuel is never what stops a loop: started with fuel equal to the loop's own counter (octets left, or the
declared length left) the result is the same as with ANY larger fuel — each iteration takes at least one octet
(3 for an attribute, 2 for a capability / optional parameter / AS segment) off the counter. -/

/-- withdrawn-routes loop and NLRI loop of BGPUpdate.DecodeFromBytes -/
theorem nlri_loops_bounded (ap : Bool) (f : Nat) (d : Bytes) :
    (∀ rl, rl ≤ f → decWithdrawn ap f rl d = decWithdrawn ap rl rl d) ∧
    (d.length ≤ f → decNlriTail ap f d = decNlriTail ap d.length d) :=
  ⟨fun _ h => PTotL.decWithdrawn_fuel ap d h (Nat.le_refl _),
   fun h => PTotL.decNlriTail_fuel ap d h (Nat.le_refl _)⟩

/-- path-attribute loop, strict and lenient.  `hd`: an attribute of 65536 octets would make `uint16(p.Len())`
    wrap to 0; inside a BGP message (< 2^16 octets) that cannot happen. -/
theorem attr_loop_bounded (o : Opts) (f pl : Nat) (d : Bytes) (cur : Option ErrH.MErr) (h : pl ≤ f)
    (hd : d.length < 65536) :
    decAttrs o f pl d = decAttrs o pl pl d ∧ decAttrsL o f pl d cur = decAttrsL o pl pl d cur :=
  ⟨PTotL.decAttrs_fuel o d h (Nat.le_refl _) hd, PTotL.decAttrsL_fuel o d cur h (Nat.le_refl _) hd⟩

/-- AS_PATH: validateAsPathValueBytes and the segment loop -/
theorem aspath_loops_bounded (w4 : Bool) (f : Nat) (v : Bytes) (h : v.length ≤ f) :
    validateAsLoop w4 f v = validateAsLoop w4 v.length v ∧ decSegs w4 f v = decSegs w4 v.length v :=
  ⟨PTotL.validateAsLoop_fuel w4 v h (Nat.le_refl _), PTotL.decSegs_fuel w4 v h (Nat.le_refl _)⟩

/-- OPEN: optional-parameter loop, capability loop, and the tuple loops of the extended-next-hop, ADD-PATH /
    graceful-restart and long-lived-graceful-restart capabilities -/
theorem open_loops_bounded (f n : Nat) (d : Bytes) :
    (n ≤ f → decOptParams f n d = decOptParams n n d) ∧
    (d.length ≤ f → decCaps f d = decCaps d.length d) ∧
    (n ≤ f → capTuples6 f n d = capTuples6 n n d ∧ capTuples4 f n d = capTuples4 n n d ∧
             capTuples7 f n d = capTuples7 n n d) :=
  ⟨fun h => PTotO.decOptParams_fuel d h (Nat.le_refl _), fun h => PTotO.decCaps_fuel d h (Nat.le_refl _),
   fun h => ⟨PTotO.capTuples6_fuel d h (Nat.le_refl _), PTotO.capTuples4_fuel d h (Nat.le_refl _),
     PTotO.capTuples7_fuel d h (Nat.le_refl _)⟩⟩

/-- **decode_total_bounded** — what comes back is no larger than what went in: the number of withdrawn
    routes, path attributes and NLRI of a decoded UPDATE (strict or lenient) never exceeds the number of input
    octets (no allocation amplification in the modelled core).  `h64` is not needed: each attribute read takes its
    `Len()` ≥ 3 octets off the data even where `uint16(p.Len())` wraps in the test against the declared length. -/
theorem decode_total_bounded (o : Opts) (bs : Bytes) (h64 : bs.length < 65536) :
    (∀ hl t u, parse o bs = .ok ⟨hl, t, .update u⟩ →
        u.withdrawn.length + u.attrs.length + u.nlri.length ≤ bs.length) ∧
    (∀ hl t u e, parseL o bs = .msg ⟨hl, t, .update u⟩ e →
        u.withdrawn.length + u.attrs.length + u.nlri.length ≤ bs.length) :=
  ⟨fun _ _ _ h => PTotL.parse_count h, fun _ _ _ _ h => PTotL.parseL_count h⟩

/-- the same for OPEN: every optional parameter costs at least 2 octets, every capability too -/
theorem decode_total_bounded_open (d : Bytes) :
    (∀ op, decOpen d = .ok op → 10 + 2 * op.params.length ≤ d.length) ∧
    (∀ f cs, decCaps f d = .ok cs → 2 * cs.length ≤ d.length) :=
  ⟨(PTotO.decOpen_post d).2, fun f => (PTotO.decCaps_post f d).2⟩

example : decAttrsL ⟨false, false, false, false⟩ 99 4 [64, 1, 1, 0, 7] none =
    decAttrsL ⟨false, false, false, false⟩ 4 4 [64, 1, 1, 0, 7] none := rfl

/-! ## 3. No crash in the OPEN / capability decoders: the length tests cover every index expression -/

/-- **open_no_panic** — for EVERY octet string, BGPOpen.DecodeFromBytes (and ParseBGPMessage of an OPEN) ends
    with a value or with the decoder's own error, never in an out-of-range index / slice / BigEndian read. -/
theorem open_no_panic (d : Bytes) : decOpen d ≠ .error .panic ∧ parseOpen d ≠ .error .panic :=
  ⟨(PTotO.decOpen_post d).1, PTotO.parseOpen_no_panic d⟩

/-- **cap_no_panic** — the same for DecodeCapability (13 capability codes + unknown) and for the capability
    loop of OptionParameterCapability.DecodeFromBytes -/
theorem cap_no_panic (f : Nat) (d : Bytes) : decCap d ≠ .error .panic ∧ decCaps f d ≠ .error .panic :=
  ⟨(PTotO.decCap_post d).1, (PTotO.decCaps_post f d).1⟩

/-- the guards are what makes it true: the optional-parameter loop on its own, started with a counter larger
    than the data (the test `len(data) < OptParamLen` of BGPOpen.DecodeFromBytes removed), does index out of
    range — `panic` is a reachable outcome of the model, the theorems above are not vacuous -/
theorem optparams_unguarded_counterexample : decOptParams 2 2 [2] = .error .panic := rfl

example : decCap [64, 6, 0x40, 120, 0, 1, 1, 0x80] = .ok ⟨64, 6, [4, 120, 1, 1, 128]⟩ := rfl
example : decCap [73, 2, 5, 0] = .error .reject := rfl

/-! ## 4. Everything handed back can be measured and re-serialised -/

/-- **render_total** — every message the lenient parser returns, INCLUDING one returned together with an
    attribute-discard or treat-as-withdraw class error (half-decoded attributes inside), has a header length
    within the input, and BGPMessage.Serialize succeeds on it (Header.Len is set, so the size cap is not even
    consulted) with exactly the octets header ++ body. -/
theorem render_total (o : Opts) (bs : Bytes) (m : LMsg) (e : Option ErrH.MErr)
    (h : parseL o bs = .msg m e) :
    19 ≤ m.hlen ∧ m.hlen ≤ bs.length ∧
    serializeL o m = some (encHeader m.hlen m.typ ++ encBodyL o m.body) :=
  PTotL.render_total h

/-- the same for the strict parser -/
theorem render_total_strict (o : Opts) (bs : Bytes) (m : Msg) (h : parse o bs = .ok m) :
    19 ≤ m.hlen ∧ m.hlen ≤ bs.length ∧
    ∃ m', serialize o m = some (encHeader m.hlen m.typ ++ encBody o m.body, m') ∧
      m'.hlen = m.hlen ∧ m'.typ = m.typ :=
  PTotL.render_total_strict h

/-- an error that accompanies a returned message is never of the session-reset class (those return no
    usable message) and never "none" -/
theorem nonfatal_error_class (o : Opts) (bs : Bytes) (m : LMsg) (e : ErrH.MErr)
    (h : parseL o bs = .msg m (some e)) : e.h ≠ .reset ∧ e.h ≠ .none := by
  obtain ⟨_, _, hb⟩ := PTotL.parseL_msg h
  rcases hb with ⟨u, _, hd⟩ | ⟨b, _, he, _⟩
  · obtain ⟨d2, d4, _, _, _, ha, _⟩ := PTotL.decUpdateL_ok hd
    exact PTotL.decAttrsL_mild ha nofun e rfl
  · cases he

/-- `PathAttribute.Len()` of anything in the returned list is at least the 3-octet header: the loop that
    walks a returned attribute list by `Len()` always advances -/
theorem attr_len_positive (a : LAttr) : 3 ≤ a.len := PTotL.lattrLen_ge a

/-- non-vacuity: an UPDATE whose ORIGIN has length 2 comes back with the half-decoded attribute and a
    treat-as-withdraw error, and serialises -/
example : parseL ⟨false, false, false, false⟩
      (List.replicate 16 255 ++ [0, 28, 2, 0, 0, 0, 5, 64, 1, 2, 0, 0]) =
    .msg ⟨28, 2, .update ⟨0, [], 5, [.half 64 1 2], []⟩⟩ (some ⟨3, 1, .withdraw⟩) := rfl

/-! ## 5. The receive path reads exactly the declared message, bounded by the negotiated maximum -/

theorem maxLen_eq (o : Opts) (t : Nat) :
    maxLen o t = if o.ext = true ∧ (t = 2 ∨ t = 3 ∨ t = 5) then 65535 else 4096 := by
  unfold maxLen
  simp only [Bool.and_eq_true, Bool.or_eq_true, decide_eq_true_eq, or_assoc]

/-- **recv_bounded** — after a header that `recvMessageWithError` accepts, the number of further octets read
    is `Header.Len - 19`, and the whole message is at most 4096 octets — 65535 only for UPDATE / NOTIFICATION /
    ROUTE-REFRESH once the extended-message capability is negotiated. -/
theorem recv_bounded (ext : Bool) (hdr : Bytes) (n : Nat) (h : recvBodyLen ext hdr = some n) :
    n + 19 = rd16 (hdr.drop 16) ∧
    n + 19 ≤ (if ext = true ∧ (hdr.getD 18 0 = 2 ∨ hdr.getD 18 0 = 3 ∨ hdr.getD 18 0 = 5) then 65535 else 4096) := by
  revert h
  fun_cases recvBodyLen ext hdr
  all_goals intro h
  case case5 len h19 hmax =>
    cases h
    rw [maxLen_eq] at hmax
    dsimp only at hmax
    exact ⟨Nat.sub_add_cancel (Nat.le_of_not_lt h19), by omega⟩
  all_goals cases h

example : recvBodyLen true (List.replicate 16 255 ++ [255, 255, 2]) = some 65516 := by decide
example : recvBodyLen false (List.replicate 16 255 ++ [16, 1, 2]) = none := by decide
example : recvBodyLen true (List.replicate 16 255 ++ [16, 1, 4]) = none := by decide

/-! ## 6. The bound used is the bound negotiated by the CURRENT session, whatever happened before -/

/-- **session_flag_current** — for every initial value of the flag and every history of earlier sessions on
    the same fsm (with or without Extended Message, 4-octet AS, …), after the current session is established
    the flag is exactly what the current OPEN negotiates. -/
theorem session_flag_current (init : Bool) (hist : List Open) (cur : Open) :
    extAfter init (hist ++ [cur]) = sessionExt cur := by
  induction hist generalizing init with
  | nil => rfl
  | cons o rest ih => exact ih (sessionExt o)

/-- **recv_bound_follows_session** — the receive path of the current session admits a message of more than
    4096 octets only if THIS session's peer OPEN carries the Extended Message capability (and the type is
    UPDATE / NOTIFICATION / ROUTE-REFRESH), for every session history. -/
theorem recv_bound_follows_session (init : Bool) (hist : List Open) (cur : Open) (hdr : Bytes) (n : Nat)
    (h : recvBodyLenSess init hist cur hdr = some n) :
    n + 19 ≤ (if sessionExt cur = true ∧ (hdr.getD 18 0 = 2 ∨ hdr.getD 18 0 = 3 ∨ hdr.getD 18 0 = 5)
              then 65535 else 4096) := by
  unfold recvBodyLenSess at h
  rw [session_flag_current] at h
  exact (recv_bounded (sessionExt cur) hdr n h).2

/-- and it does not depend on the history at all -/
theorem recv_history_irrelevant (i1 i2 : Bool) (h1 h2 : List Open) (cur : Open) (hdr : Bytes) :
    recvBodyLenSess i1 h1 cur hdr = recvBodyLenSess i2 h2 cur hdr := by
  unfold recvBodyLenSess; rw [session_flag_current, session_flag_current]

/-- non-vacuity: a session with Extended Message followed by an old speaker (no 4-octet AS, no Extended
    Message): a 5000-octet UPDATE header is refused, a 4096-octet one is read -/
example :
    let s1 : Open := ⟨4, 23456, 90, 1, 0, [.caps 2 12 [⟨1, 4, [1, 1]⟩, ⟨65, 4, [65002]⟩, ⟨6, 0, []⟩]]⟩
    let s2 : Open := ⟨4, 65002, 90, 1, 0, [.caps 2 6 [⟨1, 4, [1, 1]⟩]]⟩
    sessionExt s1 = true ∧ sessionExt s2 = false ∧
    recvBodyLenSess false [s1] s2 (List.replicate 16 255 ++ [19, 136, 2]) = none ∧
    recvBodyLenSess false [s1] s2 (List.replicate 16 255 ++ [16, 0, 2]) = some 4077 ∧
    recvBodyLenSess false [s2] s1 (List.replicate 16 255 ++ [19, 136, 2]) = some 4981 := by decide

end C05
