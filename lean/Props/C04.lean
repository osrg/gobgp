import Lemmas.WireMP
/-!
# C04 — BGP wire codec: encode and decode are mutually inverse and agree on framing

The first part is about `Model/Wire.lean`, the hand-written mirror of gobgp's codec for:
the 19-octet header, KEEPALIVE, NOTIFICATION, ROUTE-REFRESH, UPDATE framing with IPv4 prefixes
(with / without ADD-PATH path ids), the attribute header with the extended-length rule and the flag
validation, ORIGIN, AS_PATH (2- and 4-octet), NEXT_HOP, MED, LOCAL_PREF, ATOMIC_AGGREGATE, AGGREGATOR,
COMMUNITIES, ORIGINATOR_ID, CLUSTER_LIST, AS4_PATH, AS4_AGGREGATOR, LARGE_COMMUNITY and unknown
attributes, under the options {ADD-PATH rx/tx for IPv4 unicast, 2-octet AS, extended message}.
MP_REACH/MP_UNREACH with the families of `Model/WireMP.lean` follow in the second part.
OPEN/capabilities and all other families/attributes (the EXTENDED_COMMUNITIES value apart,
`Props/C04Ext.lean`) are NOT in the model: for those only the Go-side round-trip oracle of the harness
runs (sampling, `correspondence_only`).

`serialize` returns the octets AND the object as `BGPMessage.Serialize` leaves it (it fills in
Header.Len, WithdrawnRoutesLen, TotalPathAttributeLen); `parse` is `ParseBGPMessage`.
-/
namespace C04
open Wire

/-- Well-formed message: the explicit side conditions under which the codec round-trips.
    * every IPv4 prefix is masked, ≤ 32 bits, path id < 2^32 and 0 when ADD-PATH is off;
    * every attribute: cached Flags/Type/Length agree with the value (`Length = |value| < 2^16`,
      extended-length flag set when `Length > 255`), flags acceptable to validatePathAttributeFlags,
      type code matches the Go type, numeric fields in range, AS segments of 1..255 ASes whose
      width matches the session (4-octet unless Use2ByteAS), segment type 1..4;
    * withdrawn block and attribute block each < 2^16 octets;
    * Header.Len is 0 (to be computed) or already the true length. -/
def MsgWF (o : Opts) (m : Msg) : Prop :=
  m.typ < 256 ∧ BodyWF o m.typ m.body ∧
  (m.hlen = 0 ∨ (m.hlen = 19 + (encBody o m.body).length ∧ m.hlen < 65536))

/-- `fits_or_error`: BGPMessage.Serialize fails exactly when it has to compute the length and the
    message exceeds 4096 octets (65535 for UPDATE / NOTIFICATION / ROUTE-REFRESH with the
    extended-message option). -/
theorem fits_or_error (o : Opts) (m : Msg) :
    serialize o m = none ↔ (m.hlen = 0 ∧ 19 + (encBody o m.body).length > maxLen o m.typ) := by
  unfold serialize
  by_cases h0 : m.hlen = 0
  · by_cases h1 : 19 + (encBody o m.body).length > maxLen o m.typ <;> simp [h0, h1]
  · simp [h0]

theorem maxLen_le (o : Opts) (t : Nat) : maxLen o t ≤ 65535 := by
  unfold maxLen; split <;> omega

/-- what Serialize does to the object: Header.Len and the two UPDATE length fields are filled in -/
theorem serialize_object {o : Opts} {m m' : Msg} {bs : Bytes} (h : serialize o m = some (bs, m')) :
    m'.typ = m.typ ∧ m'.body = normBody o m.body ∧
    bs = encHeader m'.hlen m.typ ++ encBody o m.body ∧
    (m.hlen = 0 → m'.hlen = 19 + (encBody o m.body).length ∧ m'.hlen ≤ maxLen o m.typ) ∧
    (m.hlen ≠ 0 → m'.hlen = m.hlen) := by
  unfold serialize at h
  by_cases h0 : m.hlen = 0
  · by_cases h1 : 19 + (encBody o m.body).length > maxLen o m.typ
    · simp [h0, h1] at h
    · simp [h0, h1] at h
      obtain ⟨hb, hm⟩ := h
      subst hm; subst hb
      simp; omega
  · simp [h0] at h
    obtain ⟨hb, hm⟩ := h
    subst hm; subst hb
    simp [h0]

theorem serialize_hlen {o : Opts} {m m' : Msg} {bs : Bytes} (wf : MsgWF o m)
    (hs : serialize o m = some (bs, m')) : m'.hlen = 19 + (encBody o m.body).length := by
  obtain ⟨_, _, _, e4, e5⟩ := serialize_object hs
  by_cases h0 : m.hlen = 0
  · exact (e4 h0).1
  · rw [e5 h0]; exact (wf.2.2.resolve_left h0).1

/-- **decode_encode** — for every option set with matching ADD-PATH send/receive bits and every
    well-formed message, the octets `Serialize` emits (followed by anything, e.g. the next message
    in the stream) parse back to exactly the object `Serialize` left behind. -/
theorem decode_encode (o : Opts) (m m' : Msg) (bs trailing : Bytes)
    (hap : o.apRx = o.apTx) (wf : MsgWF o m) (hs : serialize o m = some (bs, m'))
    (h64 : (bs ++ trailing).length < 65536) :
    parse o (bs ++ trailing) = .ok m' := by
  obtain ⟨e1, e2, e3, _, _⟩ := serialize_object hs
  subst e3
  rw [parse_enc (serialize_hlen wf hs) h64 wf.1, decBody_enc hap wf.2.1, ← e1, ← e2]

/-- Serialising the object that `Serialize` left behind gives the same octets and changes nothing:
    `encode ∘ decode ∘ encode = encode` (with `decode_encode`: re-serialising the parsed message is
    a fixpoint). -/
theorem encode_decode_fix (o : Opts) (m m' : Msg) (bs : Bytes) (wf : MsgWF o m)
    (hs : serialize o m = some (bs, m')) : serialize o m' = some (bs, m') := by
  have hne : m'.hlen ≠ 0 := by rw [serialize_hlen wf hs, Nat.add_comm]; exact Nat.succ_ne_zero _
  have hbody : encBody o (normBody o m.body) = encBody o m.body := by cases m.body <;> rfl
  have hnn : normBody o (normBody o m.body) = normBody o m.body := by cases m.body <;> rfl
  obtain ⟨e1, e2, e3, _, _⟩ := serialize_object hs
  obtain ⟨hlen', typ', body'⟩ := m'
  dsimp only at e1 e2 e3 hne
  subst e1 e2
  rw [serialize, if_neg hne, hbody, hnn, e3]

/-- **len_eq_emit** (attributes): `PathAttribute.Len()` (derived from the cached header) equals
    the number of octets `Serialize` emits. -/
theorem len_eq_emit_attr (o : Opts) (a : Attr) (wf : AttrWF o a) : attrLen a = (encAttr a).length :=
  (encAttr_length wf).symm

/-- **len_eq_emit** (IPv4 NLRI, with or without path id) -/
theorem len_eq_emit_nlri (ap : Bool) (n : PathNLRI) (wf : NlriWF ap n) :
    nlriLen ap n = (encNlri ap n).length := (encNlri_length wf).symm

/-- **decode_consumes_len** (attributes): decoding an attribute that is followed by arbitrary
    octets yields the attribute, and advancing by its `Len()` lands exactly on those octets. -/
theorem decode_consumes_len_attr (o : Opts) (a : Attr) (rest : Bytes) (wf : AttrWF o a) :
    decAttr o (encAttr a ++ rest) = .ok a ∧ (encAttr a ++ rest).drop (attrLen a) = rest :=
  ⟨decAttr_enc wf rest, List.drop_left' (encAttr_length wf)⟩

/-- **decode_consumes_len** (IPv4 prefix) -/
theorem decode_consumes_len_prefix (p : Prefix) (rest : Bytes) (wf : p.wf = true) :
    decPrefix (encPrefix p ++ rest) = some p ∧ (encPrefix p ++ rest).drop (prefixLen p) = rest :=
  ⟨decPrefix_encPrefix wf rest, List.drop_left' (encPrefix_length wf)⟩

/-- framing of a whole attribute block: the loop of BGPUpdate.DecodeFromBytes driven by the
    `pathlen` counter recovers the list and stops exactly at the NLRI field -/
theorem attrs_framing (o : Opts) (as : List Attr) (rest : Bytes) (wf : ∀ a ∈ as, AttrWF o a)
    (h : (encAttrs as).length < 65536) :
    decAttrs o (encAttrs as).length (encAttrs as).length (encAttrs as ++ rest) = .ok (as, rest) :=
  decAttrs_enc o as _ rest wf (Nat.le_refl _) h


/-! ## What the library's constructors build is well-formed (under the stated argument bounds) -/

theorem mkSeg_wf (w4 : Bool) (typ : Nat) (as : List Nat) (ht : 1 ≤ typ ∧ typ ≤ 4)
    (hl : 1 ≤ as.length ∧ as.length ≤ 255) (hb : ∀ a ∈ as, a < asBound w4) :
    SegWF w4 (mkSeg w4 typ as) :=
  ⟨rfl, ht.1, ht.2, Nat.mod_eq_of_lt (Nat.lt_succ_of_le hl.2), hl.1, hl.2, hb⟩

theorem mkOrigin_wf (o : Opts) (v : Nat) (h : v < 256) : AttrWF o (mkOrigin v) :=
  AttrWF.known (t := 1) (val := .origin v) rfl (by decide : 1 < 65536) ⟨rfl, h⟩

theorem mkAsPath_wf (o : Opts) (segs : List Seg) (h : ∀ s ∈ segs, SegWF (!o.use2) s)
    (hl : segsLen segs < 65536) : AttrWF o (mkAsPath segs) := by
  rw [← encSegs_length] at hl
  rw [mkAsPath, ← encSegs_length]
  exact AttrWF.known (t := 2) (val := .asPath segs) rfl hl ⟨rfl, h⟩

theorem mkAs4Path_wf (o : Opts) (segs : List Seg) (h : ∀ s ∈ segs, SegWF true s)
    (hl : segsLen segs < 65536) : AttrWF o (mkAs4Path segs) := by
  rw [← encSegs_length] at hl
  rw [mkAs4Path, ← encSegs_length]
  exact AttrWF.known (t := 17) (val := .as4Path segs) rfl hl ⟨rfl, h⟩

theorem mkNextHop_wf (o : Opts) (addr : Bytes) (h : addr.length = 4 ∨ addr.length = 16) :
    AttrWF o (mkNextHop addr) := by
  have hl : addr.length < 65536 := by rcases h with h | h <;> rw [h] <;> decide
  have := AttrWF.known (o := o) (t := 3) (val := .nextHop addr) rfl hl ⟨rfl, h⟩
  rcases h with h | h <;> rw [encVal, h] at this <;> rw [mkNextHop, h] <;> exact this

theorem mkMed_wf (o : Opts) (v : Nat) (h : v < 4294967296) : AttrWF o (mkMed v) :=
  AttrWF.known (t := 4) (val := .med v) rfl (by decide : 4 < 65536) ⟨rfl, h⟩

theorem mkLocalPref_wf (o : Opts) (v : Nat) (h : v < 4294967296) : AttrWF o (mkLocalPref v) :=
  AttrWF.known (t := 5) (val := .localPref v) rfl (by decide : 4 < 65536) ⟨rfl, h⟩

theorem mkAtomicAgg_wf (o : Opts) : AttrWF o mkAtomicAgg :=
  AttrWF.known (t := 6) (val := .atomicAgg) rfl (by decide : 0 < 65536) rfl

theorem mkAggregator_wf (o : Opts) (as4 : Bool) (as addr : Nat) (ha : as < asBound as4)
    (hd : addr < 4294967296) : AttrWF o (mkAggregator as4 as addr) := by
  cases as4
  · exact AttrWF.known (t := 7) (val := .aggregator false as addr) rfl (by decide : 6 < 65536) ⟨rfl, ha, hd⟩
  · exact AttrWF.known (t := 7) (val := .aggregator true as addr) rfl (by decide : 8 < 65536) ⟨rfl, ha, hd⟩

theorem mkAs4Aggregator_wf (o : Opts) (as addr : Nat) (ha : as < 4294967296)
    (hd : addr < 4294967296) : AttrWF o (mkAs4Aggregator as addr) :=
  AttrWF.known (t := 18) (val := .as4Aggregator as addr) rfl (by decide : 8 < 65536) ⟨rfl, ha, hd⟩

theorem mkOriginatorId_wf (o : Opts) (a : Nat) (h : a < 4294967296) : AttrWF o (mkOriginatorId a) :=
  AttrWF.known (t := 9) (val := .originatorId a) rfl (by decide : 4 < 65536) ⟨rfl, h⟩

theorem mkCommunities_wf (o : Opts) (vs : List Nat) (h : ∀ v ∈ vs, v < 4294967296)
    (hl : vs.length * 4 < 65536) : AttrWF o (mkCommunities vs) := by
  rw [← encU32s_length] at hl
  rw [mkCommunities, ← encU32s_length]
  exact AttrWF.known (t := 8) (val := .communities vs) rfl hl ⟨rfl, h⟩

theorem mkClusterList_wf (o : Opts) (vs : List Nat) (h : ∀ v ∈ vs, v < 4294967296)
    (hl : vs.length * 4 < 65536) : AttrWF o (mkClusterList vs) := by
  rw [← encU32s_length] at hl
  rw [mkClusterList, ← encU32s_length]
  exact AttrWF.known (t := 10) (val := .clusterList vs) rfl hl ⟨rfl, h⟩

theorem mkLargeComm_wf (o : Opts) (vs : List (Nat × Nat × Nat)) (h : ∀ v ∈ vs, TripleWF v)
    (hl : vs.length * 12 < 65536) : AttrWF o (mkLargeComm vs) := by
  rw [← encLarge_length] at hl
  rw [mkLargeComm, ← encLarge_length]
  exact AttrWF.known (t := 32) (val := .largeComm vs) rfl hl ⟨rfl, h⟩

/-- NewPathAttributeUnknown: any type code no decoder claims, any flag octet the validator accepts -/
theorem mkUnknown_wf (o : Opts) (flags typ : Nat) (value : Bytes) (hf : flags < 256) (ht : typ < 256)
    (hu : pathAttrFlags typ = none) (hl : value.length < 65536)
    (hv : validateFlags typ flags = true) : AttrWF o (mkUnknown flags typ value) :=
  .of_hdr ht (hdrWF_unknown hf hu hl hv) hu

/-- NewBGPUpdateMessage / NewBGPNotificationMessage / NewBGPKeepAliveMessage /
    NewBGPRouteRefreshMessage build well-formed messages from well-formed parts -/
theorem mkUpdate_wf (o : Opts) (w : List PathNLRI) (as : List Attr) (n : List PathNLRI)
    (h : UpdateWF o ⟨0, w, 0, as, n⟩) : MsgWF o (mkUpdate w as n) :=
  ⟨(by decide : 2 < 256), ⟨rfl, h⟩, Or.inl rfl⟩

theorem mkNotification_wf (o : Opts) (c s : Nat) (d : Bytes) (hc : c < 256) (hs : s < 256) :
    MsgWF o (mkNotification c s d) := ⟨(by decide : 3 < 256), ⟨rfl, hc, hs⟩, Or.inl rfl⟩

theorem mkKeepalive_wf (o : Opts) : MsgWF o mkKeepalive :=
  ⟨by decide, rfl, Or.inr ⟨rfl, by decide⟩⟩

theorem mkRouteRefresh_wf (o : Opts) (afi d s : Nat) (ha : afi < 65536) (hd : d < 256) (hs : s < 256) :
    MsgWF o (mkRouteRefresh afi d s) := ⟨(by decide : 5 < 256), ⟨rfl, ha, hd, hs⟩, Or.inl rfl⟩


instance (ap : Bool) (n : PathNLRI) : Decidable (NlriWF ap n) :=
  inferInstanceAs (Decidable (n.pfx.wf = true ∧ n.id < 4294967296 ∧ (ap = false → n.id = 0)))
instance (t : Nat × Nat × Nat) : Decidable (TripleWF t) :=
  inferInstanceAs (Decidable (t.1 < 4294967296 ∧ t.2.1 < 4294967296 ∧ t.2.2 < 4294967296))
instance (w4 : Bool) (s : Seg) : Decidable (SegWF w4 s) :=
  inferInstanceAs (Decidable (s.w4 = w4 ∧ 1 ≤ s.typ ∧ s.typ ≤ 4 ∧ s.num = s.as.length ∧
    1 ≤ s.as.length ∧ s.as.length ≤ 255 ∧ ∀ a ∈ s.as, a < asBound w4))
instance (o : Opts) (typ : Nat) : (v : AttrVal) → Decidable (ValWF o typ v)
  | .origin v => inferInstanceAs (Decidable (typ = 1 ∧ v < 256))
  | .asPath segs => inferInstanceAs (Decidable (typ = 2 ∧ ∀ s ∈ segs, SegWF (!o.use2) s))
  | .nextHop a => inferInstanceAs (Decidable (typ = 3 ∧ (a.length = 4 ∨ a.length = 16)))
  | .med v => inferInstanceAs (Decidable (typ = 4 ∧ v < 4294967296))
  | .localPref v => inferInstanceAs (Decidable (typ = 5 ∧ v < 4294967296))
  | .atomicAgg => inferInstanceAs (Decidable (typ = 6))
  | .aggregator as4 as addr => inferInstanceAs (Decidable (typ = 7 ∧ as < asBound as4 ∧ addr < 4294967296))
  | .communities vs => inferInstanceAs (Decidable (typ = 8 ∧ ∀ v ∈ vs, v < 4294967296))
  | .originatorId a => inferInstanceAs (Decidable (typ = 9 ∧ a < 4294967296))
  | .clusterList ids => inferInstanceAs (Decidable (typ = 10 ∧ ∀ v ∈ ids, v < 4294967296))
  | .as4Path segs => inferInstanceAs (Decidable (typ = 17 ∧ ∀ s ∈ segs, SegWF true s))
  | .as4Aggregator as addr => inferInstanceAs (Decidable (typ = 18 ∧ as < 4294967296 ∧ addr < 4294967296))
  | .largeComm vs => inferInstanceAs (Decidable (typ = 32 ∧ ∀ v ∈ vs, TripleWF v))
  | .unknown _ => inferInstanceAs (Decidable (pathAttrFlags typ = none))
instance (o : Opts) (a : Attr) : Decidable (AttrWF o a) :=
  inferInstanceAs (Decidable (a.flags < 256 ∧ a.typ < 256 ∧ a.length = (encVal a.val).length ∧
    a.length < 65536 ∧ (hasBit a.flags FLAG_EXT = true ∨ a.length ≤ 255) ∧
    validateFlags a.typ a.flags = true ∧ ValWF o a.typ a.val))
instance (o : Opts) (u : Update) : Decidable (UpdateWF o u) :=
  inferInstanceAs (Decidable ((∀ n ∈ u.withdrawn, NlriWF o.apTx n) ∧ (∀ n ∈ u.nlri, NlriWF o.apTx n) ∧
    (∀ a ∈ u.attrs, AttrWF o a) ∧
    (encNlris o.apTx u.withdrawn).length < 65536 ∧ (encAttrs u.attrs).length < 65536))
instance (o : Opts) (typ : Nat) : (b : Body) → Decidable (BodyWF o typ b)
  | .update u => inferInstanceAs (Decidable (typ = 2 ∧ UpdateWF o u))
  | .notification c s _ => inferInstanceAs (Decidable (typ = 3 ∧ c < 256 ∧ s < 256))
  | .keepalive => inferInstanceAs (Decidable (typ = 4))
  | .routeRefresh afi d s => inferInstanceAs (Decidable (typ = 5 ∧ afi < 65536 ∧ d < 256 ∧ s < 256))
  | .openRaw _ => inferInstanceAs (Decidable False)
instance (o : Opts) (m : Msg) : Decidable (MsgWF o m) :=
  inferInstanceAs (Decidable (m.typ < 256 ∧ BodyWF o m.typ m.body ∧
    (m.hlen = 0 ∨ (m.hlen = 19 + (encBody o m.body).length ∧ m.hlen < 65536))))

/-! ## Non-vacuity: a non-trivial inhabitant of every hypothesis -/

set_option maxRecDepth 20000

/-- ADD-PATH both ways, 4-octet AS, extended message -/
def exOpts : Opts := ⟨true, true, false, true⟩

/-- withdraw 10.1.2.0/24 (id 7); announce 10.0.0.1/32 (id 1) and 172.16.0.0/12 (id 2) with ORIGIN,
    a two-segment 4-octet AS_PATH, NEXT_HOP, MED, AGGREGATOR, COMMUNITIES, LARGE_COMMUNITY and an
    unknown optional transitive attribute carrying the partial bit -/
def exMsg : Msg :=
  mkUpdate [⟨7, ⟨24, [10, 1, 2, 0]⟩⟩]
    [mkOrigin 0, mkAsPath [mkSeg true 2 [65001, 4200000000], mkSeg true 1 [64512]],
     mkNextHop [192, 0, 2, 1], mkMed 4294967295, mkAggregator true 4200000000 3232235777,
     mkCommunities [4259840100, 4294967041], mkLargeComm [(4200000000, 1, 2)],
     mkUnknown 224 200 [1, 2, 3]]
    [⟨1, ⟨32, [10, 0, 0, 1]⟩⟩, ⟨2, ⟨12, [172, 16, 0, 0]⟩⟩]

example : MsgWF exOpts exMsg := by decide
example : exOpts.apRx = exOpts.apTx := rfl
example : ∃ bs m', serialize exOpts exMsg = some (bs, m') ∧ (bs ++ [255, 255]).length < 65536 ∧
    parse exOpts (bs ++ [255, 255]) = .ok m' ∧ m'.hlen = bs.length := by
  refine ⟨_, _, rfl, by decide, by decide, by decide⟩
example : AttrWF exOpts (mkCommunities [4259840100, 4294967041]) := by decide
example : NlriWF true ⟨7, ⟨24, [10, 1, 2, 0]⟩⟩ := by decide
example : (⟨24, [10, 1, 2, 0]⟩ : Prefix).wf = true := by decide
example : ∀ a ∈ [mkOrigin 0, mkMed 5], AttrWF exOpts a := by decide
example : MsgWF exOpts (mkNotification 6 2 [1, 2]) ∧ MsgWF exOpts mkKeepalive ∧
    MsgWF exOpts (mkRouteRefresh 2 0 1) := by decide

/-! ## Where well-formedness is needed: constructible objects outside `MsgWF` do not round-trip.
    These are argument errors of the caller, not defects of the codec; they delimit the theorem. -/

/-- an AS_PATH segment with no AS (`NewAs4PathParam(2, nil)`) serialises, and the parser rejects it
    ("AS PATH segment has zero AS count") -/
theorem empty_segment_counterexample :
    ∃ bs m', serialize exOpts (mkUpdate [] [mkAsPath [mkSeg true 2 []]] []) = some (bs, m') ∧
      parse exOpts bs = .reject := ⟨_, _, rfl, by decide⟩

/-- different ADD-PATH send / receive bits: what is sent with path ids is parsed without them -/
theorem asymmetric_addpath_counterexample :
    ∃ bs m', serialize ⟨false, true, false, false⟩ (mkUpdate [] [] [⟨1, ⟨32, [10, 0, 0, 1]⟩⟩]) = some (bs, m') ∧
      parse ⟨false, true, false, false⟩ bs ≠ .ok m' := ⟨_, _, rfl, by decide⟩

/-- 4-octet segments sent on a 2-octet session (the caller forgot the AS4 down-conversion) -/
theorem as4_on_2octet_session_counterexample :
    ∃ bs m', serialize ⟨false, false, true, false⟩
        (mkUpdate [] [mkAsPath [mkSeg true 2 [65001]]] []) = some (bs, m') ∧
      parse ⟨false, false, true, false⟩ bs ≠ .ok m' := ⟨_, _, rfl, by decide⟩

/-- a stale cached header (Length 4, value of 8 octets): Len() ≠ octets emitted — why `AttrWF`
    demands `length = |value|` (gobgp: table.UpdatePathAttrs4ByteAs, reported under C14) -/
theorem stale_length_counterexample :
    attrLen ⟨192, 8, 4, .communities [1, 2]⟩ ≠ (encAttr ⟨192, 8, 4, .communities [1, 2]⟩).length := by
  decide


/-! # Multiprotocol part (Model/WireMP.lean)

MP_REACH_NLRI / MP_UNREACH_NLRI as attributes and the NLRI codecs of IPv4 / IPv6 ×
{unicast, multicast, labelled unicast, VPN, VPN multicast}: IPAddrPrefix of either width,
MPLSLabelStack, RouteDistinguisher types 0/1/2/unknown, LabeledIPAddrPrefix, LabeledVPNIPAddrPrefix,
the next-hop forms 4 / 16 / 32 and (SAFI 128) 12 / 24 / 48, the reserved octet, the NLRI loop
advanced by Len(), ADD-PATH per family.  All other families remain oracle-only. -/

/-- **decode ∘ encode, Len, consumption** for one NLRI of a modelled family (w = 4 or 16):
    decoding the octets Serialize emits, followed by anything (the next NLRI), gives the NLRI back;
    Len() is the number of octets emitted; advancing by Len() lands exactly on what follows. -/
theorem nlri_decode_encode (w : Nat) (hw : w ≤ 16) (n : NlriX) (rest : Bytes) (wf : NlriXWF w n) :
    decNlriX (kindOf n) w (encNlriX n ++ rest) = some n ∧
    nlriXLen n = (encNlriX n).length ∧
    (encNlriX n ++ rest).drop (nlriXLen n) = rest :=
  ⟨decNlriX_enc hw wf rest, (encNlriX_length wf).symm, List.drop_left' (encNlriX_length wf)⟩

/-- label stacks: Serialize then Decode is the identity on `LabelsWF`, and Len() = 3·depth octets -/
theorem labels_decode_encode (ls : List Nat) (rest : Bytes) (wf : LabelsWF ls) :
    decLabels true (encLabels ls ++ rest) = some ls ∧ (encLabels ls).length = labelsLen ls :=
  ⟨decLabels_enc wf rest, encLabels_length wf⟩

/-- route distinguishers of type 0, 1, 2 and of unknown type (6 opaque octets) -/
theorem rd_decode_encode (rd : RD) (rest : Bytes) (wf : RDWF rd) :
    decRD (encRD rd ++ rest) = rd ∧ (encRD rd).length = 8 := ⟨decRD_enc wf rest, encRD_length wf⟩

/-- **framing of the NLRI list** (the statement the seeded changes seeded/C04-C, seeded/C04-E
    violate): the loop of MP_REACH / MP_UNREACH, which advances by each decoded NLRI's Len() (+4 with
    ADD-PATH), recovers exactly the list, and the octets it walks over are the sum of those lengths. -/
theorem mp_nlri_framing (ap : Bool) (k : Kind) (w : Nat) (hw : w ≤ 16) (xs : List PathNlriX)
    (wf : ∀ x ∈ xs, PathNlriXWF ap k w x) :
    decNlriLoop ap k w (encPathNlrisX ap xs).length (encPathNlrisX ap xs) = some xs ∧
    (encPathNlrisX ap xs).length = sumPathLens ap xs :=
  ⟨decNlriLoop_enc hw xs _ wf (Nat.le_refl _), encPathNlrisX_length xs wf⟩

/-- **MP_REACH_NLRI**: decode ∘ encode (followed by arbitrary octets), Len() = octets emitted =
    octets consumed -/
theorem mp_reach_decode_encode (o : OptsX) (r : MpReach) (rest : Bytes) (wf : MpReachWF o r) :
    decAttrX o (encMpReach o r ++ rest) = .ok (.reach r) ∧
    attrXLen (.reach r) = (encMpReach o r).length ∧
    (encMpReach o r ++ rest).drop (attrXLen (.reach r)) = rest :=
  have hl : (encMpReach o r).length = attrXLen (.reach r) :=
    encAttrHdr_length (typ := 14) (by decide) wf.2.2.2.2.2
  ⟨decAttrX_encMpReach wf rest, hl.symm, List.drop_left' hl⟩

/-- **MP_UNREACH_NLRI**: the same three facts -/
theorem mp_unreach_decode_encode (o : OptsX) (u : MpUnreach) (rest : Bytes) (wf : MpUnreachWF o u) :
    decAttrX o (encMpUnreach o u ++ rest) = .ok (.unreach u) ∧
    attrXLen (.unreach u) = (encMpUnreach o u).length ∧
    (encMpUnreach o u ++ rest).drop (attrXLen (.unreach u)) = rest :=
  have hl : (encMpUnreach o u).length = attrXLen (.unreach u) :=
    encAttrHdr_length (typ := 15) (by decide) wf.2.2.2.2
  ⟨decAttrX_encMpUnreach wf rest, hl.symm, List.drop_left' hl⟩

/-- **attribute length field**: a well-formed MP_REACH attribute carries `Length` = value length and
    the extended-length flag whenever that exceeds 255 (the `HdrWF` part of `MpReachWF`, read off) -/
theorem mp_length_field (o : OptsX) (r : MpReach) (wf : MpReachWF o r) :
    r.length = (encMpReachVal o r).length ∧ (r.length > 255 → hasBit r.flags FLAG_EXT = true) := by
  obtain ⟨_, _, _, _, _, _, hl, _, he, _⟩ := wf
  refine ⟨hl, fun hgt => ?_⟩
  rcases he with he | he
  · exact he
  · omega

/-- the part of the next hop field: Serialize then Decode is the identity on `NexthopWF`
    (IPv4; IPv6 global; global + link-local; each with the zero RD for SAFI 128) -/
theorem mp_nexthop_roundtrip (afi safi : Nat) (nh ll : Bytes) (wf : NexthopWF afi nh ll)
    (hs : safi ≠ 133 ∧ safi ≠ 134) :
    decNexthop safi (encNexthop afi safi nh ll).length (encNexthop afi safi nh ll) = some (nh, ll) :=
  (nexthop_roundtrip wf hs).2.2

theorem sumPathLens_false : ∀ xs : List PathNlriX, sumPathLens false xs = sumLens xs
  | [] => rfl
  | x :: xs => by simp [sumPathLens, sumLens, pathNlriXLen, sumPathLens_false xs]

/-- NewPathAttributeMpUnreachNLRI builds a well-formed attribute when ADD-PATH is off for the family
    (with ADD-PATH the cached length omits the path ids: `mp_addpath_len_counterexample`) -/
theorem mkMpUnreach_wf (o : OptsX) (afi safi : Nat) (k : Kind) (w : Nat) (xs : List PathNlriX)
    (ha : afi < 65536) (hs : safi < 256) (hk : famKind afi safi = some (k, w))
    (hrx : apRxFor o afi safi = false) (htx : apTxFor o afi safi = false)
    (hx : ∀ x ∈ xs, PathNlriXWF false k w x) (hl : 3 + sumLens xs < 65536) :
    MpUnreachWF o (mkMpUnreach afi safi xs) := by
  have hv : (encMpUnreachVal o (mkMpUnreach afi safi xs)).length = 3 + sumLens xs := by
    rw [encMpUnreachVal_length, ← sumPathLens_false, ← encPathNlrisX_length xs hx,
      ← htx]; rfl
  have hh := hdrWF_known (t := 15) (v := encMpUnreachVal o (mkMpUnreach afi safi xs)) rfl (hv ▸ hl)
  rw [hv] at hh
  exact ⟨ha, hs, hrx.trans htx.symm, ⟨k, w, hk, htx.symm ▸ hx⟩, hh⟩

theorem mkMpReach_fields {afi safi : Nat} {nh ll : Bytes} (xs : List PathNlriX)
    (h : NexthopWF afi nh ll) (hs : safi ≠ 133 ∧ safi ≠ 134) :
    mkMpReach afi safi xs nh ll =
      ⟨getPathAttrFlags 14 (5 + (encNexthop afi safi nh ll).length + sumLens xs),
       (5 + (encNexthop afi safi nh ll).length + sumLens xs) % 65536, afi, safi, nh, ll, xs⟩ := by
  have hs' : ¬ (safi = 133 ∨ safi = 134) := not_or.mpr hs
  rw [encNexthop_eq h hs, mkMpReach]
  rcases h with ⟨h4, ha, rfl⟩ | ⟨h16, rfl | ⟨hl, hll⟩⟩
  · simp [h4, ha, hs', nhPad_length]
  · simp [h16, hs', nhPad_length, isLinkLocal_nil]
  · have hne : ll ≠ [] := fun e => by rw [e] at hl; cases hl
    by_cases hv : safi = 128 <;> simp [h16, hl, hll, hs', nhPad_length, hne, hv]

/-- NewPathAttributeMpReachNLRI builds a well-formed attribute (cached Length = value length,
    extended-length flag iff > 255) for every next-hop form, when ADD-PATH is off for the family -/
theorem mkMpReach_wf (o : OptsX) (afi safi : Nat) (k : Kind) (w : Nat) (xs : List PathNlriX)
    (nh ll : Bytes) (ha : afi < 65536) (hs : safi < 256) (hk : famKind afi safi = some (k, w))
    (hrx : apRxFor o afi safi = false) (htx : apTxFor o afi safi = false)
    (hnh : NexthopWF afi nh ll) (hx : ∀ x ∈ xs, PathNlriXWF false k w x)
    (hl : 5 + (encNexthop afi safi nh ll).length + sumLens xs < 65536) :
    MpReachWF o (mkMpReach afi safi xs nh ll) := by
  have hfw := famKind_w hk
  rw [mkMpReach_fields xs hnh hfw.2]
  have hv : (encMpReachVal o ⟨0, 0, afi, safi, nh, ll, xs⟩).length =
      5 + (encNexthop afi safi nh ll).length + sumLens xs := by
    rw [encMpReachVal_length, ← sumPathLens_false, ← encPathNlrisX_length xs hx, ← htx]
  have hh := hdrWF_known (t := 14) (v := encMpReachVal o ⟨0, 0, afi, safi, nh, ll, xs⟩) rfl (hv ▸ hl)
  rw [hv] at hh
  exact ⟨ha, hs, hrx.trans htx.symm, hnh, ⟨k, w, hk, htx.symm ▸ hx⟩, hh⟩

instance (ls : List Nat) : Decidable (LabelsWF ls) :=
  inferInstanceAs (Decidable (ls = [WITHDRAW_LABEL] ∨
    (ls ≠ [] ∧ (∀ l ∈ ls, l < 1048576) ∧ ∀ l ∈ ls.dropLast, l ≠ 0 ∧ l ≠ 524288)))
instance : (rd : RD) → Decidable (RDWF rd)
  | .as2 a b => inferInstanceAs (Decidable (a < 65536 ∧ b < 4294967296))
  | .ip4 a b => inferInstanceAs (Decidable (a < 4294967296 ∧ b < 65536))
  | .as4 a b => inferInstanceAs (Decidable (a < 4294967296 ∧ b < 65536))
  | .unknown t v => inferInstanceAs (Decidable (3 ≤ t ∧ t < 65536 ∧ v.length = 6))
instance (w : Nat) : (n : NlriX) → Decidable (NlriXWF w n)
  | .ip p => inferInstanceAs (Decidable (p.wfW w = true))
  | .labelled ls p => inferInstanceAs (Decidable (LabelsWF ls ∧ p.wfW w = true ∧ 8 * labelsLen ls + p.bits ≤ 255))
  | .vpn ls rd p => inferInstanceAs (Decidable (LabelsWF ls ∧ RDWF rd ∧ p.wfW w = true ∧
      8 * (labelsLen ls + 8) + p.bits ≤ 255))
instance (ap : Bool) (k : Kind) (w : Nat) (x : PathNlriX) : Decidable (PathNlriXWF ap k w x) :=
  inferInstanceAs (Decidable (kindOf x.n = k ∧ NlriXWF w x.n ∧ x.id < 4294967296 ∧ (ap = false → x.id = 0)))
instance (afi : Nat) (nh ll : Bytes) : Decidable (NexthopWF afi nh ll) :=
  inferInstanceAs (Decidable ((nh.length = 4 ∧ afi ≠ 2 ∧ ll = []) ∨
    (nh.length = 16 ∧ (ll = [] ∨ (ll.length = 16 ∧ isLinkLocal ll = true)))))
instance (t f l : Nat) (v : Bytes) : Decidable (HdrWF t f l v) :=
  inferInstanceAs (Decidable (f < 256 ∧ l = v.length ∧ l < 65536 ∧
    (hasBit f FLAG_EXT = true ∨ l ≤ 255) ∧ validateFlags t f = true))

/-- decidability of "the family is modelled and every NLRI is well-formed for it" -/
def decFam (a s : Nat) (P : Kind → Nat → Prop) [∀ k w, Decidable (P k w)] :
    Decidable (∃ k w, famKind a s = some (k, w) ∧ P k w) :=
  match h : famKind a s with
  | some (k, w) =>
    if hp : P k w then isTrue ⟨k, w, rfl, hp⟩
    else isFalse (by
      rintro ⟨k', w', e, hp'⟩
      cases e
      exact hp hp')
  | none => isFalse (by rintro ⟨_, _, e, _⟩; cases e)

instance (o : OptsX) (u : MpUnreach) : Decidable (MpUnreachWF o u) :=
  have := decFam u.afi u.safi (fun k w => ∀ x ∈ u.nlri, PathNlriXWF (apTxFor o u.afi u.safi) k w x)
  inferInstanceAs (Decidable (u.afi < 65536 ∧ u.safi < 256 ∧ apRxFor o u.afi u.safi = apTxFor o u.afi u.safi ∧
    (∃ k w, famKind u.afi u.safi = some (k, w) ∧
      ∀ x ∈ u.nlri, PathNlriXWF (apTxFor o u.afi u.safi) k w x) ∧
    HdrWF 15 u.flags u.length (encMpUnreachVal o u)))
instance (o : OptsX) (r : MpReach) : Decidable (MpReachWF o r) :=
  have := decFam r.afi r.safi (fun k w => ∀ x ∈ r.nlri, PathNlriXWF (apTxFor o r.afi r.safi) k w x)
  inferInstanceAs (Decidable (r.afi < 65536 ∧ r.safi < 256 ∧ apRxFor o r.afi r.safi = apTxFor o r.afi r.safi ∧
    NexthopWF r.afi r.nh r.ll ∧
    (∃ k w, famKind r.afi r.safi = some (k, w) ∧
      ∀ x ∈ r.nlri, PathNlriXWF (apTxFor o r.afi r.safi) k w x) ∧
    HdrWF 14 r.flags r.length (encMpReachVal o r)))

/-- ADD-PATH both ways for VPNv6 -/
def exOptsX : OptsX := ⟨⟨false, false, false, true⟩, [⟨2, 128, true, true⟩]⟩
def exVpn6 : NlriX := .vpn [100, 1048575] (.as4 4200000000 7) ⟨64, [0x20, 1, 0xd, 0xb8, 0, 0, 0, 1, 0, 0, 0, 0, 0, 0, 0, 0]⟩
def exLab4 : NlriX := .labelled [16, 17, 0] ⟨23, [10, 1, 2, 0]⟩
/-- VPNv6 MP_REACH with global + link-local next hop (48 octets with the RDs), two NLRIs with path ids;
    its header is what a decoder reports for these octets -/
def exReach : MpReach :=
  ⟨128, 96, 2, 128, [0x20, 1, 0xd, 0xb8, 0, 0, 0, 0, 0, 0, 0, 0, 0, 0, 0, 1],
   [0xfe, 0x80, 0, 0, 0, 0, 0, 0, 0, 0, 0, 0, 0, 0, 0, 1],
   [⟨7, exVpn6⟩, ⟨4294967295, .vpn [8388608] (.unknown 9 [1, 2, 3, 4, 5, 6]) ⟨0, [0, 0, 0, 0, 0, 0, 0, 0, 0, 0, 0, 0, 0, 0, 0, 0]⟩⟩]⟩

example : NlriXWF 16 exVpn6 := by decide
example : NlriXWF 4 exLab4 := by decide
example : LabelsWF [8388608] ∧ LabelsWF [16, 0] ∧ RDWF (.ip4 3232235777 9) := by decide
example : MpReachWF exOptsX exReach := by decide
example : MpUnreachWF exOptsX (mkMpUnreach 1 4 [⟨0, exLab4⟩]) := by decide
example : ∃ k w, famKind 2 128 = some (k, w) ∧ w ≤ 16 ∧ ∀ x ∈ exReach.nlri, PathNlriXWF true k w x :=
  ⟨.vpn, 16, rfl, by decide, by decide⟩
example : NexthopWF 2 exReach.nh exReach.ll ∧ NexthopWF 1 [192, 0, 2, 1] [] := by decide

/-! ## where the codec is not canonical or the hypotheses are needed (proved on witnesses) -/

/-- `encode (decode bs) = bs` fails for a prefix with non-zero padding bits: 1.255…/7 is accepted,
    stored as 254.0.0.0/7 and re-emitted as 07 fe -/
theorem prefix_padding_counterexample :
    decPrefixW 4 [7, 255] = some ⟨7, [254, 0, 0, 0]⟩ ∧ encPrefix ⟨7, [254, 0, 0, 0]⟩ ≠ [7, 255] := by decide

/-- …and holds whenever the padding bits are clear (the decoder's masking is then the identity) -/
theorem prefix_canonical_partial (w l : Nat) (rest : Bytes) (p : Prefix) (hl : l < 256)
    (hd : decPrefixW w (l :: rest) = some p)
    (hclear : maskLast l (rest.take (byteLen l) ++ List.replicate (w - byteLen l) 0)
        = rest.take (byteLen l) ++ List.replicate (w - byteLen l) 0) :
    encPrefix p = l :: rest.take (byteLen l) := by
  simp only [decPrefixW, decodePrefixW] at hd
  by_cases c1 : rest.length < byteLen l
  · simp [c1] at hd
  · by_cases c2 : l > w * 8
    · simp [c1, c2] at hd
    · simp only [c1, c2, if_false, Option.some.injEq] at hd
      subst hd
      have hlen : (rest.take (byteLen l)).length = byteLen l := by
        simp [List.length_take]; omega
      simp only [encPrefix, hclear, Nat.mod_eq_of_lt hl, List.take_left' hlen]

/-- the all-zero label: 00 00 00 is read as the withdraw-label convention `[0]`, which Serialize
    emits as 00 00 01 — accepted input, different output -/
theorem label_zero_counterexample :
    decLabels true [0, 0, 0] = some [0] ∧ encLabels [0] = [0, 0, 1] ∧
    decLabels true [0, 0, 1] = some [0] := by decide

/-- label 0 above the bottom of the stack (known finding fam:label-0-above-bottom-of-stack):
    what is built does not come back -/
theorem label0_above_bottom_counterexample :
    decNlriX .labelled 4 (encNlriX (.labelled [0, 100] ⟨24, [10, 1, 2, 0]⟩)) ≠
      some (.labelled [0, 100] ⟨24, [10, 1, 2, 0]⟩) := by decide

/-- ADD-PATH (known finding fam:mp-attr-len-ignores-addpath): the constructor's cached length does
    not count the path identifiers, so Len() ≠ octets emitted and the attribute is not `MpReachWF` -/
theorem mp_addpath_len_counterexample :
    attrXLen (.reach (mkMpReach 2 1 [⟨1, .ip ⟨0, [0,0,0,0,0,0,0,0,0,0,0,0,0,0,0,0]⟩⟩]
        [0x20, 1, 0xd, 0xb8, 0, 0, 0, 0, 0, 0, 0, 0, 0, 0, 0, 1] [])) ≠
      (encMpReach ⟨⟨false, false, false, false⟩, [⟨2, 1, true, true⟩]⟩
        (mkMpReach 2 1 [⟨1, .ip ⟨0, [0,0,0,0,0,0,0,0,0,0,0,0,0,0,0,0]⟩⟩]
          [0x20, 1, 0xd, 0xb8, 0, 0, 0, 0, 0, 0, 0, 0, 0, 0, 0, 1] [])).length := by decide

/-- a 32-octet next hop whose second address is not link-local is accepted, kept, and dropped on
    re-serialisation (the next hop field shrinks to 16 octets) -/
theorem nexthop_not_linklocal_counterexample :
    decNexthop 1 32 (as16 [192, 0, 2, 1] ++ as16 [192, 0, 2, 2]) = some (as16 [192, 0, 2, 1], as16 [192, 0, 2, 2]) ∧
    (encNexthop 2 1 (as16 [192, 0, 2, 1]) (as16 [192, 0, 2, 2])).length = 16 := by decide


/-! ## Object history: what a Serialize leaves behind

`serialize` returns the object as BGPMessage.Serialize leaves it.  A refused Serialize returns no
object at all, i.e. leaves the message untouched — the harness replays "refused → retry" and
"refused → trim → serialise" on the real code against this (driver command `enc2`, finding class
history:after-refused-serialize of zz_verif_c04_hist_test.go).  After a SUCCESSFUL Serialize the cached
Header.Len is reused (known finding history:header-len-cached-by-success): -/

/-- a message built fresh (Header.Len = 0) is encoded as a function of its value and the options
    only: header length = 19 + body, and the cap applies -/
theorem fresh_serialize_value_only (o : Opts) (m : Msg) (bs : Bytes) (m' : Msg) (h0 : m.hlen = 0)
    (hs : serialize o m = some (bs, m')) :
    bs = encHeader (19 + (encBody o m.body).length) m.typ ++ encBody o m.body ∧
    19 + (encBody o m.body).length ≤ maxLen o m.typ := by
  obtain ⟨_, _, e3, e4, _⟩ := serialize_object hs
  obtain ⟨hl, hc⟩ := e4 h0
  rw [hl] at e3
  exact ⟨e3, by omega⟩

/-- the known finding, on the model: serialise, drop the NLRI, serialise again — the header still
    announces the old length (27 octets announced, 23 emitted) -/
theorem header_cache_counterexample :
    ∃ bs1 m1 bs2 m2,
      serialize ⟨false, false, false, false⟩ (mkUpdate [] [] [⟨0, ⟨24, [10, 1, 2, 0]⟩⟩]) = some (bs1, m1) ∧
      serialize ⟨false, false, false, false⟩
        { m1 with body := .update ⟨0, [], 0, [], []⟩ } = some (bs2, m2) ∧
      bs2.length = 23 ∧ rd16 (bs2.drop 16) = 27 := ⟨_, _, _, _, rfl, rfl, by decide, by decide⟩


/-- **End-of-RIB round trip.** For every modelled family and EVERY option set — whatever the ADD-PATH
    receive / send bits of the family are, equal or not — the attribute NewEndOfRib builds
    (MP_UNREACH_NLRI without a route) is emitted as 6 octets and decodes back to itself, also when
    other octets follow.  (The empty list is also inside the domain of `mp_unreach_decode_encode`;
    this statement drops its `apRx = apTx` hypothesis, which an empty list does not need.) -/
theorem end_of_rib_roundtrip (o : OptsX) (afi safi : Nat) (k : Kind) (w : Nat) (rest : Bytes)
    (ha : afi < 65536) (hs : safi < 256) (hk : famKind afi safi = some (k, w)) :
    decAttrX o (encMpUnreach o (mkMpUnreach afi safi []) ++ rest) = .ok (.unreach (mkMpUnreach afi safi [])) ∧
    (encMpUnreach o (mkMpUnreach afi safi [])).length = 6 ∧
    attrXLen (.unreach (mkMpUnreach afi safi [])) = 6 := by
  have hh : HdrWF 15 128 3 (encMpUnreachVal o ⟨128, 3, afi, safi, []⟩) :=
    ⟨by decide, rfl, by decide, .inr (by decide), by decide⟩
  exact ⟨decAttrX_unreach_of_val hh (decMpUnreachVal_of_loop ha hs hk rfl) rest,
    encAttrHdr_length (by decide) hh, (by decide : (if hasBit 128 FLAG_EXT then 4 else 3) + 3 = 6)⟩

example : MpUnreachWF exOptsX (mkMpUnreach 2 128 []) := by decide
example : MpUnreachWF ⟨⟨true, true, false, false⟩, []⟩ (mkMpUnreach 1 1 []) := by decide
example : ∃ k w, famKind 2 1 = some (k, w) := ⟨_, _, rfl⟩

end C04
