/-
C02, table level: the part of the property that says table summaries and exact / longer / shorter
lookups agree with the table's content, over a prefix pool that includes hash-colliding prefixes.

What is proved here is about `Model/Table.lean` (`namespace Tbl`), the hand-written mirror of
`internal/pkg/table/table.go`: the bucket structure `Destinations` (map tableKey → collision
chain), `Table.update` (getOrCreateDest / Calculate / deleteDest with the localIdMap guard),
`InsertUpdate` / `setDestination`, `Table.Select` for the IPv4/IPv6 unicast families and
`Table.Info`.  Every theorem is stated for an ARBITRARY hash function `h : Pfx → Nat`
(constant = everything collides, injective = nothing collides, anything in between), an arbitrary
destination content type `δ` with an arbitrary per-destination step (`DestOps`: what
`Calculate` does inside one destination is C02's destination-level part and C03), and every
history of updates / withdrawals / deletions from the empty table.

"Readers get snapshots": in this model every answer (`get`, `entries`, `select`, `info`, `bests`) is a
VALUE computed from the table at the time of asking, so an answer taken at time t is a function of
the content at time t only (`observations_depend_on_content_only`) and cannot change afterwards.  On
the Go side that is a property of the code (copies in `snapshot`, `Select`, `Calculate`), tied by
the harness oracle `c02t-handed-out-value-changed:<accessor>`: every value handed out by a reader
is kept over the following operations and must keep rendering as it did when it was handed out.

The tie between this model and the Go code is the correspondence run (`./check C02`, harness `table`), not a proof.
-/
import Lemmas.Table
import Lemmas.TableSel
import Lemmas.TableInfo
import Lemmas.TableAdj
import Lemmas.TableMp
import Lemmas.TableMpCalc

namespace C02T
open Tbl

variable {δ ρ : Type}

/-- **The bucket structure refines the finite map prefix → destination.**  After any history,
for any hash function: the representation invariant holds (map keys distinct, no empty bucket,
every chain member hashes to its bucket's key, no prefix twice in a chain) and the content read
off the iteration (`alookup`, which never looks at the hash) is the abstract map obtained by
replaying the history on `Pfx → Option δ` (`arun`: a destination disappears exactly when it is
empty AND the localIdMap guard allows deletion). -/
theorem table_refines_map (O : DestOps δ ρ) (h : Pfx → Nat) (ops : List (Pfx × ρ)) :
    WF h (run O h ops) ∧ ∀ p, alookup (run O h ops) p = arun O ops p := by
  refine ⟨run_wf O h ops, fun p => ?_⟩
  rw [← get_eq_alookup (run_wf O h ops) p]
  exact run_get O h ops p

/-- `Destinations.Get` / `GetDestination` = lookup in the abstract map -/
theorem get_is_map_lookup (O : DestOps δ ρ) (h : Pfx → Nat) (ops : List (Pfx × ρ)) (p : Pfx) :
    get h (run O h ops) p = arun O ops p :=
  run_get O h ops p

/-- … also when going through `getShard` (the 2048 shards) first -/
theorem get_sharded_is_map_lookup (O : DestOps δ ρ) (h : Pfx → Nat) (ops : List (Pfx × ρ)) (p : Pfx) :
    getSharded h (run O h ops) p = arun O ops p := by
  rw [getSharded_eq]; exact run_get O h ops p

/-- **No destination twice, none lost, none invented**: `iterateAllDestinations` /
`GetDestinations` lists every prefix at most once, and lists `(p, d)` iff the abstract map has
`p ↦ d`; the shard-by-shard walk of the Go loop is a permutation of the same list. -/
theorem iteration_exact (O : DestOps δ ρ) (h : Pfx → Nat) (ops : List (Pfx × ρ)) :
    ((entries (run O h ops)).map Prod.fst).Nodup ∧
    (∀ p d, (p, d) ∈ entries (run O h ops) ↔ arun O ops p = some d) ∧
    (entriesSharded (run O h ops)).Perm (entries (run O h ops)) := by
  have hw := run_wf O h ops
  refine ⟨entries_nodup hw, fun p d => ?_, entriesSharded_perm _⟩
  rw [mem_entries_iff hw, (table_refines_map O h ops).2]

/-- **The hash function, the chain order and the bucket order are irrelevant to the content**:
two hash functions (e.g. the real one and a constant one) give, after the same history, the same
answers to `Get` and the same set of destinations. -/
theorem hash_irrelevant (O : DestOps δ ρ) (h1 h2 : Pfx → Nat) (ops : List (Pfx × ρ)) :
    (∀ p, get h1 (run O h1 ops) p = get h2 (run O h2 ops) p) ∧
    (entries (run O h1 ops)).Perm (entries (run O h2 ops)) := by
  refine ⟨fun p => ?_, ?_⟩
  · rw [run_get, run_get]
  · apply entries_perm (run_wf O h1 ops) (run_wf O h2 ops)
    intro p
    rw [(table_refines_map O h1 ops).2, (table_refines_map O h2 ops).2]

/-- One step, pointwise: an update / withdrawal of `p` changes the content at `p` only — in
particular **the other members of `p`'s collision chain are untouched**, whether `p` is
created, changed, or deleted from the chain. -/
theorem update_touches_only_its_prefix (O : DestOps δ ρ) (h : Pfx → Nat) (t : Dests δ) (hw : WF h t)
    (p q : Pfx) (r : ρ) (hq : q ≠ p) :
    get h (update O h t p r) q = get h t q := by
  rw [get_update O hw p r q]
  exact if_neg hq

/-- … and at `p` itself the destination is the stepped one, removed iff it became empty and the
localIdMap guard permits ("only deleted when no id other than 0 is allocated"). -/
theorem update_at_its_prefix (O : DestOps δ ρ) (h : Pfx → Nat) (t : Dests δ) (hw : WF h t)
    (p : Pfx) (r : ρ) :
    get h (update O h t p r) p =
      (let d' := O.step ((get h t p).getD (O.fresh p)) r
       if O.isEmpty d' && O.deletable d' then none else some d') := by
  rw [get_update O hw p r p]
  exact if_pos rfl

/-- **Empty buckets are removed** (and the invariant survives every step, so it can be assumed
of any reachable table). -/
theorem no_empty_bucket (O : DestOps δ ρ) (h : Pfx → Nat) (ops : List (Pfx × ρ)) :
    ∀ kc ∈ run O h ops, kc.2 ≠ [] :=
  fun kc hk => ((run_wf O h ops).2 kc hk).1

theorem invariant_preserved (O : DestOps δ ρ) (h : Pfx → Nat) (t : Dests δ) (hw : WF h t)
    (p : Pfx) (r : ρ) : WF h (update O h t p r) :=
  wf_update O hw p r

/-- `setDestination` / `InsertUpdate` (result tables of `Select`, `NewTable(dsts...)`): map insert,
last one wins; the reported `collision` flag is exact. -/
theorem insertUpdate_is_map_insert (h : Pfx → Nat) (l : List (Pfx × δ)) (p : Pfx) :
    WF h (fromList h l) ∧ get h (fromList h l) p = afromList l p :=
  ⟨fromList_wf h l, fromList_get h l p⟩

theorem collision_flag_exact (h : Pfx → Nat) (t : Dests δ) (hw : WF h t) (e : Pfx × δ) :
    (insertUpdate h t e).2 = true ↔
      get h t e.1 = none ∧ ∃ q, h q = h e.1 ∧ (get h t q).isSome = true :=
  insertUpdate_collision hw e

/-! ### lookups: `Table.Select` -/

/-- **exact / longer / shorter / host-address lookups are the set-theoretic definitions on the
abstract map**, for any reachable table and any per-destination selection `sel`
(`destination.Select`: view, best, adj):

* exact `q`    : `{ q } ∩ dom`
* longer `q`   : `{ p ∈ dom | q covers p }`
* shorter `q`  : `{ p ∈ dom | p covers q }`  (every length from `q.len` down to 0, 0 included)
* host `a`     : the longest `p ∈ dom` covering `a` whose selection is not nil, and only that one

each restricted to the destinations whose selection is not nil, and each listed without
repetition. -/
theorem lookups_are_set_theoretic (O : DestOps δ ρ) (h : Pfx → Nat) (ops : List (Pfx × ρ))
    (sel : δ → Option δ) (q : Lookup × Pfx) (p : Pfx) (d' : δ) :
    (p, d') ∈ selQuery h (run O h ops) sel q ↔
      (match q.1 with
       | .exact => p = q.2 ∧ ∃ d, arun O ops p = some d ∧ sel d = some d'
       | .longer => q.2.covers p = true ∧ ∃ d, arun O ops p = some d ∧ sel d = some d'
       | .shorter => p.covers q.2 = true ∧ ∃ d, arun O ops p = some d ∧ sel d = some d'
       | .host => (p.covers q.2 = true ∧ ∃ d, arun O ops p = some d ∧ sel d = some d') ∧
           ∀ p' d'', p'.covers q.2 = true → (∃ d, arun O ops p' = some d ∧ sel d = some d'') →
             p'.len ≤ p.len) := by
  rw [mem_selQuery (run_wf O h ops)]
  unfold QuerySpec Selected
  rw [funext (table_refines_map O h ops).2]
  exact Iff.rfl

theorem lookups_list_no_prefix_twice (O : DestOps δ ρ) (h : Pfx → Nat) (ops : List (Pfx × ρ))
    (sel : δ → Option δ) (q : Pfx) :
    ((selShorter h (run O h ops) sel q).map Prod.fst).Nodup ∧
    ((selLonger (run O h ops) sel q).map Prod.fst).Nodup :=
  ⟨selShorter_nodup h _ sel q, selLonger_nodup (run_wf O h ops) sel q⟩

/-- covering is `List.isPrefixOf` on the significant bits of the same family -/
theorem covers_is_bit_prefix (q p : Pfx) : q.covers p = true ↔ q.fam = p.fam ∧ q.bits <+: p.bits :=
  covers_iff q p

/-- **The table returned by `Select`** (built with `setDestination` under the same hash, so it can
itself contain collision chains) is well formed and holds exactly the union of what the lookup
prefixes select; with no lookup prefix, every destination with a non-nil selection. -/
theorem select_result_exact (O : DestOps δ ρ) (h : Pfx → Nat) (ops : List (Pfx × ρ))
    (sel : δ → Option δ) (qs : List (Lookup × Pfx)) (p : Pfx) (d' : δ) :
    WF h (select h (run O h ops) sel qs) ∧
    (alookup (select h (run O h ops) sel qs) p = some d' ↔
      if qs = [] then ∃ d, arun O ops p = some d ∧ sel d = some d'
      else ∃ q ∈ qs, QuerySpec (run O h ops) sel q p d') := by
  refine ⟨select_wf h _ sel qs, ?_⟩
  rw [select_spec (run_wf O h ops)]
  unfold Selected
  rw [funext (table_refines_map O h ops).2]

/-! ### summary counters: `Table.Info` -/

/-- **The counters are the sizes of the abstract content**: for ANY duplicate-free enumeration
`l` of the abstract map, `NumDestination` = number of destinations with a non-empty (view-filtered)
path list, `NumPath` = the sum of those list lengths, and `NumCollision` = destinations − buckets,
where the buckets are exactly the hash values taken on the domain (so: 0 for an injective hash,
`|dom| − 1` for a constant one). -/
theorem counters_are_sizes (O : DestOps δ ρ) (h : Pfx → Nat) (ops : List (Pfx × ρ)) (n : δ → Nat)
    (l : List (Pfx × δ)) (hl : (l.map Prod.fst).Nodup)
    (hm : ∀ p d, (p, d) ∈ l ↔ arun O ops p = some d) :
    (info n (run O h ops)).numDestination = (l.filter (fun e => n e.2 ≠ 0)).length ∧
    (info n (run O h ops)).numPath = (l.map (fun e => n e.2)).sum ∧
    (info n (run O h ops)).numCollision + (run O h ops).length = l.length ∧
    ((run O h ops).map Prod.fst).Nodup ∧
    (∀ k, k ∈ (run O h ops).map Prod.fst ↔ ∃ p, h p = k ∧ (arun O ops p).isSome = true) := by
  have hw := run_wf O h ops
  have ha := (table_refines_map O h ops).2
  have hi := info_of_enumeration hw n l hl (fun p d => by rw [hm, ha])
  refine ⟨hi.1, hi.2.1, hi.2.2, hw.1, fun k => ?_⟩
  rw [mem_keys_iff hw, funext ha]

/-- **Chain order, bucket order and hash are irrelevant to every observation**: two well-formed
bucket structures (under possibly different hash functions, built in whatever order) with the
same abstract content answer alike — `Get`, the set of listed destinations, the counters of
`Info`, and the content of every `Select` result. -/
theorem observations_depend_on_content_only {h1 h2 : Pfx → Nat} {t1 t2 : Dests δ}
    (hw1 : WF h1 t1) (hw2 : WF h2 t2) (he : ∀ p, alookup t1 p = alookup t2 p) :
    (∀ p, get h1 t1 p = get h2 t2 p) ∧
    (entries t1).Perm (entries t2) ∧
    (∀ n : δ → Nat, (info n t1).numDestination = (info n t2).numDestination ∧
                    (info n t1).numPath = (info n t2).numPath) ∧
    (∀ (sel : δ → Option δ) (qs : List (Lookup × Pfx)) (p : Pfx),
        alookup (select h1 t1 sel qs) p = alookup (select h2 t2 sel qs) p) := by
  have hperm := entries_perm hw1 hw2 he
  refine ⟨fun p => ?_, hperm, fun n => ?_, fun sel qs p => ?_⟩
  · rw [get_eq_alookup hw1, get_eq_alookup hw2, he]
  · rw [info_numDestination, info_numDestination, info_numPath, info_numPath]
    exact ⟨(hperm.filter _).length_eq, (hperm.map _).sum_nat⟩
  · -- the specification of `Select` mentions the table through `alookup` only
    have hS : Selected t1 sel = Selected t2 sel := by
      unfold Selected; rw [funext he]
    have hQ : QuerySpec t1 sel = QuerySpec t2 sel := by
      unfold QuerySpec; rw [hS]
    apply Option.ext
    intro d'
    rw [select_spec hw1, select_spec hw2, hS, hQ]

/-- **`Bests` and `GetKnownPathList`** (`TableManager.GetBestPathList` / `GetPathList`) list exactly the
best path, resp. every path, of every destination of the abstract map — whatever bucket or chain
position the destination sits in. -/
theorem path_listings_exact {π : Type} (O : DestOps δ ρ) (h : Pfx → Nat) (ops : List (Pfx × ρ))
    (best : δ → Option π) (paths : δ → List π) (p : Pfx) (x : π) :
    ((p, x) ∈ bests best (run O h ops) ↔ ∃ d, arun O ops p = some d ∧ best d = some x) ∧
    ((p, x) ∈ allPaths paths (run O h ops) ↔ ∃ d, arun O ops p = some d ∧ x ∈ paths d) := by
  have hw := run_wf O h ops
  have hm : ∀ d, (p, d) ∈ entries (run O h ops) ↔ arun O ops p = some d := fun d => by
    rw [mem_entries_iff hw, (table_refines_map O h ops).2]
  constructor
  · refine (mem_filterMap_snd best _ p x).trans ?_
    simp only [hm]
  · unfold allPaths
    rw [List.mem_flatMap]
    constructor
    · rintro ⟨⟨q, d⟩, hqd, hx⟩
      obtain ⟨y, hy, he⟩ := List.mem_map.1 hx
      cases he
      exact ⟨d, (hm d).1 hqd, hy⟩
    · rintro ⟨d, hd, hx⟩
      exact ⟨(p, d), (hm d).2 hd, List.mem_map.2 ⟨x, hx, rfl⟩⟩

/-! ### the multipath notification stream (`Update.GetMultiBestPathDiff`, multipath × ADD-PATH receive) -/

/-- **The multipath diff is the set difference on (source, path-id) keys.**  For the path lists of a
destination before and after one `Calculate` (one path per source and path-id in each):
the `withdraw` list is exactly the old multipath members whose (source, path-id) is not in the new
multipath set, and the `update` list is exactly the new members whose (source, path-id) is not in
the old set or is there with other attributes.  Two equal-cost paths of ONE source (different path
ids) are two members. -/
theorem multipath_diff_is_set_difference (oldL newL : List TPath) (ho : KeysNodup oldL) :
    (mpDiff oldL newL).2 =
      (multiBest oldL).filter (fun o => !((multiBest newL).any (fun n => n.keyEq o))) ∧
    ∀ n, n ∈ (mpDiff oldL newL).1 ↔
      n ∈ multiBest newL ∧ ∀ o ∈ multiBest oldL, n.keyEq o = true → n.attrEq o = false :=
  ⟨mpWithdraw_is_set_difference _ _ (keysNodup_multiBest oldL ho),
   fun n => mem_mpUpdate _ _ (keysNodup_multiBest oldL ho) n⟩

/-- replaying the notifications of a sequence of destination states, in order, on a consumer -/
def mpReplay (prev : List TPath) (c : MpConsumer) : List (List TPath) → MpConsumer
  | [] => c
  | l :: r => mpReplay l (mpApply c (mpDiff prev l)) r

/-- the successive path lists of one destination under a history of `Calculate` steps -/
def destStates (d : TDest) : List TOp → List (List TPath)
  | [] => []
  | op :: r => (locCalc d op).paths :: destStates (locCalc d op) r

def destFinal (d : TDest) : List TOp → TDest
  | [] => d
  | op :: r => destFinal (locCalc d op) r

/-- one step: a consumer that mirrors the old multipath set mirrors the new one after applying the
notification -/
theorem multipath_stream_step (oldL newL : List TPath) (ho : KeysNodup oldL) (hn : KeysNodup newL) :
    mpApply (mpView (multiBest oldL)) (mpDiff oldL newL) = mpView (multiBest newL) :=
  mpApply_view _ _ (keysNodup_multiBest oldL ho) (keysNodup_multiBest newL hn)

/-- **The multipath notification stream replayed in order reproduces the multipath set**: for every
history of announcements / implicit replacements / withdrawals on a destination (any number of
sources, any number of path ids per source), a consumer that starts in step with the table and
applies every `GetMultiBestPathDiff` result in order holds, at the end (hence after every step),
exactly the table's multipath set keyed by (source, path-id). -/
theorem multipath_stream_replay (d : TDest) (hd : KeysNodup d.paths) (ops : List TOp) :
    mpReplay d.paths (mpView (multiBest d.paths)) (destStates d ops) =
      mpView (multiBest (destFinal d ops).paths) := by
  induction ops generalizing d with
  | nil => rfl
  | cons op r ih =>
    have hn := locCalc_keysNodup d op hd
    simp only [destStates, destFinal, mpReplay]
    rw [multipath_stream_step d.paths (locCalc d op).paths hd hn]
    exact ih (locCalc d op) hn

/-! ### the multipath report of `GetChanges` (the watcher's MultiPathList) -/

theorem mpChanged_iff (a b : List TPath) : mpChanged a b = false ↔ a.map TPath.sig = b.map TPath.sig := by
  induction a generalizing b with
  | nil =>
    cases b with
    | nil => exact ⟨fun _ => rfl, fun _ => rfl⟩
    | cons y r' => exact ⟨nofun, nofun⟩
  | cons x r ih =>
    cases b with
    | nil => exact ⟨nofun, nofun⟩
    | cons y r' =>
      simp only [mpChanged, Bool.or_eq_false_iff, bne_eq_false_iff_eq, List.map_cons,
        List.cons.injEq, ih r']

/-- **`GetChanges` reports the multipath set exactly when it changed AS A LIST OF PATHS WITH THEIR
ATTRIBUTES** (source, LOCAL_PREF, community per position — what `Path.Equal` compares; the path id is
not part of it): the report is nil iff old and new set agree position by position, and otherwise it
is the new set.  So an attribute-only replacement of a member, at any position, is reported. -/
theorem multipath_report_exact (oldL newL : List TPath) :
    (multiReport oldL newL = none ↔ (multiBest oldL).map TPath.sig = (multiBest newL).map TPath.sig) ∧
    (∀ m, multiReport oldL newL = some m → m = multiBest newL) := by
  unfold multiReport
  rw [← mpChanged_iff]
  cases mpChanged (multiBest oldL) (multiBest newL) with
  | false => exact ⟨⟨fun _ => rfl, fun _ => rfl⟩, fun m hm => nomatch hm⟩
  | true => exact ⟨⟨nofun, nofun⟩, fun m hm => (Option.some.inj hm).symm⟩

/-- a watcher that replaces its copy by the report whenever there is one holds the table's current
multipath set, attributes included, after every step of every history -/
def watcherReplay (prev : List TPath) (c : List (Nat × Nat × Nat)) : List (List TPath) → List (Nat × Nat × Nat)
  | [] => c
  | l :: r =>
    watcherReplay l (match multiReport prev l with | some m => m.map TPath.sig | none => c) r

theorem multipath_report_replay (d : TDest) (ops : List TOp) :
    watcherReplay d.paths ((multiBest d.paths).map TPath.sig) (destStates d ops) =
      (multiBest (destFinal d ops).paths).map TPath.sig := by
  induction ops generalizing d with
  | nil => rfl
  | cons op r ih =>
    simp only [destStates, destFinal, watcherReplay]
    have hx := multipath_report_exact d.paths (locCalc d op).paths
    cases hr : multiReport d.paths (locCalc d op).paths with
    | none => dsimp only; rw [hx.1.mp hr]; exact ih (locCalc d op)
    | some m => dsimp only; rw [hx.2 m hr]; exact ih (locCalc d op)

/-! ### partial operations on a multi-family Adj-RIB-In (`AdjRib.Drop / StaleAll / DropStale (rfList)`) -/

/-- **Granularity**: an operation on a subset of the families leaves every OTHER family's table
and accepted counter exactly as they were. -/
theorem partial_adj_ops_leave_other_families (h : Pfx → Nat) (fams : List Nat) (a : AdjRibM) (f : Nat)
    (hf : f ∉ fams) :
    (adjRibDrop fams a).fam f = a.fam f ∧
    (adjRibStaleAll fams a).fam f = a.fam f ∧
    (adjRibDropStale h fams a).fam f = a.fam f :=
  ⟨adjOn_other fams _ a f hf, adjOn_other fams _ a f hf, adjOn_other fams _ a f hf⟩

/-- … and on a family that IS named: `Drop` starts over (empty table, counter 0); `StaleAll` keeps
the counter and every destination, each path marked stale; `DropStale` is a sequence of
`adj.Update` withdrawals (the bucket invariant survives; the counter moves by the deltas of those
withdrawals).  Which paths a destination loses in `DropStale` is decided inside the destination
(C02's Adj-RIB-In part) and sampled by the correspondence run. -/
theorem partial_adj_ops_on_named_families (h : Pfx → Nat) (fams : List Nat) (a : AdjRibM) (f : Nat)
    (hf : f ∈ fams) (t : Dests TDest) (acc : Int) (ha : a.fam f = some (t, acc)) (hw : WF h t) :
    (adjRibDrop fams a).fam f = some ([], 0) ∧
    (∃ t', (adjRibStaleAll fams a).fam f = some (t', acc) ∧ WF h t' ∧
      ∀ p, get h t' p =
        (get h t p).map (fun d => { d with paths := d.paths.map (fun x => { x with stale := true }) })) ∧
    (∃ t', (adjRibDropStale h fams a).fam f = some (t', acc + (adjDropStale h t).2) ∧ WF h t') := by
  refine ⟨?_, ⟨adjStaleAll t, ?_, mapDests_wf _ hw, fun p => mapDests_get _ h t p⟩,
    ⟨(adjDropStale h t).1, ?_, adjDropStale_wf hw⟩⟩
  · unfold adjRibDrop; rw [adjOn_named fams _ a f hf, ha]; rfl
  · unfold adjRibStaleAll; rw [adjOn_named fams _ a f hf, ha]; rfl
  · unfold adjRibDropStale; rw [adjOn_named fams _ a f hf, ha]; rfl

/-! ### non-vacuity: concrete colliding histories, evaluated by the kernel -/

section Examples

def p1 : Pfx := ⟨6, [true, false, true]⟩
def p2 : Pfx := ⟨6, [true, false, false]⟩
def p0 : Pfx := ⟨6, []⟩               -- ::/0
def p10 : Pfx := ⟨6, [true, false]⟩    -- covers p1 and p2
/-- everything collides -/
def hConst : Pfx → Nat := fun _ => 7
/-- nothing collides (on these prefixes) -/
def hLen : Pfx → Nat := fun p => p.bits.foldl (fun a b => 2 * a + (if b then 2 else 1)) 0

def ann (src rid rank tag : Nat) : TOp :=
  .ann { src := src, rid := rid, rank := rank, tag := tag, lid := 0, rej := false, addr := src }

/-- both prefixes announced: ONE bucket with a chain of two under the constant hash … -/
example : (run locOps hConst [(p1, ann 1 0 10 1), (p2, ann 2 0 20 2)]).map (fun kc => (kc.1, kc.2.length)) = [(7, 2)] := by
  decide +kernel
/-- … two buckets of one under the injective one; `Info` reports 1 resp. 0 collisions -/
example : (run locOps hLen [(p1, ann 1 0 10 1), (p2, ann 2 0 20 2)]).map (fun kc => kc.2.length) = [1, 1] := by
  decide +kernel
example : info (fun d => d.paths.length) (run locOps hConst [(p1, ann 1 0 10 1), (p2, ann 2 0 20 2)]) = ⟨2, 2, 1⟩ := by
  decide +kernel
example : info (fun d => d.paths.length) (run locOps hLen [(p1, ann 1 0 10 1), (p2, ann 2 0 20 2)]) = ⟨2, 2, 0⟩ := by
  decide +kernel

/-- first-inserted deleted first (dropped withdrawal frees the local id): the neighbour stays -/
example :
    let t := run locOps hConst [(p1, ann 1 0 10 1), (p2, ann 2 0 20 2), (p1, .wd 1 0 true)]
    get hConst t p1 = none ∧ (get hConst t p2).isSome = true ∧ t.map (fun kc => kc.2.length) = [1] := by
  decide +kernel
/-- second-inserted deleted first -/
example :
    let t := run locOps hConst [(p1, ann 1 0 10 1), (p2, ann 2 0 20 2), (p2, .wd 2 0 true)]
    (get hConst t p1).isSome = true ∧ get hConst t p2 = none ∧ t.map (fun kc => kc.2.length) = [1] := by
  decide +kernel
/-- both deleted: the bucket itself is gone -/
example : run locOps hConst [(p1, ann 1 0 10 1), (p2, ann 2 0 20 2), (p2, .wd 2 0 true), (p1, .wd 1 0 true)] = [] := by
  decide +kernel
/-- the localIdMap guard: a withdrawal that is NOT marked dropped leaves local id 1 flagged, so the
emptied destination stays in its chain (`some` with no paths) -/
example :
    (get hConst (run locOps hConst [(p1, ann 1 0 10 1), (p2, ann 2 0 20 2), (p1, .wd 1 0 false)]) p1).map (·.paths.length)
      = some 0 := by
  decide +kernel
/-- an Adj-RIB table (no bitmap) always deletes -/
example : run adjOps hConst [(p1, ann 1 0 10 1), (p1, .wd 1 0 false)] = [] := by
  decide +kernel

/-- lookups on a colliding table: shorter of p1 = {::/0, p10, p1}; longer of p10 = {p10, p1, p2};
the host lookup of p1 with p1 itself filtered out by the view falls back to p10 -/
def tEx : Dests TDest :=
  run locOps hConst [(p1, ann 1 0 10 1), (p2, ann 2 0 20 2), (p0, ann 2 0 30 3), (p10, ann 2 0 40 4)]

example : (selShorter hConst tEx (tsel ⟨0, false, false⟩) p1).map Prod.fst = [p1, p10, p0] := by decide +kernel
example : ((selLonger tEx (tsel ⟨0, false, false⟩) p10).map Prod.fst).length = 3 := by decide +kernel
example : (selHost hConst tEx (tsel ⟨0, false, false⟩) p1).map Prod.fst = [p1] := by decide +kernel
example : (selHost hConst tEx (tsel ⟨1, false, false⟩) p1).map Prod.fst = [p10] := by decide +kernel
/-- the result table of a whole-table `Select` is again one bucket of four under the constant hash -/
example : (select hConst tEx (tsel ⟨0, false, true⟩) []).map (fun kc => kc.2.length) = [4] := by decide +kernel
/-- hypotheses of `counters_are_sizes` are satisfiable: `entries` itself is such an enumeration -/
example (O : DestOps δ ρ) (h : Pfx → Nat) (ops : List (Pfx × ρ)) :
    ((entries (run O h ops)).map Prod.fst).Nodup ∧
    ∀ p d, (p, d) ∈ entries (run O h ops) ↔ arun O ops p = some d :=
  ⟨(iteration_exact O h ops).1, (iteration_exact O h ops).2.1⟩

/-- hypotheses of `observations_depend_on_content_only` are satisfiable: the same history under two hashes -/
example (O : DestOps δ ρ) (h1 h2 : Pfx → Nat) (ops : List (Pfx × ρ)) :
    WF h1 (run O h1 ops) ∧ WF h2 (run O h2 ops) ∧
    ∀ p, alookup (run O h1 ops) p = alookup (run O h2 ops) p :=
  ⟨run_wf O h1 ops, run_wf O h2 ops, fun p => by
    rw [(table_refines_map O h1 ops).2, (table_refines_map O h2 ops).2]⟩
/-- … and concretely: the colliding and the collision-free table of the same four announcements list
the same destinations although their bucket shapes differ -/
example :
    (entries tEx).length = 4 ∧ tEx.length = 1 ∧
    (run locOps hLen [(p1, ann 1 0 10 1), (p2, ann 2 0 20 2), (p0, ann 2 0 30 3), (p10, ann 2 0 40 4)]).length = 4 := by
  decide +kernel

/-- a three-family Adj-RIB-In; family 4 (two accepted paths) is marked stale and swept, family 6
is dropped, family 14 is not named: it keeps its table and its counter 1; family 4 ends at 0 -/
def aEx : AdjRibM :=
  [(4, (run adjOps hConst [(p1, ann 1 0 10 1), (p2, ann 1 1 20 2)], 2)),
   (6, (run adjOps hConst [(p1, ann 1 0 30 3)], 1)),
   (14, (run adjOps hConst [(p2, ann 1 0 40 4)], 1))]

example : (adjRibDropStale hConst [4] (adjRibDrop [6] (adjRibStaleAll [4] aEx))).fam 6 = some ([], 0) := by
  decide +kernel
example : (adjRibDropStale hConst [4] (adjRibDrop [6] (adjRibStaleAll [4] aEx))).fam 4 = some ([], 0) := by
  decide +kernel
example : (adjRibDropStale hConst [4] (adjRibDrop [6] (adjRibStaleAll [4] aEx))).fam 14 = aEx.fam 14 := by
  rw [(partial_adj_ops_leave_other_families hConst [4] _ 14 (by decide)).2.2,
      (partial_adj_ops_leave_other_families hConst [6] _ 14 (by decide)).1,
      (partial_adj_ops_leave_other_families hConst [4] _ 14 (by decide)).2.1]
/-- hypotheses of `partial_adj_ops_on_named_families` are satisfiable -/
example : aEx.fam 4 = some (run adjOps hConst [(p1, ann 1 0 10 1), (p2, ann 1 1 20 2)], 2) ∧
    WF hConst (run adjOps hConst [(p1, ann 1 0 10 1), (p2, ann 1 1 20 2)]) :=
  ⟨rfl, run_wf adjOps hConst _⟩
/-- a path announced again after `StaleAll` is fresh and survives the sweep -/
example :
    ((adjRibDropStale hConst [4]
        (adjOn [4] (fun x => (update adjOps hConst x.1 p1 (ann 1 0 50 5), x.2)) (adjRibStaleAll [4] aEx))).fam 4).map
      (fun x => ((entries x.1).map (fun e => e.2.paths.length), x.2)) = some ([1], 1) := by
  decide +kernel

/-- multipath × ADD-PATH: source 2 has two equal-cost paths (path ids 1 and 2, LOCAL_PREF 200 in the
upper half of the rank), source 5 a third; the member sorted FIRST is withdrawn: exactly that one is
withdrawn from the consumers, nothing is re-announced, and the sibling of the same source stays -/
def mpath (src rid lp age tag : Nat) : TPath :=
  { src := src, rid := rid, rank := lp * 4294967296 + age, tag := tag, lid := tag, rej := false }

example :
    mpDiff [mpath 2 1 200 9 1, mpath 2 2 200 8 2, mpath 5 0 200 7 3, mpath 6 0 100 6 4]
           [mpath 2 2 200 8 2, mpath 5 0 200 7 3, mpath 6 0 100 6 4]
      = ([], [mpath 2 1 200 9 1]) := by
  decide +kernel
/-- … a better path shrinks the set: every old member is withdrawn, the new one announced -/
example :
    mpDiff [mpath 2 1 200 9 1, mpath 2 2 200 8 2]
           [mpath 6 0 300 5 4, mpath 2 1 200 9 1, mpath 2 2 200 8 2]
      = ([mpath 6 0 300 5 4], [mpath 2 1 200 9 1, mpath 2 2 200 8 2]) := by
  decide +kernel
/-- hypotheses of `multipath_stream_replay` are satisfiable: the fresh destination, any history -/
example (p : Pfx) (ops : List TOp) :
    mpReplay [] (fun _ => none) (destStates (locOps.fresh p) ops) =
      mpView (multiBest (destFinal (locOps.fresh p) ops).paths) :=
  multipath_stream_replay (locOps.fresh p) (by simp [KeysNodup, locOps]) ops

/-- an attribute-only replacement (the community changes, LOCAL_PREF, age, source and path id stay) of
the SECOND member of a multipath set is reported, and announced to the (source, path-id) consumers -/
example :
    multiReport [mpath 2 1 200 9 1, mpath 2 2 200 8 2, mpath 5 0 200 7 3]
                [mpath 2 1 200 9 1, { mpath 2 2 200 8 4 with attr := 7 }, mpath 5 0 200 7 3]
      = some [mpath 2 1 200 9 1, { mpath 2 2 200 8 4 with attr := 7 }, mpath 5 0 200 7 3] ∧
    (mpDiff [mpath 2 1 200 9 1, mpath 2 2 200 8 2, mpath 5 0 200 7 3]
            [mpath 2 1 200 9 1, { mpath 2 2 200 8 4 with attr := 7 }, mpath 5 0 200 7 3]).1
      = [{ mpath 2 2 200 8 4 with attr := 7 }] := by
  decide +kernel
/-- … while swapping a member for an equal path of the same source under another path id is not -/
example :
    multiReport [mpath 2 1 200 9 1, mpath 5 0 200 7 3] [mpath 2 2 200 9 4, mpath 5 0 200 7 3] = none := by
  decide +kernel

end Examples

end C02T
