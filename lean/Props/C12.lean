import Lemmas.GRTimers
/-!
# C12 — graceful-restart and LLGR stale routes live exactly as long as the RFCs allow

All theorems are about `Model/GR.lean`, the hand-written mirror of gobgp's GR/LLGR handling for one
neighbour (fsm.go `established`/`stateChange`, server.go `handleFSMMessage`, peer.go, adj.go) as /repo's
`fix:` commits to it leave it (the code before them violates several of the theorems; the harness oracle
found the witnesses).  The tie model ↔ code is the correspondence run of `./check C12` (sampled), not a proof.
§§1–8 and 10 are about single transitions (`peerDown`, `idlePurge`, `onEOR`, `onLLExpire`, `tick`, …) and
single states of the model; §9 quantifies over whole event histories of the model.

`WF p` : every Adj-RIB-In route belongs to a configured family (the harness only announces those).
-/
namespace C12
open GR

def WF (p : Peer) : Prop := ∀ r ∈ p.rib, (famIds p).contains r.fam = true

theorem WF.mem {p : Peer} (h : WF p) : ∀ r ∈ p.rib, r.fam ∈ famIds p :=
  fun r hr => List.contains_iff_mem.mp (h r hr)

/-! ## 1. which losses are graceful -/

theorem not_hardReset_iff (code sub : Nat) : (!(code == 6 && sub == 9)) = true ↔ ¬ (code = 6 ∧ sub = 9) := by
  rw [Bool.not_eq_true', ← Bool.not_eq_true, Bool.and_eq_true, beq_iff_eq, beq_iff_eq]

/-- A session loss is treated as a graceful restart iff GR was negotiated and the loss is a transport
failure (read or write), a hold-timer expiry (whether or not the NOTIFICATION could be written), or a
received NOTIFICATION — of ANY error code and subcode except exactly Cease (6) / Hard Reset (9) — while
the N bit was negotiated.  In particular a received Cease/Hard Reset, every NOTIFICATION we sent
whatever its code and subcode (including the prefix-limit Cease) and an administrative shutdown are
never graceful, and subcode 9 under another error code (e.g. 3/9, Optional Attribute Error) IS graceful. -/
theorem graceful_iff (en nb : Bool) (k : Loss) :
    graceful en nb k = true ↔
      en = true ∧ (k = .readFail ∨ k = .writeFail ∨ k = .holdExpiry ∨ k = .holdExpiryWriteErr ∨
                   (∃ code sub, k = .notifRecv code sub ∧ nb = true ∧ ¬ (code = 6 ∧ sub = 9))) := by
  rw [graceful_eq, Bool.and_eq_true]
  refine and_congr_right fun _ => ?_
  cases k with
  | notifRecv code sub =>
    show (nb && !(code == 6 && sub == 9)) = true ↔ _
    rw [Bool.and_eq_true, not_hardReset_iff]
    constructor
    · exact fun h => Or.inr (Or.inr (Or.inr (Or.inr ⟨code, sub, rfl, h⟩)))
    · rintro (h | h | h | h | ⟨c, s, h, hn⟩) <;> cases h
      exact hn
  | _ => simp  -- the match evaluates; an equation between two different kinds of loss is false

theorem graceful_notifRecv (en nb : Bool) (code sub : Nat) :
    graceful en nb (.notifRecv code sub) = (en && nb && !(code == 6 && sub == 9)) := by
  rw [graceful_eq, Bool.and_assoc]

/-- the received-NOTIFICATION clause on its own, over the whole (code, subcode) space -/
theorem notification_graceful_iff (en nb : Bool) (code sub : Nat) :
    graceful en nb (.notifRecv code sub) = true ↔ en = true ∧ nb = true ∧ ¬ (code = 6 ∧ sub = 9) := by
  rw [graceful_notifRecv, Bool.and_eq_true, Bool.and_eq_true, not_hardReset_iff, and_assoc]

/-- no NOTIFICATION we send makes the loss graceful, whatever its code and subcode -/
theorem sent_notification_never_graceful (en nb : Bool) (code sub : Nat) :
    graceful en nb (.notifSent code sub) = false :=
  neverGraceful_spec en nb _ rfl

example : graceful true false .holdExpiry = true ∧ graceful true false (.notifRecv 6 6) = false ∧
    graceful true true (.notifRecv 6 6) = true ∧ graceful true true (.notifRecv 6 9) = false ∧
    graceful true true (.notifRecv 3 9) = true ∧ graceful true true (.notifRecv 0 255) = true ∧
    graceful true true .prefixLimit = false ∧ graceful false true .readFail = false := by decide

/-! ## 2. the split on loss -/

/-- Graceful loss: every surviving route is of a family the peer listed in its GR capability and is
marked stale; every route of such a family survives (marked stale, otherwise unchanged). -/
theorem split_on_loss_graceful (p : Peer) (hwf : WF p) :
    (∀ r ∈ (peerDown p true).rib, (grFams p).contains r.fam = true ∧ r.stale = true) ∧
    (∀ r ∈ p.rib, (grFams p).contains r.fam = true → { r with stale := true } ∈ (peerDown p true).rib) := by
  rw [peerDown_graceful_rib p hwf.mem]
  constructor
  · intro r hr
    obtain ⟨r0, hr0, rfl⟩ := List.mem_map.mp hr
    exact ⟨(List.mem_filter.mp hr0).2, rfl⟩
  · intro r hr hc
    exact List.mem_map.mpr ⟨r, List.mem_filter.mpr ⟨hr, hc⟩, rfl⟩

/-- Any other loss removes everything at once and ends any earlier retention. -/
theorem split_on_loss_other (p : Peer) (hwf : WF p) :
    (peerDown p false).rib = [] ∧ (peerDown p false).peerRestarting = false ∧
    (peerDown p false).llTimers = [] :=
  ⟨peerDown_hard_rib p hwf.mem, rfl, rfl⟩

example : WF { cfgGR := true, cfgNotif := false, cfgLL := false, deferral := 0,
               fams := [{ id := 0, mpCfg := true, mpEnabled := true, mpReceived := true }, { id := 1, mpCfg := false, mpEnabled := false }],
               rib := [⟨0, 1, 1, false, 0, false, false⟩, ⟨1, 1, 1, false, 0, false, false⟩] } := by
  intro r hr; simp at hr; rcases hr with rfl | rfl <;> decide

/-! ## 3. lifetime of stale routes without re-establishment -/

/-- Entering the retention: a graceful loss arms the restart timer with the peer's restart time. -/
theorem loss_arms_restart_timer (p : Peer) (k : Loss) (he : p.est = true)
    (hg : graceful p.enabled p.notif k = true) :
    (onLoss p k).restartAt = some (p.now + p.restartTime) ∧ (onLoss p k).peerRestarting = true ∧
    (onLoss p k).est = false := by
  rw [onLoss, hg, onDown_up p true he]
  exact ⟨rfl, rfl, rfl⟩

/-- Before the restart deadline nothing happens to the Adj-RIB-In or to the restarting state
(no LLGR / deferral timer pending). -/
theorem tick_before_deadline (p : Peer) (d D : Nat) (hr : p.restartAt = some D)
    (hl : p.llTimers = []) (hd : p.defTimers = []) (hlt : p.now + d < D) :
    tick p d = { p with now := p.now + d } := by
  -- the restart timer is the only candidate, and it is not due
  have he : earliest p = some (D, .restart) := by
    rw [earliest, cand1, cand2, cand3, hl, hd, hr]
    rfl
  have hnd : nextDue p (p.now + d) = none := by
    cases hx : nextDue p (p.now + d) with
    | none => rfl
    | some x =>
      obtain ⟨h1, h2⟩ := (nextDue_eq_some p _ x).mp hx
      cases he.symm.trans h1
      exact absurd h2 (Nat.not_le.mpr hlt)
  rw [tick, advanceTo, hnd]

/-- When the restart timer expires without re-establishment and LLGR was not negotiated, every
retained route is removed and the restarting state ends. -/
theorem restart_expiry_purges (p : Peer) (hwf : WF p) (he : p.est = false)
    (hpr : p.peerRestarting = true) (hll : p.longLived = false) :
    (onRestartExpire p).rib = [] ∧ (onRestartExpire p).peerRestarting = false := by
  rw [onRestartExpire_eq, if_pos ⟨he, hpr⟩, idlePurge_no_ll { p with restartAt := none } hll]
  exact ⟨dropFams_all_nil _ _ hwf.mem, rfl⟩

/-- A failed connection attempt during the restart window (a transition to IDLE whose reason is
neither the restart timer nor an administrative shutdown) leaves the retained routes alone. -/
theorem failed_attempt_keeps_stale (p : Peer) (n : Next) (he : p.est = false) (hn : n ≠ .established) :
    stepRaw p (.goto n false) = p := by
  rw [goto_eq, if_neg (fun hc => nomatch hc.2.2.2)]

/-! ## 4. after re-establishment: End-of-RIB -/

/-- While the peer is restarting and the session is up, End-of-RIB for a family purges exactly when
it completes the set of GR families of the new session: then precisely the routes still stale (not
re-announced) are withdrawn and the restarting state ends; otherwise nothing changes in the RIB. -/
theorem eor_purge (p : Peer) (f : Nat) (he : p.est = true) (hpr : p.peerRestarting = true)
    (hlr : p.localRestarting = false) :
    (onEOR p f).rib = (if allEOR (markEOR p f) then p.rib.filter (fun r => !r.stale) else p.rib) ∧
    (onEOR p f).peerRestarting = !(allEOR (markEOR p f)) := by
  have h1 : onEOR p f = eorPeer (markEOR p f) := by
    rw [onEOR, if_neg (by rw [he]; exact Bool.false_ne_true), eorLocal, hlr]
    rfl
  rw [h1, eorPeer, if_pos (show (markEOR p f).peerRestarting = true from hpr)]
  cases allEOR (markEOR p f)
  · exact ⟨rfl, hpr⟩
  · exact ⟨rfl, rfl⟩

theorem estDefer_rib (p : Peer) : (estDefer p).rib = p.rib ∧ (estDefer p).peerRestarting = p.peerRestarting :=
  estDefer_ind (fun q => q.rib = p.rib ∧ q.peerRestarting = p.peerRestarting) p (fun _ _ => ⟨rfl, rfl⟩)

/-- RFC 4724 §4.2 at re-establishment, for every family at once: after the transition to ESTABLISHED a
stale route survives only if its family is listed in the NEW GR capability with the Forwarding State bit
set; nothing else is removed (fresh routes and stale routes of such families stay). -/
theorem reestablish_drops_unlisted (p : Peer) (hpr : p.peerRestarting = true) :
    (∀ r ∈ (onEstablished p).rib, r.stale = true → (keepFams p).contains r.fam = true) ∧
    (∀ r ∈ p.rib, (r.stale = false ∨ (keepFams p).contains r.fam = true) → r ∈ (onEstablished p).rib) := by
  have hrib : (onEstablished p).rib = dropStaleUnlisted p := by
    rw [onEstablished, (estDefer_rib _).1, estPurge, if_pos hpr]
  rw [hrib]
  constructor
  · intro r hr hs
    exact List.contains_iff_mem.mpr (((mem_dropStaleUnlisted p r).mp hr).2 hs)
  · intro r hr h
    refine (mem_dropStaleUnlisted p r).mpr ⟨hr, fun hs => ?_⟩
    rcases h with h | h
    · rw [h] at hs
      cases hs
    · exact List.contains_iff_mem.mp h

/-- A peer that comes back listing no GR family at all (e.g. without the capability) has its stale
routes removed at once and the restart ends. -/
theorem reestablish_without_gr_purges (p : Peer) (hpr : p.peerRestarting = true)
    (hg : (grFams p).isEmpty = true) :
    (∀ r ∈ (onEstablished p).rib, r.stale = false) ∧ (onEstablished p).peerRestarting = false := by
  constructor
  · intro r hr
    cases hs : r.stale
    · rfl
    · have hk := (reestablish_drops_unlisted p hpr).1 r hr hs
      rw [keepFams_nil p hg] at hk
      exact absurd hk Bool.false_ne_true
  · rw [onEstablished, (estDefer_rib _).2, estPurge_stop p hpr hg]
    rfl

/-- When the restart completes — the End-of-RIB that makes the set of awaited markers complete — no
stale route of ANY address family remains, whatever families the new session negotiated, and the
restarting state is over. -/
theorem restart_complete_no_stale (p : Peer) (f : Nat) (he : p.est = true) (hpr : p.peerRestarting = true)
    (hall : allEOR (markEOR p f) = true) :
    (∀ r ∈ (onEOR p f).rib, r.stale = false) ∧ (onEOR p f).peerRestarting = false := by
  have h1 : (eorLocal p (markEOR p f)).peerRestarting = true :=
    ite_ind (P := fun q : Peer => q.peerRestarting = true) hpr hpr
  have h2 : allEOR (eorLocal p (markEOR p f)) = true := ite_ind (P := fun q => allEOR q = true) hall hall
  rw [onEOR, if_neg (by rw [he]; exact Bool.false_ne_true), eorPeer, if_pos h1, if_pos h2]
  exact ⟨fun r hr => Eq.mp (Bool.not_eq_true' _) (List.mem_filter.mp hr).2, rfl⟩

/-- What the negotiation of a new session yields depends on the new OPEN and the local configuration
only, never on what an earlier session negotiated. -/
theorem negotiation_forgets (p : Peer) (c : Caps) :
    (stateChangeEst p c).enabled = (p.cfgGR && c.gr) ∧
    (stateChangeEst p c).notif = (p.cfgGR && c.gr && (p.cfgNotif && c.nbit)) ∧
    (stateChangeEst p c).longLived = (p.cfgLL && c.gr && c.llgr) := by
  -- the reset clears the three flags; each step sets what its capability carries
  obtain ⟨g1, g2, g3, g4⟩ := negGR_flags c (resetNegotiated p)
  obtain ⟨l1, l2, l3⟩ := negLL_flags c (negGR c (resetNegotiated p))
  rw [stateChangeEst_eq]
  refine ⟨l1.trans (g1.trans (Bool.or_false _)), l2.trans (g2.trans ?_), l3.trans ?_⟩
  · show (if (p.cfgGR && c.gr) = true then p.cfgNotif && c.nbit else false) = _
    cases p.cfgGR && c.gr <;> rfl
  · rw [g3, g4]
    exact Bool.or_false _

/-- A re-announced route is fresh: after an announcement the entry for that (family, prefix) is the
new one, not stale, and it is the only one. -/
theorem announce_fresh (p : Peer) (fam key ver nLL : Nat) (noLL : Bool) (he : p.est = true)
    (hf : (famIds p).contains fam = true) :
    ⟨fam, key, ver, false, nLL, noLL, false⟩ ∈ (onAnnounce p fam key ver noLL nLL).rib ∧
    ∀ r ∈ (onAnnounce p fam key ver noLL nLL).rib, r.fam = fam → r.key = key →
      r = ⟨fam, key, ver, false, nLL, noLL, false⟩ := by
  have h : onAnnounce p fam key ver noLL nLL = { p with rib := announce p.rib fam key ver noLL nLL } := by
    rw [onAnnounce, he, hf]
    rfl
  rw [h]
  show _ ∈ announce p.rib fam key ver noLL nLL ∧ ∀ r ∈ announce p.rib fam key ver noLL nLL, _
  unfold announce
  constructor
  · exact List.mem_append_right _ (List.mem_singleton.mpr rfl)
  · intro r hr hf hk
    rcases List.mem_append.mp hr with hr | hr
    · -- the old entry of this (family, prefix) was filtered out
      have hne := (List.mem_filter.mp hr).2
      rw [hf, hk, beq_self_eq_true, beq_self_eq_true] at hne
      exact absurd hne Bool.false_ne_true
    · exact List.mem_singleton.mp hr

/-! ## 5. long-lived graceful restart -/

/-- When the restart timer expires with LLGR negotiated (and not already running, and at least one
LLGR family): the routes kept are exactly those of LLGR families without NO_LLGR, each with one more
LLGR_STALE value than before (`nLL + 1`; the harness announces with `nLL = 0`). -/
theorem llgr_mark (p : Peer) (hwf : WF p) (hll : p.longLived = true) (hrun : p.llRun = false) :
    ∀ r', r' ∈ (markLLGR (llFams p) (dropFams ((famIds p).filter (fun f => !(llFams p).contains f)) p.rib)) ↔
      ∃ r ∈ p.rib, (llFams p).contains r.fam = true ∧ r.noLL = false ∧ r' = { r with nLL := r.nLL + 1 } := by
  intro r'
  rw [mem_markLLGR (famIds p) (llFams p) p.rib hwf.mem r']
  simp only [List.contains_iff_mem]

/-- … and that set is what `idlePurge` leaves in the Adj-RIB-In. -/
theorem idlePurge_llgr_rib (p : Peer) (hll : p.longLived = true) (hrun : p.llRun = false) :
    (idlePurge p).rib = markLLGR (llFams p) (dropFams ((famIds p).filter (fun f => !(llFams p).contains f)) p.rib) := by
  by_cases hempty : (llFams p).isEmpty = true
  · rw [idlePurge_ll_empty p hll hrun hempty]
    rfl
  · rw [idlePurge_ll_start p hll hrun hempty, foldl_startLL_frame]
    rfl

/-- LLGR_STALE is attached once: while the long-lived period is running, a further restart-timer
expiry (or any other transition to IDLE) changes nothing. -/
theorem llgr_once (p : Peer) (hll : p.longLived = true) (hrun : p.llRun = true) : idlePurge p = p :=
  idlePurge_running p hll hrun

/-- When the long-lived timer of family `f` expires, no stale route of `f` remains, and fresh routes
(re-announced over a re-established session) are kept. -/
theorem ll_expiry (p : Peer) (f : Nat) :
    (∀ r ∈ (onLLExpire p f).rib, ¬ (r.fam = f ∧ r.stale = true)) ∧
    (∀ r ∈ p.rib, r.stale = false → r ∈ (onLLExpire p f).rib) := by
  rw [onLLExpire_eq]
  constructor
  · apply ite_ind (P := fun q : Peer => ∀ r ∈ q.rib, ¬ (r.fam = f ∧ r.stale = true))
    · exact fun r hr => ((mem_llExpired1 p f r).mp (List.mem_filter.mp hr).1).2
    · exact fun r hr => ((mem_llExpired1 p f r).mp hr).2
  · intro r hr hs
    have hnot : ¬ (r.fam = f ∧ r.stale = true) := fun h => by rw [hs] at h; cases h.2
    have hr1 : r ∈ (llExpired1 p f).rib := (mem_llExpired1 p f r).mpr ⟨hr, hnot⟩
    apply ite_ind (P := fun q : Peer => r ∈ q.rib) _ hr1
    exact List.mem_filter.mpr ⟨hr1, by rw [hs]; rfl⟩

/-- When the last long-lived timer expires, no stale route remains at all and the restarting state ends. -/
theorem ll_last_expiry (p : Peer) (f : Nat) (hall : p.fams.all (fun a => a.id == f || !a.llRunning) = true) :
    (onLLExpire p f).rib.all (fun r => !r.stale) = true ∧ (onLLExpire p f).peerRestarting = false ∧
    (onLLExpire p f).llRun = false := by
  rw [onLLExpire_eq, if_pos hall]
  exact ⟨List.all_eq_true.mpr fun r hr => (List.mem_filter.mp hr).2, rfl, rfl⟩

/-! ## 6. a second loss during the restart window -/

/-- A second graceful loss (session re-established, not yet synchronised, lost again): every route of
a GR family — stale from the first loss or re-announced since — is retained and stale, and the restart
timer runs anew from the second loss.  (gobgp does not implement RFC 4724 §4.2 "a route previously
marked as stale MUST be deleted" for consecutive restarts; the property as stated does not ask for it.) -/
theorem second_loss (p : Peer) (k : Loss) (he : p.est = true)
    (hg : graceful p.enabled p.notif k = true)
    (hall : ∀ r ∈ p.rib, (grFams p).contains r.fam = true) :
    (onLoss p k).rib = p.rib.map (fun r => { r with stale := true }) ∧
    (onLoss p k).restartAt = some (p.now + p.restartTime) := by
  rw [onLoss, hg, onDown_up p true he, if_pos rfl]
  refine ⟨?_, rfl⟩
  rw [peerDown_graceful_rib { p with restartAt := some (p.now + p.restartTime) }
    (fun r hr => grFams_sub p (List.contains_iff_mem.mp (hall r hr)))]
  show (p.rib.filter (fun r => (grFams p).contains r.fam)).map _ = _
  rw [List.filter_eq_self.mpr hall]

/-! ## 7. the restarting speaker defers its advertisements -/

/-- While `LocalRestarting` is set nothing is advertised to the neighbour. -/
theorem deferral_suppresses (p : Peer) (h : p.localRestarting = true) : needToAdvertise p = false := by
  rw [needToAdvertise, h]
  exact Bool.and_false _

/-- … and that holds for EVERY way routes can be handed to the neighbour — a route change, a change of
its RT membership (either way), its ROUTE-REFRESH, a soft reset out, a locally added or deleted path, a
VRF path: in the model each of them goes through the one gate (`sendsOn`), which the deferral harness
compares with what gobgp queues toward the peer for each trigger kind, deferred and not. -/
theorem deferral_suppresses_every_trigger (p : Peer) (h : p.localRestarting = true) :
    ∀ t : Trigger, sendsOn p t = false :=
  fun _ => deferral_suppresses p h

/-- once the deferral is over an established neighbour is served on every trigger -/
theorem every_trigger_serves_after_deferral (p : Peer) (he : p.est = true) (h : p.localRestarting = false) :
    ∀ t : Trigger, sendsOn p t = true := by
  intro t
  rw [sendsOn, needToAdvertise, he, h]
  rfl

/-- On entering ESTABLISHED the deferral ends at once only if no End-of-RIB is awaited from the peer;
otherwise a deferral timer is started and `LocalRestarting` stays. -/
theorem deferral_on_established (p : Peer) (h : p.localRestarting = true) (hpr : p.peerRestarting = false) :
    (onEstablished p).localRestarting = !(allEOR p) ∧
    (allEOR p = false → (onEstablished p).defTimers = p.defTimers ++ [(p.now + p.deferral, p.deferral)]) := by
  rw [onEstablished, estPurge_idle p hpr, estDefer,
    if_neg (by rw [h]; exact Bool.false_ne_true)]
  cases allEOR p
  · exact ⟨h, fun _ => rfl⟩
  · exact ⟨rfl, fun ha => nomatch ha⟩

theorem eorPeer_localRestarting (q : Peer) : (eorPeer q).localRestarting = q.localRestarting := by
  unfold eorPeer
  split
  · split <;> rfl
  · rfl

/-- An End-of-RIB ends the deferral iff it is the last one awaited. -/
theorem deferral_on_eor (p : Peer) (f : Nat) (he : p.est = true) (h : p.localRestarting = true) :
    (onEOR p f).localRestarting = !(allEOR (markEOR p f)) := by
  rw [onEOR, if_neg (by rw [he]; exact Bool.false_ne_true), eorPeer_localRestarting, eorLocal, h, Bool.true_and]
  cases allEOR (markEOR p f)
  · exact h
  · rfl

/-- The deferral timer ends the deferral when it fires on an established session that has never gone down
(after a loss the callback does nothing while the loss is less than the deferral time ago; the time after
that is not stated here). -/
theorem deferral_on_timer (p : Peer) (dt : Nat) (he : p.est = true) (hd : p.downtime = none) :
    (onDeferralExpire p dt).localRestarting = false := by
  rw [onDeferralExpire, hd, he]
  cases h : p.localRestarting
  · exact h
  · rfl

/-- Announcements, withdrawals and session losses leave `LocalRestarting` as it is (nothing is stated
for FSM transitions below ESTABLISHED; establishment and deletion do change it). -/
theorem deferral_only_eor_or_timer (p : Peer) :
    (∀ f k v n l rj, (stepRaw p (.ann f k v l n rj)).localRestarting = p.localRestarting) ∧
    (∀ f k, (stepRaw p (.wd f k)).localRestarting = p.localRestarting) ∧
    (∀ k, (onLoss p k).localRestarting = p.localRestarting) := by
  refine ⟨?_, ?_, ?_⟩
  · intro f k v n l rj
    exact ite_ind (P := fun q : Peer => q.localRestarting = p.localRestarting) rfl rfl
  · intro f k
    exact ite_ind (P := fun q : Peer => q.localRestarting = p.localRestarting) rfl rfl
  · intro k
    rw [onLoss]
    rcases Bool.eq_false_or_eq_true p.est with he | he
    · rw [onDown_up p _ he]
      cases graceful p.enabled p.notif k <;> rfl
    · rw [onDown_down p _ he]

/-! ## 8. LLGR_STALE routes: least preferred, exported only to LLGR-capable neighbours -/

/-- A route is withheld (withdrawn) from a neighbour exactly when it carries LLGR_STALE and the
neighbour did not negotiate LLGR for the family. -/
theorem llgr_export (peerLLGR stale : Bool) :
    exportWithdraws peerLLGR stale = true ↔ (stale = true ∧ peerLLGR = false) := by
  cases peerLLGR <;> cases stale <;> decide

/-- The LLGR step of the decision process prefers the path without LLGR_STALE and is silent otherwise
(its place in the chain, before every other step, is C03's subject). -/
theorem llgr_least_preferred (s1 s2 : Bool) :
    (compareLLGR s1 s2 = 1 ↔ (s1 = false ∧ s2 = true)) ∧ (compareLLGR s1 s2 = 2 ↔ (s1 = true ∧ s2 = false)) := by
  cases s1 <;> cases s2 <;> decide

/-! ## 9. every history

`GR.run p0 es` is the model state after the event history `es` (session establishment with any
capabilities, loss of any kind, failed connection attempts / administrative shutdown below ESTABLISHED,
announce, withdraw, End-of-RIB, clock steps of any length — the timers fire inside) from a neighbour `p0`
before its first session (`GR.Init`).  The only assumption on the events is `GR.EvOK`: the peer does not
itself announce routes already carrying LLGR_STALE.  The invariant `GR.Inv` (Lemmas/GRInv.lean) is the
harness oracle's deadline rule as a predicate; it is proved inductive over `GR.step` for EVERY event, and
`GR.Timely` (Lemmas/GRTimers.lean: no pending LLGR or restart timer is overdue — the fuel of `advanceTo`
always suffices) holds after every event. -/

theorem C12_inv_run (p0 : Peer) (hi : Init p0) (es : List Ev) (hok : ∀ e ∈ es, EvOK e) :
    Inv (run p0 es) ∧ Timely (run p0 es) :=
  ⟨inv_run es p0 hok (inv_init p0 hi), timely_run es p0 (timely_init p0 hi)⟩

/-- NO ROUTE OUTLIVES ITS ALLOWANCE.  After every history, a STALE route in the Adj-RIB-In is there only
while the peer is restarting, and then one of three things holds:
* the session is re-established and End-of-RIB is still awaited (the stale routes of families the new GR
  capability does not keep went at the re-establishment, `reestablish_drops_unlisted`; all others go at
  the last awaited End-of-RIB, `restart_complete_no_stale`);
* the restart timer is running: it was armed at the recorded loss instant `t0` with the restart time the
  peer advertised, and the present instant is strictly before `t0 + restartTime`;
* an LLGR timer is running and the present instant is strictly before its deadline. -/
theorem C12_no_route_outlives_its_allowance (p0 : Peer) (hi : Init p0) (es : List Ev)
    (hok : ∀ e ∈ es, EvOK e) :
    ∀ r ∈ (run p0 es).rib, r.stale = true →
      (run p0 es).peerRestarting = true ∧
      ((run p0 es).est = true ∨
       (∃ t0, (run p0 es).downtime = some t0 ∧ (run p0 es).restartAt = some (t0 + (run p0 es).restartTime) ∧
              (run p0 es).now < t0 + (run p0 es).restartTime) ∨
       (∃ t ∈ (run p0 es).llTimers, (run p0 es).now < t.2)) := by
  obtain ⟨hinv, htime⟩ := C12_inv_run p0 hi es hok
  intro r hr hs
  obtain ⟨hpr, hor⟩ := hinv.stale r hr hs
  refine ⟨hpr, ?_⟩
  rcases hor with h1 | h1 | h1
  · exact Or.inl h1
  · right; left
    cases hra : (run p0 es).restartAt with
    | none => exact absurd hra h1
    | some D =>
      obtain ⟨t0, ht0, hD⟩ := hinv.core.rst D hra
      exact ⟨t0, ht0, by rw [hD], by rw [← hD]; exact htime.2 D hra⟩
  · right; right
    cases hl : (run p0 es).llTimers with
    | nil => exact absurd hl h1
    | cons t ts => exact ⟨t, List.mem_cons_self .., htime.1 t (by rw [hl]; exact List.mem_cons_self ..)⟩

/-- LLGR-stale routes, after every history: LLGR_STALE is carried at most once; a route carrying it is
stale, the long-lived period is running, and an LLGR timer OF ITS OWN FAMILY is pending and not overdue.
`_partial`: what is missing for the full deadline statement is that this pending deadline equals
(start of the long-lived period) + (the LLGR time the peer advertised for the family) — that equation is
proved for the transition that starts the timer (`ll_timer_deadline`), not carried through histories
(a later session may re-negotiate the family's time while the timer keeps running). -/
theorem C12_llgr_stale_deadline_partial (p0 : Peer) (hi : Init p0) (es : List Ev)
    (hok : ∀ e ∈ es, EvOK e) :
    ∀ r ∈ (run p0 es).rib, r.nLL ≤ 1 ∧
      (r.nLL = 1 → r.stale = true ∧ (run p0 es).llRun = true ∧
        ∃ D, (r.fam, D) ∈ (run p0 es).llTimers ∧ (run p0 es).now < D) := by
  obtain ⟨hinv, htime⟩ := C12_inv_run p0 hi es hok
  intro r hr
  obtain ⟨h1, h2⟩ := hinv.core.nll r hr
  refine ⟨h1, fun h3 => ?_⟩
  obtain ⟨h4, h5, D, hD⟩ := h2 h3
  exact ⟨h4, h5, D, hD, htime.1 _ hD⟩

/-- the deadline an LLGR timer is started with: now + the family's advertised LLGR time -/
theorem ll_timer_deadline (q : Peer) (f : Nat) :
    (startLL q f).llTimers = q.llTimers ++ [(f, q.now + ((q.fams.find? (·.id == f)).map (·.llTime)).getD 0)] := rfl

/-- After every history: once the restart is over — by End-of-RIB, by a timer, by a non-graceful loss, by
the peer returning without graceful restart — no stale route of any family is left. -/
theorem C12_no_stale_route_once_restart_is_over (p0 : Peer) (hi : Init p0) (es : List Ev)
    (hok : ∀ e ∈ es, EvOK e) (hpr : (run p0 es).peerRestarting = false) :
    ∀ r ∈ (run p0 es).rib, r.stale = false := by
  intro r hr
  cases hs : r.stale
  · rfl
  · have := ((C12_inv_run p0 hi es hok).1.stale r hr hs).1
    rw [hpr] at this
    cases this

/-- After every history: while the session is down every route held is stale — a route that is not
stale was announced (or re-announced) over the current session. -/
theorem C12_fresh_routes_only_in_a_session (p0 : Peer) (hi : Init p0) (es : List Ev)
    (hok : ∀ e ∈ es, EvOK e) (hd : (run p0 es).est = false) :
    ∀ r ∈ (run p0 es).rib, r.stale = true :=
  (C12_inv_run p0 hi es hok).1.core.down hd

/-- STALE ONLY AFTER A GRACEFUL LOSS.  In a history whose losses are all of kinds that are never
graceful (administrative shutdown, prefix-limit teardown, a NOTIFICATION we sent: `NoGraceful e` asks `neverGraceful k`
of a loss event `e = .loss k` and nothing of other events; for the state-dependent kinds `graceful_iff` says when they are), the peer is never restarting and no route
is ever stale. -/
theorem C12_stale_only_after_graceful_loss (p0 : Peer) (hi : Init p0) (hpr0 : p0.peerRestarting = false)
    (es : List Ev) (hok : ∀ e ∈ es, EvOK e) (hng : ∀ e ∈ es, NoGraceful e) :
    (run p0 es).peerRestarting = false ∧ ∀ r ∈ (run p0 es).rib, r.stale = false := by
  have h1 : (run p0 es).peerRestarting = false := nr_run es p0 hng hpr0
  exact ⟨h1, C12_no_stale_route_once_restart_is_over p0 hi es hok h1⟩

/-! ## 10. the peer object goes away; what is reported -/

/-- DELETE PURGES.  When the neighbour is deleted (DeletePeer, UpdatePeer needing a new OPEN, StopBgp) —
in whatever phase: established, restart timer running, long-lived period, deferral — nothing of it is
left: no route, no restart state, no restart or LLGR timer; the neighbour configured again starts clean.
(`.del` is an event of the histories the theorems of §9 quantify over, so they hold across deletions.) -/
theorem delete_purges (p : Peer) :
    (onDelete p).rib = [] ∧ (onDelete p).restartAt = none ∧ (onDelete p).llTimers = [] ∧
    (onDelete p).peerRestarting = false ∧ (onDelete p).llRun = false ∧ (onDelete p).est = false ∧
    (onDelete p).enabled = false ∧ (∀ f, received (onDelete p) f = 0 ∧ accepted (onDelete p) f = 0) :=
  ⟨rfl, rfl, rfl, rfl, rfl, rfl, rfl, fun _ => ⟨rfl, rfl⟩⟩

/-- Marking the routes of a lost session stale changes nothing of what is reported about them: per
family the number of routes received and the number accepted (not rejected at reception) are the same. -/
theorem staleAll_keeps_counters (fs : List Nat) (rib : List Route) (f : Nat) :
    ((staleAll fs rib).filter (fun r => r.fam == f)).length = (rib.filter (fun r => r.fam == f)).length ∧
    ((staleAll fs rib).filter (fun r => r.fam == f && !r.rej)).length =
      (rib.filter (fun r => r.fam == f && !r.rej)).length := by
  have key : ∀ q : Route → Bool,
      (∀ r : Route, q (if fs.contains r.fam = true then { r with stale := true } else r) = q r) →
      ((staleAll fs rib).filter q).length = (rib.filter q).length := by
    intro q hq
    have hfun : (q ∘ fun r : Route => if fs.contains r.fam = true then { r with stale := true } else r) = q :=
      funext hq
    simp only [staleAll, List.filter_map, List.length_map, hfun]
  constructor
  · apply key; intro r; split <;> rfl
  · apply key; intro r; split <;> rfl

/-- the accepted count never exceeds the received count -/
theorem accepted_le_received (p : Peer) (f : Nat) : accepted p f ≤ received p f := by
  -- the accepted routes of `f` are those of `f` among the accepted ones
  have h : p.rib.filter (fun r => r.fam == f && !r.rej) = (p.rib.filter (fun r => !r.rej)).filter (fun r => r.fam == f) :=
    List.filter_filter.symm
  rw [accepted, received, h]
  exact (List.filter_sublist.filter _).length_le

/-- non-vacuity: a neighbour with two families; GR (restart time 20) and LLGR (25 s for family 0)
negotiated; two routes; transport failure; 10 s later both routes are held stale under the restart
timer; 15 s later (restart timer expired) the LLGR family's route is LLGR-stale under its timer. -/
def exPeer : Peer :=
  { cfgGR := true, cfgNotif := false, cfgLL := true, deferral := 30,
    fams := [{ id := 0, mpCfg := true, mpEnabled := true }, { id := 1, mpCfg := true, mpEnabled := true }] }

def exCaps : Caps :=
  { gr := true, nbit := false, rbit := false, time := 20, tuples := [0, 1], llgr := true, ltuples := [(0, 25)], mp := [0, 1] }

def exHistory : List Ev :=
  [.est exCaps, .ann 0 1 1 false 0 false, .ann 1 1 1 false 0 false, .eor 0, .eor 1, .loss .readFail, .tick 10]

example : Init exPeer := ⟨rfl, rfl, rfl, rfl, rfl, by decide⟩
theorem exHistory_ok : ∀ e ∈ exHistory, EvOK e := by
  intro e he
  simp only [exHistory, List.mem_cons, List.mem_nil_iff, or_false] at he
  rcases he with rfl | rfl | rfl | rfl | rfl | rfl | rfl <;> trivial
example : (run exPeer exHistory).rib = [⟨0, 1, 1, true, 0, false, false⟩, ⟨1, 1, 1, true, 0, false, false⟩] ∧
    (run exPeer exHistory).restartAt = some 20 ∧ (run exPeer exHistory).now = 10 ∧
    (run exPeer exHistory).peerRestarting = true := by decide +kernel
example : (run exPeer (exHistory ++ [.tick 15])).rib = [⟨0, 1, 1, true, 1, false, false⟩] ∧
    (run exPeer (exHistory ++ [.tick 15])).llTimers = [(0, 45)] ∧
    (run exPeer (exHistory ++ [.tick 15])).now = 25 := by decide +kernel
example : (run exPeer (exHistory ++ [.tick 15, .tick 20])).rib = [] ∧
    (run exPeer (exHistory ++ [.tick 15, .tick 20])).peerRestarting = false := by decide +kernel

end C12
