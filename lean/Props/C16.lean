/-
  C16 — RPKI origin validation implements RFC 6811 over a correctly maintained ROA table.

  The lemmas about the table and about the RTR manager are in Lemmas/Roa.lean and
  Lemmas/RoaMgr.lean.
  `Roa.validate`, `Roa.add/delete/deleteAll`, `Roa.handleRTR`, `Roa.step` mirror
  internal/pkg/table/roa.go and pkg/server/rpki.go (the latter as repaired by the `fix:`
  commits) and are tied to them on every run by the correspondence check
  (go/overlay/internal/pkg/table/zz_verif_c16_test.go, go/overlay/pkg/server/zz_verif_c16_test.go).

  What is proved (about the model, for ALL tables / routes / PDU lists / histories):
    validate_rfc6811, validate_lists, validate_reason, covers_iff,
    origin_*, as_set_not_found                                      RFC 6811 classification
    policy_sees_same, chain_condition_sees_current_route            the policy condition, on the route as the
                                                                    earlier statements of the chain left it
    table_is_set, info_is_recount                                   Add/Delete/DeleteAll = set operations;
                                                                    the reported figures recount that set
    response_effect, reset_reply_replaces, serial_reply_applies,
    purge_exact, others_untouched                                   what one response / one purge does, and
                                                                    that it leaves the other caches alone
    stale_timeout_removes_nothing, timeout_after_*                  a lifetime-timer event overtaken by End of
                                                                    Data, re-arming or DeleteServer purges nothing
    history_invariant                                               after ANY history: table well formed,
                                                                    only records of configured caches
    serial_*                                                        serial-number arithmetic mod 2^32
  What is only sampled: that the model is the code (critbit covering walk as "all covering
  prefixes by ascending length", sockets/goroutines/timers as input events).
-/
import Lemmas.RoaMgr
namespace C16
open Roa

/-- RFC 6811 "covering VRP": a record of the table whose prefix covers the route's prefix. -/
def Covering (t : Table) (q : Prefix) (x : Rec) : Prop := x ∈ recs t ∧ covers x.1 q = true

/-- RFC 6811 "matched": same origin AS, not AS 0, route not longer than the max length. -/
def Matches (q : Prefix) (origin : Nat) (x : Rec) : Prop :=
  x.2.as = origin ∧ x.2.as ≠ 0 ∧ q.len ≤ x.2.maxLen

/-- `covers` in arithmetic terms: same family, not longer, and dropping the extra low bits of
    the route's prefix leaves the record's prefix -/
theorem covers_iff (p q : Prefix) :
    covers p q = true ↔ p.fam = q.fam ∧ p.len ≤ q.len ∧ q.bits / 2 ^ (q.len - p.len) = p.bits := by
  simp [covers, Nat.shiftRight_eq_div_pow, and_assoc]

example : covers ⟨4, 8, 10⟩ ⟨4, 16, 2561⟩ = true ∧ covers ⟨4, 8, 10⟩ ⟨4, 16, 2817⟩ = false := by decide

theorem isMatched_iff (q : Prefix) (origin : Nat) (x : Rec) :
    isMatched q.len origin x = true ↔ Matches q origin x := by
  simp only [isMatched, Matches, Bool.and_eq_true, decide_eq_true_eq, bne_iff_ne, beq_iff_eq]
  exact ⟨fun ⟨h1, h2, h3⟩ => ⟨h3, h2, h1⟩, fun ⟨h1, h2, h3⟩ => ⟨h3, h2, h1⟩⟩

/-- the three ROA lists of the answer partition the covering records -/
theorem validate_lists (t : Table) (q : Prefix) (localAS : Nat) (segs : List Seg) (origin : Nat)
    (ho : originAS localAS segs = some origin) (x : Rec) :
    (x ∈ (validate t q localAS segs).matched ↔ Covering t q x ∧ Matches q origin x) ∧
    (x ∈ (validate t q localAS segs).unmatchedAs ↔
        Covering t q x ∧ q.len ≤ x.2.maxLen ∧ ¬ (x.2.as = origin ∧ x.2.as ≠ 0)) ∧
    (x ∈ (validate t q localAS segs).unmatchedLen ↔ Covering t q x ∧ x.2.maxLen < q.len) := by
  simp only [validate, ho, List.mem_filter, mem_recs_walkMatch, isMatched_iff, isUnmatchedAs_iff,
    isUnmatchedLen_iff]
  exact ⟨.rfl, .rfl, .rfl⟩

/-- **RFC 6811 over any table.** For every table, route prefix and AS_PATH with an origin AS:
    Valid iff some covering record matches; Invalid iff covering records exist and none
    matches; NotFound iff no record covers the prefix. -/
theorem validate_rfc6811 (t : Table) (q : Prefix) (localAS : Nat) (segs : List Seg) (origin : Nat)
    (ho : originAS localAS segs = some origin) :
    ((validate t q localAS segs).status = .valid ↔ ∃ x, Covering t q x ∧ Matches q origin x) ∧
    ((validate t q localAS segs).status = .invalid ↔
        (∃ x, Covering t q x) ∧ ¬ ∃ x, Covering t q x ∧ Matches q origin x) ∧
    ((validate t q localAS segs).status = .notFound ↔ ¬ ∃ x, Covering t q x) := by
  have hl := validate_lists t q localAS segs origin ho
  rw [(validate_verdict t q localAS segs).1]
  refine verdict_partition (fun x => (hl x).1) fun x => ?_
  -- a covering record is in one of the three lists, by its max length and AS
  rw [(hl x).1, (hl x).2.1, (hl x).2.2, ← and_or_left, ← and_or_left]
  refine and_iff_left_of_imp fun _ => ?_
  by_cases h1 : q.len ≤ x.2.maxLen
  · by_cases h2 : x.2.as = origin ∧ x.2.as ≠ 0
    · exact Or.inl ⟨h2.1, h2.2, h1⟩
    · exact Or.inr (Or.inl ⟨h1, h2⟩)
  · exact Or.inr (Or.inr (Nat.lt_of_not_le h1))

example : (validate [(⟨4, 8, 10⟩, [⟨24, 100, 0⟩])] ⟨4, 16, 2561⟩ 65500 [⟨2, [300, 100]⟩]).status = .valid := by
  decide
example : originAS 65500 [⟨2, [300, 100]⟩] = some 100 := by decide

/-- the reason of an Invalid: `as` when some covering record would admit the length -/
theorem validate_reason (t : Table) (q : Prefix) (localAS : Nat) (segs : List Seg) :
    ((validate t q localAS segs).reason = .as ↔
      (validate t q localAS segs).matched = [] ∧ (validate t q localAS segs).unmatchedAs ≠ []) ∧
    ((validate t q localAS segs).reason = .length ↔
      (validate t q localAS segs).matched = [] ∧ (validate t q localAS segs).unmatchedAs = [] ∧
      (validate t q localAS segs).unmatchedLen ≠ []) := by
  rw [(validate_verdict t q localAS segs).2]
  exact verdict_reason _ _ _

/-- a path ending in an AS_SET (or an unknown segment type) is NotFound with empty lists -/
theorem as_set_not_found (t : Table) (q : Prefix) (localAS : Nat) (pre : List Seg) (as : List Nat)
    (typ : Nat) (h2 : typ ≠ 2) (h3 : typ ≠ 3) (h4 : typ ≠ 4) :
    validate t q localAS (pre ++ [⟨typ, as⟩]) = ⟨.notFound, .none, [], [], []⟩ := by
  apply validate_of_no_origin
  simp [originAS, h2, h3, h4]

/-- origin AS = last AS of a path ending in a non-empty AS_SEQUENCE -/
theorem origin_seq (localAS : Nat) (pre : List Seg) (as : List Nat) (a : Nat) :
    originAS localAS (pre ++ [⟨2, as ++ [a]⟩]) = some a := by
  simp [originAS]

/-- origin AS = local AS for the empty path … -/
theorem origin_empty (localAS : Nat) : originAS localAS [] = some localAS := rfl

/-- … and for a path made of confederation segments only -/
theorem origin_confed_only (localAS : Nat) (segs : List Seg)
    (h : ∀ s ∈ segs, s.typ = 3 ∨ s.typ = 4) : originAS localAS segs = some localAS := by
  unfold originAS
  cases hl : segs.getLast? with
  | none => rfl
  | some s =>
    have hs : s ∈ segs := List.mem_of_getLast? hl
    rcases h s hs with h3 | h4
    · simp [h3]
    · simp [h4]

example : originAS 65500 [⟨3, [65001]⟩, ⟨4, [65002]⟩] = some 65500 := by decide

/-- **Policy conditions see the same verdict**: RpkiValidationCondition.Evaluate holds exactly
    when its configured result is the status Validate returns; a nil validation (withdraw, EOR,
    family without ROA tree) matches no condition. -/
theorem policy_sees_same (want : Status) (t : Table) (q : Prefix) (localAS : Nat) (segs : List Seg) :
    (condEval want (some (validate t q localAS segs)) = true ↔
      want = (validate t q localAS segs).status) ∧ condEval want none = false := by
  simp [condEval]

/-- **… for the route as it is when the condition is evaluated.**  In a chain of statements
    (all policies of one ApplyPolicy call) a statement with an rpki condition `w` matches exactly
    when `w` is the status `validate` gives the AS_PATH as the earlier matching statements have
    left it; the rest of the chain runs on the AS_PATH this statement leaves. -/
theorem chain_condition_sees_current_route (t : Table) (q : Prefix) (localAS : Nat) (confed : Bool)
    (segs : List Seg) (s : Stmt) (rest : List Stmt) (w : Status) (hc : s.cond = some w) :
    chainEval t q localAS confed segs (s :: rest) =
      if w = (validate t q localAS segs).status then
        (if s.disp ≠ 0 then ([true], s.modify confed segs, s.disp)
         else (true :: (chainEval t q localAS confed (s.modify confed segs) rest).1,
               (chainEval t q localAS confed (s.modify confed segs) rest).2))
      else (false :: (chainEval t q localAS confed segs rest).1,
            (chainEval t q localAS confed segs rest).2) := by
  simp only [chainEval, Stmt.hit, hc, condEval, decide_eq_true_eq]

/-- what makes the difference: prepending to an empty AS_PATH (non-confederation peer) moves the
    origin from the local AS to the prepended AS … -/
theorem origin_after_prepend_empty (localAS asn rep : Nat) :
    originAS localAS (prependAsn [] asn (rep + 1) false) = some asn := by
  simp [prependAsn, originAS, List.getLast?_replicate]

/-- … so a later condition may flip: the chain that a verdict memoised per ApplyPolicy call
    (trial change seeded/C16-O) gets wrong, on the model -/
example : chainEval [(⟨4, 24, 657920⟩, [⟨24, 65100, 0⟩])] ⟨4, 24, 657920⟩ 65500 false []
    [⟨some .invalid, 1, 65100, 1, 0⟩, ⟨some .valid, 0, 0, 0, 1⟩, ⟨none, 0, 0, 0, 2⟩] =
    ([true, true], [⟨2, [65100]⟩], 1) := by decide

/-- **Add / Delete / DeleteAll are set operations** on the records of a well-formed table
    (one bucket per prefix, no duplicates), and keep it well formed — whatever the bucket
    order, the dedupe-on-(maxLen, AS, src), and the empty buckets Delete leaves behind. -/
theorem table_is_set (t : Table) (wf : WF t) (p : Prefix) (r : Roa) (s : Nat) (x : Rec) :
    (x ∈ recs (add t p r) ↔ x = (p, r) ∨ x ∈ recs t) ∧
    (x ∈ recs (delete t p r) ↔ x ∈ recs t ∧ x ≠ (p, r)) ∧
    (x ∈ recs (deleteAll t s) ↔ x ∈ recs t ∧ x.2.src ≠ s) ∧
    WF (add t p r) ∧ WF (delete t p r) ∧ WF (deleteAll t s) :=
  ⟨mem_recs_add t p r x, mem_recs_delete t p r x wf, mem_recs_deleteAll t s x,
    wf_add t p r wf, wf_delete t p r wf, wf_deleteAll t s wf⟩

/-- **Every reported figure is a recount of that set.**  On a well-formed table the listing
    (ROATable.List / ListRpkiTable) has no duplicates; the `records` figure of ROATable.Info
    (GetServers / ListRpki RecordsV4/V6) is the number of listed records of that family and
    source; the `prefixes` figure (PrefixesV4/V6) is the length of a duplicate-free list holding
    exactly the prefixes under which the source has a record — however the entries of several
    sources interleave inside a bucket. -/
theorem info_is_recount (t : Table) (wf : WF t) (fam src : Nat) :
    (recs t).Nodup ∧
    infoRecords t fam src = ((recs t).filter fun x => x.1.fam == fam && x.2.src == src).length ∧
    infoPrefixes t fam src = (infoPrefixList t fam src).length ∧
    (infoPrefixList t fam src).Nodup ∧
    ∀ p, p ∈ infoPrefixList t fam src ↔ p.fam = fam ∧ ∃ r, (p, r) ∈ recs t ∧ r.src = src :=
  ⟨recs_nodup t wf, rfl, rfl, infoPrefixList_nodup t fam src wf, mem_infoPrefixList t fam src⟩

/-- two caches with interleaving entries under one prefix: one prefix each -/
example : let t := add (add (add [] ⟨4, 16, 2560⟩ ⟨16, 100, 0⟩) ⟨4, 16, 2560⟩ ⟨24, 100, 0⟩) ⟨4, 16, 2560⟩ ⟨20, 100, 1⟩
    infoPrefixes t 4 0 = 1 ∧ infoPrefixes t 4 1 = 1 ∧ infoRecords t 4 0 = 2 := by decide

example : WF (add (add [] ⟨4, 8, 10⟩ ⟨24, 100, 0⟩) ⟨4, 8, 10⟩ ⟨24, 100, 1⟩) :=
  wf_add _ _ _ (wf_add _ _ _ wf_nil)

/-- the PDUs of a complete response -/
def response (sid sn : Nat) (ds : List Delta) : List Pdu :=
  [.cacheResponse sid] ++ ds.map Delta.pdu ++ [.endOfData sid sn]

/-- common core: after Cache Response · deltas · End of Data the table holds
    (the old records, unless purged) with the deltas applied in order -/
theorem response_effect (t : Table) (c : Client) (sid sn : Nat) (ds : List Delta) (wf : WF t)
    (hp : c.pending = []) :
    let r := feed t c (response sid sn ds)
    (∀ x, x ∈ recs r.1 ↔ x ∈ ds.foldl (applyDelta c.host)
        (if c.session ≠ sid ∨ c.answered.2 = true then recs (deleteAll t c.host) else recs t)) ∧
      WF r.1 ∧ r.2.session = sid ∧ r.2.serial = sn ∧ r.2.endOfData = true ∧ r.2.pending = [] ∧
      r.2.queries = c.answered.1.queries := by
  intro r
  -- Cache Response clears the End-of-Data flag, so the deltas go through `feed_deltas`
  have hr : r = feed (feed t { c with endOfData := false } (ds.map Delta.pdu)).1
      (feed t { c with endOfData := false } (ds.map Delta.pdu)).2 [.endOfData sid sn] := by
    simp only [r, response, feed_append]
    rfl
  obtain ⟨hmem, hwf, hhost, hsess, hq⟩ := feed_deltas ds t { c with endOfData := false } rfl wf
  generalize feed t { c with endOfData := false } (ds.map Delta.pdu) = fd at hr hmem hwf hhost hsess hq
  obtain ⟨t2, c2⟩ := fd
  simp only at hr hmem hwf hhost hsess hq
  -- End of Data decides on the purge as it would have before the deltas: same session, same queries
  have ha : c2.answered.2 = c.answered.2 := by rw [answered_snd, hq, answered_snd]
  have hT : r.1 = addAll (if c2.session ≠ sid ∨ c2.answered.2 = true then deleteAll t2 c2.host else t2)
      c2.pending := by
    rw [hr]
    rfl
  rw [hsess, ha, hhost] at hT
  refine ⟨fun x => ?_, ?_, ?_⟩
  · rw [hT, mem_recs_addAll]
    split
    · rw [mem_recs_deleteAll]
      refine (hmem (fun x => x.2.src ≠ c.host) _ (fun y => ?_) x).symm
      rw [hp, mem_recs_deleteAll]
      exact (or_iff_right List.not_mem_nil).symm
    · rw [← and_true (x ∈ recs t2)]
      refine (hmem (fun _ => True) _ (fun y => ?_) x).symm
      rw [hp, and_true]
      exact (or_iff_right List.not_mem_nil).symm
  · rw [hT]
    apply wf_addAll
    split
    · exact wf_deleteAll _ _ hwf
    · exact hwf
  · rw [hr]
    refine ⟨rfl, rfl, rfl, rfl, ?_⟩
    rw [answered_queries c, ← hq]
    exact answered_queries c2

/-- **The answer to a Reset Query replaces the cache's records.** Whatever the table held:
    when the oldest outstanding query of client `c` is a Reset Query, after
    Cache Response · announcements · End of Data the table holds, for this cache, exactly the
    announced records, and for every other cache exactly what it held before. -/
theorem reset_reply_replaces (t : Table) (c : Client) (qs : List Bool) (sid sn : Nat)
    (anns : List (Prefix × Nat × Nat)) (wf : WF t)
    (hq : c.queries = true :: qs) (hp : c.pending = []) (x : Rec) :
    let ds := anns.map fun a => (⟨true, a.1, a.2.1, a.2.2⟩ : Delta)
    let r := feed t c (response sid sn ds)
    (x ∈ recs r.1 ↔ (∃ a ∈ anns, x = (a.1, ⟨a.2.1, a.2.2, c.host⟩)) ∨ (x ∈ recs t ∧ x.2.src ≠ c.host)) ∧
      r.2.queries = qs := by
  intro ds r
  have hans : c.answered.2 = true := by rw [answered_snd, hq]; rfl
  have hall : ∀ d ∈ ds, d.announce = true := by
    intro d hd
    obtain ⟨a, _, rfl⟩ := List.mem_map.mp hd
    rfl
  obtain ⟨hmem, _, _, _, _, _, hqs⟩ := response_effect t c sid sn ds wf hp
  refine ⟨?_, by rw [hqs, answered_queries, hq]; rfl⟩
  rw [hmem x, if_pos (Or.inr hans), mem_foldl_announce c.host ds hall, mem_recs_deleteAll]
  refine or_congr_left ⟨fun ⟨d, hd, e⟩ => ?_, fun ⟨a, ha, e⟩ => ⟨_, List.mem_map_of_mem ha, e⟩⟩
  obtain ⟨a, ha, rfl⟩ := List.mem_map.mp hd
  exact ⟨a, ha, e⟩

example : ∃ c : Client, c.queries = true :: [] ∧ c.pending = [] := ⟨{ host := 0, queries := [true] }, rfl, rfl⟩

/-- **The answer to a Serial Query applies the deltas in order.** When the oldest outstanding
    query is a Serial Query (or none is outstanding) and the session id is unchanged, after
    Cache Response · announcements and withdrawals · End of Data the table holds exactly the
    records it held before with every delta applied in order — duplicates, withdrawals of
    unknown records and announce-then-withdraw included. -/
theorem serial_reply_applies (t : Table) (c : Client) (sid sn : Nat) (ds : List Delta) (wf : WF t)
    (hq : c.queries = [] ∨ ∃ qs, c.queries = false :: qs) (hs : c.session = sid)
    (hp : c.pending = []) (x : Rec) :
    x ∈ recs (feed t c (response sid sn ds)).1 ↔ x ∈ ds.foldl (applyDelta c.host) (recs t) := by
  have hans : c.answered.2 = false := by
    rw [answered_snd]
    rcases hq with h | ⟨qs, h⟩
    · rw [h]; rfl
    · rw [h]; rfl
  have hnp : ¬ (c.session ≠ sid ∨ c.answered.2 = true) := by
    rw [hans]
    exact fun h => h.elim (fun h => h hs) Bool.false_ne_true
  rw [(response_effect t c sid sn ds wf hp).1 x, if_neg hnp]

example : (feed [] { host := 7, endOfData := true } (response 0 1 [⟨true, ⟨4, 8, 10⟩, 8, 100⟩,
    ⟨false, ⟨4, 8, 10⟩, 8, 100⟩])).1 = [] := by decide

/-- **Purges.** Disable / Reset, SoftReset, DeleteServer and the timeout event of the lifetime
    timer that is still running (armed as generation `c.timerGen`, not stopped since; session
    unchanged since the disconnect) remove exactly the records of that cache. -/
theorem purge_exact (m : Mgr) (h : Nat) (c : Client) (hc : findClient m.clients h = some c) (x : Rec) :
    (x ∈ recs (step m (.disable h)).1.table ↔ x ∈ recs m.table ∧ x.2.src ≠ h) ∧
    (x ∈ recs (step m (.softReset h)).1.table ↔ x ∈ recs m.table ∧ x.2.src ≠ h) ∧
    (x ∈ recs (step m (.deleteServer h)).1.table ↔ x ∈ recs m.table ∧ x.2.src ≠ h) ∧
    (c.oldSession = c.session → c.timer = true →
      (x ∈ recs (step m (.lifetime h c.timerGen)).1.table ↔ x ∈ recs m.table ∧ x.2.src ≠ h)) := by
  have hd := mem_recs_deleteAll m.table h x
  simp only [step, hc]
  refine ⟨hd, hd, hd, fun he ht => ?_⟩
  simp only [he, ht, ne_eq, not_true_eq_false, Bool.true_eq_false, or_self, ↓reduceIte]
  exact hd

/- The timer callback posts its event on the manager's channel; the event may be handled long
   after the timer fired. -/

/-- **A stale timeout event removes nothing — now or after any further history.** -/
theorem stale_timeout_removes_nothing (m : Mgr) (h g : Nat) (hs : StaleGen m h g) (evs : List Ev) :
    step (run m evs) (.lifetime h g) = (run m evs, true, []) :=
  stale_lifetime_noop _ h g (stale_run m evs h g hs)

/-- End of Data stops the timer: every timeout event issued so far for that cache is stale from
    then on (the race: the timer fired, its event waits in the channel while End of Data of the
    new synchronisation is handled — same or different session id). -/
theorem timeout_after_end_of_data (m : Mgr) (h g sid sn : Nat) (c : Client)
    (hc : findClient m.clients h = some c) (hg : g ≤ m.timerSeq) (evs : List Ev) :
    step (run (step m (.rtr h (.endOfData sid sn))).1 evs) (.lifetime h g) =
      (run (step m (.rtr h (.endOfData sid sn))).1 evs, true, []) := by
  apply stale_timeout_removes_nothing
  simp only [step, hc]
  refine ⟨hg, ?_⟩
  intro y hy hyh
  left
  have hh : (handleRTR m.table c (.endOfData sid sn)).2.1.host = h :=
    (handleRTR_evolves 0 m.table c _).host.trans (findClient_some hc).2
  rw [mem_setClient_host hy (hyh.trans hh.symm)]
  rfl

/-- re-arming (a disconnect when no timer is pending) takes a fresh generation: every timeout
    event issued before is stale from then on -/
theorem timeout_after_rearm (m : Mgr) (h g : Nat) (c : Client)
    (hc : findClient m.clients h = some c) (ht : c.timer = false) (hg : g ≤ m.timerSeq)
    (evs : List Ev) :
    step (run (step m (.disconnected h)).1 evs) (.lifetime h g) =
      (run (step m (.disconnected h)).1 evs, true, []) := by
  apply stale_timeout_removes_nothing
  simp only [step, hc, ht, Bool.false_eq_true, if_false]
  refine ⟨Nat.le_succ_of_le hg, fun y hy hyh => Or.inr ?_⟩
  rw [mem_setClient_host hy (hyh.trans (findClient_some hc).2.symm)]
  exact Nat.ne_of_gt (Nat.lt_succ_of_le hg)

/-- DeleteServer: timeout events of the deleted client are stale for whoever is configured
    under that name later -/
theorem timeout_after_delete_server (m : Mgr) (h g : Nat) (hg : g ≤ m.timerSeq) (evs : List Ev) :
    step (run (step m (.deleteServer h)).1 evs) (.lifetime h g) =
      (run (step m (.deleteServer h)).1 evs, true, []) := by
  apply stale_timeout_removes_nothing
  simp only [step]
  split
  · rename_i hf
    exact ⟨hg, fun y hy hyh => absurd hyh (findClient_none hf y hy)⟩
  · exact ⟨hg, fun y hy hyh => absurd hyh (bne_iff_ne.mp (List.mem_filter.mp hy).2)⟩

/-- the interleaving reported for the unrepaired code, on the model: disconnect, reconnect, the
    timer (generation 1) fires, End of Data of the new synchronisation with the SAME session id
    is handled, then the waiting event — the table keeps the fresh records -/
example : (run {} [.addServer 1, .connected 1, .rtr 1 (.cacheResponse 5),
    .rtr 1 (.prefix true ⟨4, 8, 10⟩ 8 100), .rtr 1 (.endOfData 5 9),
    .connClosed 1, .disconnected 1, .connected 1, .rtr 1 (.cacheResponse 5),
    .rtr 1 (.prefix true ⟨4, 8, 10⟩ 8 100), .rtr 1 (.endOfData 5 9),
    .lifetime 1 1]).table = [(⟨4, 8, 10⟩, [⟨8, 100, 1⟩])] := by decide

/-- … while the same event handled BEFORE End of Data is a legitimate expiry and purges -/
example : (run {} [.addServer 1, .connected 1, .rtr 1 (.cacheResponse 5),
    .rtr 1 (.prefix true ⟨4, 8, 10⟩ 8 100), .rtr 1 (.endOfData 5 9),
    .connClosed 1, .disconnected 1, .connected 1, .lifetime 1 1]).table = [] := by decide

/-- the PDUs of one cache never touch the records of another (the other events of a cache only
    purge its own records: `purge_exact`) -/
theorem others_untouched (t : Table) (c : Client) (pdu : Pdu) (wf : WF t)
    (hp : ∀ x ∈ c.pending, x.2.src = c.host) (x : Rec) (hx : x.2.src ≠ c.host) :
    x ∈ recs (handleRTR t c pdu).1 ↔ x ∈ recs t :=
  ((handleRTR_evolves 0 t c pdu).table wf hp).others x hx

/-- **After any history** of API calls, connection events, timer expiries and PDUs (well formed
    or not, from any number of caches) the table is well formed and holds only records whose
    source is a currently configured cache. -/
theorem history_invariant (evs : List Ev) :
    WF (run {} evs).table ∧
      ∀ x ∈ recs (run {} evs).table, x.2.src ∈ (run {} evs).clients.map (·.host) :=
  ⟨(inv_run {} evs inv_empty).wf, (inv_run {} evs inv_empty).src⟩

example : (run {} [.addServer 1, .connected 1, .rtr 1 (.cacheResponse 5),
    .rtr 1 (.prefix true ⟨4, 8, 10⟩ 8 100), .rtr 1 (.endOfData 5 9), .deleteServer 1]).table = [] := by
  decide

/- Serial-number arithmetic: RFC 1982 on 32 bits. -/

theorem serial_irrefl (a : Nat) : before a a = false := by
  simp only [before, decide_eq_false_iff_not]; omega

/-- `before` is asymmetric except at the antipode, where it holds both ways -/
theorem serial_asymm (a b : Nat) (ha : a < 4294967296) (hb : b < 4294967296) :
    (before a b = true ∧ before b a = true) ↔ (a + 2147483648) % 4294967296 = b := by
  rw [before_iff a b ha hb, before_iff b a hb ha]
  omega

/-- a serial is before its next 2^31 - 1 successors, wrap-around included -/
theorem serial_succ (a k : Nat) (ha : a < 4294967296) (hk : 0 < k) (hk2 : k < 2147483648) :
    before a ((a + k) % 4294967296) = true ∧ before ((a + k) % 4294967296) a = false := by
  have hm : (a + k) % 4294967296 < 4294967296 := Nat.mod_lt _ (by decide)
  rw [← Bool.not_eq_true, before_iff _ _ ha hm, before_iff _ _ hm ha]
  omega

/-- the three branches of the Serial Notify handler are exhaustive: newer → Serial Query,
    equal → nothing, otherwise the notified serial is older (off the antipode they are also
    exclusive, by `serial_asymm` and `serial_irrefl`) -/
theorem serial_trichotomy (cur n : Nat) (hc : cur < 4294967296) (hn : n < 4294967296) :
    before cur n = true ∨ cur = n ∨ before n cur = true := by
  rw [before_iff cur n hc hn, before_iff n cur hn hc]
  omega

example : before 4294967295 0 = true ∧ before 0 4294967295 = false := by decide

end C16
