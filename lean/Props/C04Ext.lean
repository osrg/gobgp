import Model.WireExt
import Lemmas.ApiConvX
/-!
# C04, extension: the 8-octet extended-community codec (EXTENDED_COMMUNITIES attribute value)

About `Model/WireExt.lean` (decoder: ParseExtended, parseOpaqueExtended, parseEvpnExtended, the value
loop of PathAttributeExtendedCommunities.DecodeFromBytes) and `ApiConv.encExt` (…Extended.Serialize).

Encode then decode is the identity on canonical values (`ExtCanon`).  The other direction is stated for
ALL octet strings: `decExt_faithful` walks the decoder's dispatch once and yields both that an accepted
value is canonical and that, for the kinds without reserved octets, it serialises to the octets it was
read from; the remaining kinds are delimited by the two counterexamples.  The second part has the round
trip and the canonicity of what is accepted for the 20-octet IPv6-address-specific communities.
-/
namespace C04
open Wire ApiConv WireExt

private theorem be16_eq (n : Nat) : be16 n = [n / 256 % 256, n % 256] := rfl
private theorem be32_eq (n : Nat) :
    be32 n = [n / 16777216 % 256, n / 65536 % 256, n / 256 % 256, n % 256] := rfl

private theorem rd16_2 (a b : Nat) (r : Bytes) : rd16 (a :: b :: r) = a * 256 + b := rfl
private theorem rd32_4 (a b c d : Nat) (r : Bytes) :
    rd32 (a :: b :: c :: d :: r) = ((a * 256 + b) * 256 + c) * 256 + d := rfl

private theorem len7 {v : Bytes} (h : v.length = 7) :
    ∃ a b c d e f g, v = [a, b, c, d, e, f, g] := by
  match v, h with
  | [a, b, c, d, e, f, g], _ => exact ⟨a, b, c, d, e, f, g, rfl⟩

private theorem len6 {v : Bytes} (h : v.length = 6) :
    ∃ a b c d e f, v = [a, b, c, d, e, f] := by
  match v, h with
  | [a, b, c, d, e, f], _ => exact ⟨a, b, c, d, e, f, rfl⟩

/-- every canonical value serialises to 8 octets -/
theorem ext_encode_length (e : ExtComm) (h : ExtCanon e) : (encExt e).length = 8 := by
  cases e with
  | «opaque» tr v => exact congrArg (· + 1) h.1
  | esImport m => rw [encExt, padTo_of_length h.1]; exact congrArg (· + 2) h.1
  | routerMac m => exact congrArg (· + 2) h.1
  | unknown t v => exact congrArg (· + 1) h.2.1
  | noApiMessage o => exact h.elim
  | _ => rfl

private theorem decExt_cons8 (t a1 a2 a3 a4 a5 a6 a7 : Nat) (r : Bytes) :
    decExt (t :: a1 :: a2 :: a3 :: a4 :: a5 :: a6 :: a7 :: r) =
      if t = 0 then .ok (decTwoOctet true [t, a1, a2, a3, a4, a5, a6, a7])
      else if t = 64 then .ok (decTwoOctet false [t, a1, a2, a3, a4, a5, a6, a7])
      else if t = 1 then .ok (.ipv4 a1 (rd32 [a2, a3, a4, a5, a6, a7]) (rd16 [a6, a7]) true)
      else if t = 65 then .ok (.ipv4 a1 (rd32 [a2, a3, a4, a5, a6, a7]) (rd16 [a6, a7]) false)
      else if t = 2 then .ok (.fourOctetAs a1 (rd32 [a2, a3, a4, a5, a6, a7]) (rd16 [a6, a7]) true)
      else if t = 66 then .ok (.fourOctetAs a1 (rd32 [a2, a3, a4, a5, a6, a7]) (rd16 [a6, a7]) false)
      else if t = 3 then .ok (decOpaque true [t, a1, a2, a3, a4, a5, a6, a7])
      else if t = 67 then .ok (decOpaque false [t, a1, a2, a3, a4, a5, a6, a7])
      else if t = 6 then decEvpn [t, a1, a2, a3, a4, a5, a6, a7]
      else if (t = 128 ∨ t = 129) ∨ t = 130 then decExperimental [t, a1, a2, a3, a4, a5, a6, a7]
      else if t = 12 then decMup [t, a1, a2, a3, a4, a5, a6, a7]
      else .ok (.unknown t [a1, a2, a3, a4, a5, a6, a7]) := by
  simp only [decExt, at', List.length_cons, Nat.not_lt.2 (Nat.le_add_left 8 _), if_false,
    List.take_succ_cons, List.take_zero, List.getD_cons_zero, List.getD_cons_succ, List.drop_succ_cons,
    List.drop_zero, beq_iff_eq, Bool.or_eq_true]

/-- decode ∘ encode = id on canonical values, whatever follows in the buffer -/
theorem ext_decode_encode (e : ExtComm) (rest : Bytes) (h : ExtCanon e) :
    decExt (encExt e ++ rest) = .ok e := by
  -- per kind: the dispatch on the literal type / sub-type octets computes, then the fields round-trip
  cases e with
  | twoOctetAs st as la tr =>
    obtain ⟨h1, h2, h3, h4⟩ := h
    have hs : decTwoOctet tr (encExt (.twoOctetAs st as la tr) ++ rest) =
        .twoOctetAs (st % 256) (rd16 (be16 as ++ (be32 la ++ rest))) (rd32 (be32 la ++ rest)) tr :=
      if_neg (by rw [beq_iff_eq]; exact fun c => h2 ((Nat.mod_eq_of_lt h1).symm.trans c))
    calc
      _ = .ok (decTwoOctet tr (encExt (.twoOctetAs st as la tr) ++ rest)) := by
        cases tr <;> exact (decExt_cons8 ..).trans rfl
      _ = _ := by rw [hs, Nat.mod_eq_of_lt h1, rd16_be16 as h3, rd32_be32 la h4]
  | ipv4 st a la tr => calc
      _ = .ok (.ipv4 (st % 256) (rd32 (be32 a ++ (be16 la ++ rest))) (rd16 (be16 la ++ rest)) tr) := by
        cases tr <;> exact (decExt_cons8 ..).trans rfl
      _ = _ := by rw [Nat.mod_eq_of_lt h.1, rd32_be32 a h.2.1, rd16_be16 la h.2.2]
  | fourOctetAs st as la tr => calc
      _ = .ok (.fourOctetAs (st % 256) (rd32 (be32 as ++ (be16 la ++ rest))) (rd16 (be16 la ++ rest)) tr) := by
        cases tr <;> exact (decExt_cons8 ..).trans rfl
      _ = _ := by rw [Nat.mod_eq_of_lt h.1, rd32_be32 as h.2.1, rd16_be16 la h.2.2]
  | validation s => calc
      _ = .ok (.validation (s % 256)) := (decExt_cons8 ..).trans rfl
      _ = _ := by rw [Nat.mod_eq_of_lt h]
  | linkBandwidth as bw => calc
      _ = .ok (.linkBandwidth (rd16 (be16 as ++ (be32 bw ++ rest))) (rd32 (be32 bw ++ rest))) :=
        (decExt_cons8 ..).trans rfl
      _ = _ := by rw [rd16_be16 as h.1, rd32_be32 bw h.2]
  | color c => calc
      _ = .ok (.color (rd32 (be32 c ++ rest))) := (decExt_cons8 ..).trans rfl
      _ = _ := by rw [rd32_be32 c h]
  | encap t => calc
      _ = .ok (.encap (rd16 (be16 t ++ rest))) := (decExt_cons8 ..).trans rfl
      _ = _ := by rw [rd16_be16 t h]
  | defaultGateway => exact (decExt_cons8 ..).trans rfl
  | esiLabel l s => calc
      _ = .ok (.esiLabel (l / 65536 % 256 * 65536 + l / 256 % 256 * 256 + l % 256) s) := by
        cases s <;> exact (decExt_cons8 ..).trans rfl
      _ = _ := by rw [Octets.pow24, Octets.horner24 h]
  | macMobility q s => calc
      _ = .ok (.macMobility (rd32 (be32 q ++ rest)) s) := by
        cases s <;> exact (decExt_cons8 ..).trans rfl
      _ = _ := by rw [rd32_be32 q h]
  | esImport m =>
    obtain ⟨a, b, c, d, e, f, rfl⟩ := len6 h.1
    exact (decExt_cons8 ..).trans rfl
  | routerMac m =>
    obtain ⟨a, b, c, d, e, f, rfl⟩ := len6 h.1
    exact (decExt_cons8 ..).trans rfl
  | «opaque» tr v =>
    obtain ⟨h1, -, h3⟩ := h
    obtain ⟨a, b, c, d, e, f, g, rfl⟩ := len7 h1
    calc
      _ = .ok (decOpaque tr [tbit tr 3, a, b, c, d, e, f, g]) := by
        cases tr <;> exact (decExt_cons8 ..).trans rfl
      _ = _ := by cases tr <;> simp at h3 <;> simp [decOpaque, at', h3]
  | unknown t v =>
    obtain ⟨h1, h2, -, h4, h5⟩ := h
    obtain ⟨a, b, c, d, e, f, g, rfl⟩ := len7 h2
    simp only [List.mem_cons, List.not_mem_nil, or_false, not_or, List.getD_cons_zero,
      List.getD_cons_succ] at h4 h5
    -- `h4` sends the type octet past every typed branch; what is left is the experimental range
    simp only [encExt, Nat.mod_eq_of_lt h1, List.cons_append, List.nil_append, decExt_cons8, h4, if_false]
    split
    next hx =>
      obtain ⟨k1, k2⟩ := h5 (by simpa only [or_assoc] using hx)
      simp only [decExperimental, at', List.getD_cons_zero, List.getD_cons_succ, beq_iff_eq,
        Bool.or_eq_true, Bool.and_eq_true, k1, k2, or_self, if_false, List.drop_succ_cons,
        List.drop_zero, List.take_succ_cons, List.take_zero]
    next => rfl
  | noApiMessage o => exact h.elim

private theorem len8 {b : Bytes} (h : ¬ b.length < 8) :
    ∃ a0 a1 a2 a3 a4 a5 a6 a7 r, b = a0 :: a1 :: a2 :: a3 :: a4 :: a5 :: a6 :: a7 :: r := by
  have h8 : (b.take 8).length = 8 := List.length_take.trans (Nat.min_eq_left (Nat.le_of_not_lt h))
  match hd : b.take 8, h8 with
  | [a0, a1, a2, a3, a4, a5, a6, a7], _ =>
    exact ⟨a0, a1, a2, a3, a4, a5, a6, a7, b.drop 8, by rw [← List.take_append_drop 8 b, hd]; rfl⟩

/-- the kinds whose 8 octets carry no reserved / normalised octet -/
def NoReserved : ExtComm → Prop
  | .twoOctetAs .. | .ipv4 .. | .fourOctetAs .. | .opaque .. | .unknown .. | .esImport .. | .routerMac .. => True
  | _ => False

/-- `e` is a faithful reading of the 8 octets `d`: a canonical value which, unless its kind has reserved
    octets, serialises to `d` again -/
def Faithful (d : Bytes) (e : ExtComm) : Prop :=
  ExtCanon e ∧ (NoReserved e → encExt e = d)

section
variable {a0 a1 a2 a3 a4 a5 a6 a7 : Nat} {d : Bytes} (hd : d = [a0, a1, a2, a3, a4, a5, a6, a7])
  (ho : ∀ x ∈ d, x < 256)
include hd ho

private theorem octets8 :
    a0 < 256 ∧ a1 < 256 ∧ a2 < 256 ∧ a3 < 256 ∧ a4 < 256 ∧ a5 < 256 ∧ a6 < 256 ∧ a7 < 256 := by
  subst hd
  simpa only [List.forall_mem_cons, List.not_mem_nil, false_imp_iff, implies_true, and_true] using ho

private theorem decTwoOctet_faithful (tr : Bool) (h0 : a0 = tbit tr 0) : Faithful d (decTwoOctet tr d) := by
  obtain ⟨-, h1, h2, h3, h4, h5, h6, h7⟩ := octets8 hd ho
  subst hd h0
  simp only [decTwoOctet, at', List.getD_cons_zero, List.getD_cons_succ, List.drop_succ_cons,
    List.drop_zero, beq_iff_eq]
  by_cases c : a1 = 4
  · rw [if_pos c]
    exact ⟨⟨rd16_lt h2 h3, rd32_lt h4 h5 h6 h7⟩, False.elim⟩
  · rw [if_neg c]
    refine ⟨⟨h1, c, rd16_lt h2 h3, rd32_lt h4 h5 h6 h7⟩, fun _ => ?_⟩
    rw [encExt, Nat.mod_eq_of_lt h1, be16_rd16 h2 h3, Wire.be32_rd32 h4 h5 h6 h7]
    rfl

private theorem decOpaque_faithful (tr : Bool) (h0 : a0 = tbit tr 3) : Faithful d (decOpaque tr d) := by
  obtain ⟨-, h1, h2, h3, h4, h5, h6, h7⟩ := octets8 hd ho
  subst hd h0
  have hv : ∀ x ∈ [a1, a2, a3, a4, a5, a6, a7], x < 256 := fun x hx => ho x (.tail _ hx)
  simp only [decOpaque, at', List.getD_cons_zero, List.getD_cons_succ, List.drop_succ_cons,
    List.drop_zero, List.take_succ_cons, List.take_zero, beq_iff_eq, Bool.and_eq_true]
  cases tr
  · simp only [Bool.false_eq_true, false_and, if_false, Bool.not_false, true_and]
    by_cases c : a1 = 0
    · rw [if_pos c]; exact ⟨h7, False.elim⟩
    · rw [if_neg c]; exact ⟨⟨rfl, hv, c⟩, fun _ => rfl⟩
  · simp only [true_and, Bool.not_true, Bool.false_eq_true, false_and, if_false]
    by_cases c1 : a1 = 11
    · rw [if_pos c1]; exact ⟨rd32_lt h4 h5 h6 h7, False.elim⟩
    rw [if_neg c1]
    by_cases c2 : a1 = 12
    · rw [if_pos c2]; exact ⟨rd16_lt h6 h7, False.elim⟩
    rw [if_neg c2]
    by_cases c3 : a1 = 13
    · rw [if_pos c3]; exact ⟨trivial, False.elim⟩
    rw [if_neg c3]
    exact ⟨⟨rfl, hv, c1, c2, c3⟩, fun _ => rfl⟩

private theorem decEvpn_faithful {e : ExtComm} (h0 : a0 = 6) (h : decEvpn d = .ok e) : Faithful d e := by
  obtain ⟨-, -, -, -, h4, h5, h6, h7⟩ := octets8 hd ho
  subst hd h0
  have hm : ∀ x ∈ [a2, a3, a4, a5, a6, a7], x < 256 := fun x hx => ho x (.tail _ (.tail _ hx))
  simp only [decEvpn, at', List.getD_cons_zero, List.getD_cons_succ, List.drop_succ_cons,
    List.drop_zero, List.take_succ_cons, List.take_zero, beq_iff_eq] at h
  by_cases c1 : a1 = 1
  · rw [if_pos c1] at h; cases h; exact ⟨Octets.lt24 h5 h6 h7, False.elim⟩
  rw [if_neg c1] at h
  by_cases c2 : a1 = 2
  · rw [if_pos c2] at h; cases h; subst c2; exact ⟨⟨rfl, hm⟩, fun _ => rfl⟩
  rw [if_neg c2] at h
  by_cases c0 : a1 = 0
  · rw [if_pos c0] at h; cases h; exact ⟨rd32_lt h4 h5 h6 h7, False.elim⟩
  rw [if_neg c0] at h
  by_cases c3 : a1 = 3
  · rw [if_pos c3] at h; cases h; subst c3; exact ⟨⟨rfl, hm⟩, fun _ => rfl⟩
  rw [if_neg c3] at h
  split at h <;> cases h

private theorem decExperimental_faithful {e : ExtComm} (h0 : (a0 = 128 ∨ a0 = 129) ∨ a0 = 130)
    (h : decExperimental d = .ok e) : Faithful d e := by
  have k0 := (octets8 hd ho).1
  subst hd
  simp only [decExperimental, at', List.getD_cons_zero, List.getD_cons_succ, List.drop_succ_cons,
    List.drop_zero, List.take_succ_cons, List.take_zero, beq_iff_eq, Bool.or_eq_true,
    Bool.and_eq_true] at h
  by_cases c1 : ((a1 = 6 ∨ a1 = 7) ∨ a1 = 8) ∨ a1 = 9
  · rw [if_pos c1] at h; cases h
  rw [if_neg c1] at h
  by_cases c2 : a1 = 10 ∧ a2 = 19
  · rw [if_pos c2] at h; cases h
  rw [if_neg c2] at h
  cases h
  refine ⟨⟨k0, rfl, fun x hx => ho x (.tail _ hx), ?_, fun _ => ⟨?_, c2⟩⟩, fun _ => ?_⟩
  · rcases h0 with (rfl | rfl) | rfl <;> decide
  · simpa only [List.getD_cons_zero, List.mem_cons, List.not_mem_nil, or_false, or_assoc] using c1
  · rw [encExt, Nat.mod_eq_of_lt k0]

end

theorem decExt_faithful (b : Bytes) (e : ExtComm) (hb : ∀ x ∈ b, x < 256) (h : decExt b = .ok e) :
    Faithful (b.take 8) e := by
  by_cases hl : b.length < 8
  · rw [decExt, if_pos hl] at h; cases h
  have ho : ∀ x ∈ b.take 8, x < 256 := fun x hx => hb x (List.mem_of_mem_take hx)
  obtain ⟨a0, a1, a2, a3, a4, a5, a6, a7, r, rfl⟩ := len8 hl
  obtain ⟨h0, h1, h2, h3, h4, h5, h6, h7⟩ := octets8 rfl ho
  -- the two kinds laid out as sub-type, 32-bit field, 16-bit field
  have c4 : a1 < 256 ∧ rd32 [a2, a3, a4, a5, a6, a7] < 4294967296 ∧ rd16 [a6, a7] < 65536 :=
    ⟨h1, rd32_lt h2 h3 h4 h5, rd16_lt h6 h7⟩
  have f4 : [a1 % 256] ++ be32 (rd32 [a2, a3, a4, a5, a6, a7]) ++ be16 (rd16 [a6, a7]) =
      [a1, a2, a3, a4, a5, a6, a7] := by
    rw [Nat.mod_eq_of_lt h1, Wire.be32_rd32 h2 h3 h4 h5, be16_rd16 h6 h7]; rfl
  rw [decExt_cons8] at h
  by_cases c0 : a0 = 0
  · rw [if_pos c0] at h; cases h; exact decTwoOctet_faithful rfl ho true c0
  rw [if_neg c0] at h
  by_cases c64 : a0 = 64
  · rw [if_pos c64] at h; cases h; exact decTwoOctet_faithful rfl ho false c64
  rw [if_neg c64] at h
  by_cases c1 : a0 = 1
  · rw [if_pos c1] at h; cases h; subst c1; exact ⟨c4, fun _ => congrArg (1 :: ·) f4⟩
  rw [if_neg c1] at h
  by_cases c65 : a0 = 65
  · rw [if_pos c65] at h; cases h; subst c65; exact ⟨c4, fun _ => congrArg (65 :: ·) f4⟩
  rw [if_neg c65] at h
  by_cases c2 : a0 = 2
  · rw [if_pos c2] at h; cases h; subst c2; exact ⟨c4, fun _ => congrArg (2 :: ·) f4⟩
  rw [if_neg c2] at h
  by_cases c66 : a0 = 66
  · rw [if_pos c66] at h; cases h; subst c66; exact ⟨c4, fun _ => congrArg (66 :: ·) f4⟩
  rw [if_neg c66] at h
  by_cases c3 : a0 = 3
  · rw [if_pos c3] at h; cases h; exact decOpaque_faithful rfl ho true c3
  rw [if_neg c3] at h
  by_cases c67 : a0 = 67
  · rw [if_pos c67] at h; cases h; exact decOpaque_faithful rfl ho false c67
  rw [if_neg c67] at h
  by_cases c6 : a0 = 6
  · rw [if_pos c6] at h; exact decEvpn_faithful rfl ho c6 h
  rw [if_neg c6] at h
  by_cases cx : (a0 = 128 ∨ a0 = 129) ∨ a0 = 130
  · rw [if_pos cx] at h; exact decExperimental_faithful rfl ho cx h
  rw [if_neg cx] at h
  by_cases c12 : a0 = 12
  · rw [if_pos c12, decMup] at h; split at h <;> cases h
  rw [if_neg c12] at h
  cases h
  refine ⟨⟨h0, rfl, fun x hx => ho x (.tail _ hx), ?_, fun hm => (cx ?_).elim⟩, fun _ => ?_⟩
  · simp only [List.mem_cons, List.not_mem_nil, or_false, not_or]
    exact ⟨c0, c64, c1, c65, c2, c66, c3, c67, c6, c12⟩
  · simpa only [List.mem_cons, List.not_mem_nil, or_false, or_assoc] using hm
  · rw [encExt, Nat.mod_eq_of_lt h0]; rfl

/-- for ALL octet strings: a value the decoder yields in a modelled kind is canonical -/
theorem ext_decoded_is_canon (b : Bytes) (e : ExtComm) (hb : ∀ x ∈ b, x < 256)
    (h : decExt b = .ok e) : ExtCanon e :=
  (decExt_faithful b e hb h).1

/-- for ALL octet strings the decoder accepts into a modelled kind: serialising the decoded value
    gives 8 octets that decode to the same value again (re-serialising a parsed value is a fixpoint) -/
theorem ext_reserialise_fixpoint (b : Bytes) (e : ExtComm) (hb : ∀ x ∈ b, x < 256)
    (h : decExt b = .ok e) (rest : Bytes) :
    (encExt e).length = 8 ∧ decExt (encExt e ++ rest) = .ok e :=
  ⟨ext_encode_length e (ext_decoded_is_canon b e hb h), ext_decode_encode e rest (ext_decoded_is_canon b e hb h)⟩

/-- partial converse: for the kinds without reserved octets, serialising the decoded value gives the
    first 8 input octets back, for ALL octet strings.  (`_partial`: false for the other kinds, see
    `ext_reserved_octets_counterexample` and `ext_linkbw_transitive_bit_counterexample`.) -/
theorem ext_reserialise_identity_partial (b : Bytes) (e : ExtComm) (hb : ∀ x ∈ b, x < 256)
    (h : decExt b = .ok e) (hk : NoReserved e) : encExt e = b.take 8 :=
  (decExt_faithful b e hb h).2 hk

/-- the premises are satisfiable: a route target, decoded from octets followed by junk -/
example : decExt [0, 2, 253, 232, 0, 0, 0, 100, 9, 9] = .ok (.twoOctetAs 2 65000 100 true) := by decide

/-- the transitive bit of a link-bandwidth community does not survive decode → serialise:
    0x00 0x04 … comes back as 0x40 0x04 … (LinkBandwidthExtended.GetTypes is always non-transitive) -/
theorem ext_linkbw_transitive_bit_counterexample :
    decExt [0, 4, 0, 1, 0, 0, 0, 0] = .ok (.linkBandwidth 1 0) ∧
    encExt (.linkBandwidth 1 0) = [64, 4, 0, 1, 0, 0, 0, 0] := by decide

/-- reserved octets are not kept: a colour community with non-zero octets 2-3 re-serialises with zeros -/
theorem ext_reserved_octets_counterexample :
    decExt [3, 11, 7, 7, 0, 0, 0, 5] = .ok (.color 5) ∧ encExt (.color 5) = [3, 11, 0, 0, 0, 0, 0, 5] := by
  decide

/-- the list attribute value: 8 octets per canonical community -/
theorem exts_length : ∀ l : List ExtComm, (∀ e ∈ l, ExtCanon e) → (encExts l).length = 8 * l.length
  | [], _ => rfl
  | e :: es, h => by
    rw [encExts, List.length_append, ext_encode_length e (h e (.head _)),
      exts_length es fun x hx => h x (.tail _ hx), List.length_cons, Nat.mul_succ, Nat.add_comm]

private theorem decExtsAux_enc : ∀ (l : List ExtComm) (fuel : Nat), (∀ e ∈ l, ExtCanon e) →
    l.length ≤ fuel → decExtsAux fuel (encExts l) = some (l.map some)
  | [], fuel, _, _ => by cases fuel <;> simp [decExtsAux, encExts]
  | e :: es, 0, _, hf => by simp at hf
  | e :: es, fuel + 1, h, hf => by
    have hc := h e (.head _)
    have ih := decExtsAux_enc es fuel (fun x hx => h x (.tail _ hx)) (Nat.le_of_succ_le_succ hf)
    obtain ⟨-, hlen, hdrop⟩ := frame (ext_encode_length e hc) (by decide) (encExts es)
    simp only [decExtsAux, encExts, if_neg hlen, ext_decode_encode e (encExts es) hc, hdrop, ih]
    rfl

/-- PathAttributeExtendedCommunities: DecodeFromBytes of the serialised value gives the list back -/
theorem exts_decode_encode (l : List ExtComm) (h : ∀ e ∈ l, ExtCanon e) :
    decExts (encExts l) = some (l.map some) := by
  have hl := exts_length l h
  have : ¬ ((encExts l).length % 8 != 0) = true := by simp [hl]
  simp only [decExts, if_neg this]
  exact decExtsAux_enc l _ h (hl ▸ Nat.le_mul_of_pos_left _ (by decide))

/-- a value whose length is not a multiple of 8 is refused (ATTRIBUTE_LENGTH_ERROR) -/
theorem exts_bad_length_rejected (v : Bytes) (h : v.length % 8 ≠ 0) : decExts v = none := by
  simp [decExts, h]

/-- non-vacuity: a two-element list with junk-free framing -/
example : decExts (encExts [.color 5, .twoOctetAs 2 65000 100 true]) =
    some [some (.color 5), some (.twoOctetAs 2 65000 100 true)] := by decide


/-! ## IPv6-address-specific extended communities (20 octets) -/

theorem ip6ext_encode_length (e : Ip6ExtComm) (h : Ip6Canon e) : (encIp6Ext e).length = 20 := by
  cases e with
  | specific st addr la tr =>
    rw [encIp6Ext, padTo_of_length h.2.1]
    simp only [List.length_append, List.length_cons, List.length_nil, h.2.1, be16_length]
  | redirect addr la =>
    rw [encIp6Ext, padTo_of_length h.1]
    simp only [List.length_append, List.length_cons, List.length_nil, h.1, be16_length]
  | unknown t v => exact congrArg (· + 1) h.2.2.2.1

private theorem decIp6Ext_append {d : Bytes} (hd : d.length = 20) (rest : Bytes) :
    decIp6Ext (d ++ rest) =
      if at' d 0 = 0 then some (.specific (at' d 1) ((d.drop 2).take 16) (rd16 (d.drop 18)) true)
      else if at' d 0 = 64 then some (.specific (at' d 1) ((d.drop 2).take 16) (rd16 (d.drop 18)) false)
      else if at' d 0 = 128 ∧ at' d 1 = 11 then some (.redirect ((d.drop 2).take 16) (rd16 (d.drop 18)))
      else some (.unknown (at' d 0) ((d.drop 1).take 19)) := by
  simp only [decIp6Ext, if_neg (not_short (Nat.le_of_eq hd.symm) rest), List.take_left' hd, beq_iff_eq,
    Bool.and_eq_true]

/-- decode ∘ encode = id on canonical 20-octet communities, whatever follows in the buffer -/
theorem ip6ext_decode_encode (e : Ip6ExtComm) (rest : Bytes) (h : Ip6Canon e) :
    decIp6Ext (encIp6Ext e ++ rest) = some e := by
  rw [decIp6Ext_append (ip6ext_encode_length e h)]
  cases e with
  | specific st addr la tr =>
    obtain ⟨h1, h2, -, h4⟩ := h
    have h5 := rd16_be16 la h4 []
    rw [List.append_nil] at h5
    simp only [encIp6Ext, padTo_of_length h2, List.cons_append, List.nil_append, at', List.getD_cons_zero,
      List.getD_cons_succ, List.drop_succ_cons, List.drop_zero, List.take_left' h2, List.drop_left' h2,
      h5, Nat.mod_eq_of_lt h1]
    cases tr <;> rfl
  | redirect addr la =>
    obtain ⟨h2, -, h4⟩ := h
    have h5 := rd16_be16 la h4 []
    rw [List.append_nil] at h5
    simp only [encIp6Ext, padTo_of_length h2, List.cons_append, List.nil_append, at', List.getD_cons_zero,
      List.getD_cons_succ, List.drop_succ_cons, List.drop_zero, List.take_left' h2, List.drop_left' h2,
      h5]
    rfl
  | unknown t v =>
    obtain ⟨h1, h2, h3, h4, -, h6⟩ := h
    simp only [encIp6Ext, Nat.mod_eq_of_lt h1, at', List.getD_cons_zero, List.getD_cons_succ,
      List.drop_succ_cons, List.drop_zero, List.take_of_length_le (Nat.le_of_eq h4)]
    rw [if_neg h2, if_neg h3, if_neg fun c => h6 c.1 c.2]

private theorem at'_lt {d : Bytes} (ho : ∀ x ∈ d, x < 256) (i : Nat) : at' d i < 256 := by
  rw [at', List.getD_eq_getElem?_getD]
  cases hi : d[i]? with
  | none => exact Nat.zero_lt_succ _
  | some x => exact ho x (List.mem_of_getElem? hi)

/-- for ALL octet strings: what the 20-octet decoder yields is canonical -/
theorem ip6ext_decoded_is_canon (b : Bytes) (e : Ip6ExtComm) (hb : ∀ x ∈ b, x < 256)
    (h : decIp6Ext b = some e) : Ip6Canon e := by
  by_cases hl : b.length < 20
  · rw [decIp6Ext, if_pos hl] at h; cases h
  have hd : (b.take 20).length = 20 := List.length_take.trans (Nat.min_eq_left (Nat.le_of_not_lt hl))
  have ho : ∀ x ∈ b.take 20, x < 256 := fun x hx => hb x (List.mem_of_mem_take hx)
  rw [← List.take_append_drop 20 b, decIp6Ext_append hd] at h
  generalize b.take 20 = d at h hd ho
  have hm (i k : Nat) : ∀ x ∈ (d.drop i).take k, x < 256 := fun x hx =>
    ho x (List.mem_of_mem_drop (List.mem_of_mem_take hx))
  have hrd : rd16 (d.drop 18) < 65536 := rd16_lt_of_octets fun x hx => ho x (List.mem_of_mem_drop hx)
  have ha : ((d.drop 2).take 16).length = 16 := by simp [hd]
  by_cases c0 : at' d 0 = 0
  · rw [if_pos c0] at h; cases h; exact ⟨at'_lt ho 1, ha, hm 2 16, hrd⟩
  rw [if_neg c0] at h
  by_cases c1 : at' d 0 = 64
  · rw [if_pos c1] at h; cases h; exact ⟨at'_lt ho 1, ha, hm 2 16, hrd⟩
  rw [if_neg c1] at h
  by_cases c2 : at' d 0 = 128 ∧ at' d 1 = 11
  · rw [if_pos c2] at h; cases h; exact ⟨ha, hm 2 16, hrd⟩
  rw [if_neg c2] at h
  cases h
  refine ⟨at'_lt ho 0, c0, c1, by simp [hd], hm 1 19, fun h128 h11 => c2 ⟨h128, ?_⟩⟩
  -- octet 0 of the value `d[1:20]` is octet 1 of `d`
  match d, hd with
  | _ :: _ :: _, _ => exact h11

/-- re-serialising a decoded 20-octet community is a fixpoint, for ALL octet strings -/
theorem ip6ext_reserialise_fixpoint (b : Bytes) (e : Ip6ExtComm) (hb : ∀ x ∈ b, x < 256)
    (h : decIp6Ext b = some e) (rest : Bytes) :
    (encIp6Ext e).length = 20 ∧ decIp6Ext (encIp6Ext e ++ rest) = some e :=
  ⟨ip6ext_encode_length e (ip6ext_decoded_is_canon b e hb h),
   ip6ext_decode_encode e rest (ip6ext_decoded_is_canon b e hb h)⟩

theorem ip6exts_length : ∀ l : List Ip6ExtComm, (∀ e ∈ l, Ip6Canon e) →
    (encIp6Exts l).length = 20 * l.length
  | [], _ => rfl
  | e :: es, h => by
    rw [encIp6Exts, List.length_append, ip6ext_encode_length e (h e (.head _)),
      ip6exts_length es fun x hx => h x (.tail _ hx), List.length_cons, Nat.mul_succ, Nat.add_comm]

private theorem decIp6ExtsAux_enc : ∀ (l : List Ip6ExtComm) (fuel : Nat), (∀ e ∈ l, Ip6Canon e) →
    l.length ≤ fuel → decIp6ExtsAux fuel (encIp6Exts l) = some l
  | [], fuel, _, _ => by cases fuel <;> simp [decIp6ExtsAux, encIp6Exts]
  | e :: es, 0, _, hf => by simp at hf
  | e :: es, fuel + 1, h, hf => by
    have hc := h e (.head _)
    have ih := decIp6ExtsAux_enc es fuel (fun x hx => h x (.tail _ hx)) (Nat.le_of_succ_le_succ hf)
    obtain ⟨-, hlen, hdrop⟩ := frame (ip6ext_encode_length e hc) (by decide) (encIp6Exts es)
    simp only [decIp6ExtsAux, encIp6Exts, if_neg hlen, ip6ext_decode_encode e (encIp6Exts es) hc, hdrop, ih]
    rfl

/-- PathAttributeIP6ExtendedCommunities: DecodeFromBytes of the serialised value gives the list back -/
theorem ip6exts_decode_encode (l : List Ip6ExtComm) (h : ∀ e ∈ l, Ip6Canon e) :
    decIp6Exts (encIp6Exts l) = some l := by
  have hl := ip6exts_length l h
  have : ¬ ((encIp6Exts l).length % 20 != 0) = true := by simp [hl]
  simp only [decIp6Exts, if_neg this]
  exact decIp6ExtsAux_enc l _ h (hl ▸ Nat.le_mul_of_pos_left _ (by decide))

end C04
