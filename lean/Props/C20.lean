import Lemmas.Lock
import Model.LockEdges
import Model.Handoff
/-
C20 — (i) no deadlock on locks: a general theorem about the abstract lock machine Model/Lock.lean, applied
to the table of lock-order edges of the Go code (Model/LockEdges.lean); (ii) lockset discipline: mutual
exclusion in the machine, applied to the lockset rules of the guarded data; (iii) one-shot producers on
channels (Model/Handoff.lean).

NOT proved (sampled / outside): that the extracted edge list is complete (trusted translator), data
races and channel blocking in general, goroutine leaks, shutdown — see props/C20.json.
-/
namespace C20
open Lock LockEdges

/-- (i) If every lock request respects a strict order, no reachable state of the lock machine (RW locks,
writer preference) has a cycle of threads each waiting for the next. -/
theorem acyclic_no_deadlock (ok : LockId → LockId → Prop) (rank : LockId → Nat)
    (hok : ∀ a b, ok a b → rank a < rank b) (s : St) (hr : Reachable ok s) : ¬ Deadlocked s := by
  intro ⟨t, p⟩
  exact Nat.lt_irrefl _ (path_increases (ordInv_reachable hok hr) p (path_head p))

/-- hypotheses satisfiable, non-trivially: under the order `<` on lock ids a state is reachable in
which thread 1 is blocked on a lock thread 0 holds (a wait-for edge exists, a cycle cannot) -/
example : ∃ s, Reachable (fun a b => a < b) s ∧ waitsFor s 1 0 := by
  let s1 := setHeld St.init 0 5 (some .W)
  have r1 : Reachable (fun a b => a < b) s1 := Reachable.init.acquire rfl (by simp) (fun _ => rfl)
  refine ⟨setWait s1 1 (some (5, .W)), r1.step (.request s1 1 5 .W rfl ?_), 5, .W, rfl, Or.inl rfl⟩
  simp [s1]

theorem lock_edges_ranked : ∀ e ∈ edges, e.1.1.rank < e.2.1.rank := by decide +kernel

theorem lock_edges_acyclic (a b : Cls) (h : edgeOk a b = true) : a.rank < b.rank := by
  obtain ⟨e, he, hab⟩ := List.any_eq_true.1 h
  simp only [Bool.and_eq_true, beq_iff_eq] at hab
  obtain ⟨rfl, rfl⟩ := hab
  exact lock_edges_ranked e he

example : edgeOk .bucket .refresh = true ∧ edgeOk .shared .bucket = true := by decide +kernel

/-- no lock is requested while a lock of the same class is held (two buckets, two shards, two
peers' refresh or fsm locks never nest; no recursive read lock) -/
theorem no_same_class_nesting (c : Cls) : edgeOk c c = false :=
  Bool.eq_false_iff.2 fun h => Nat.lt_irrefl _ (lock_edges_acyclic c c h)

/-- A program that only makes lock requests listed in `edges` (class of the held lock → class of the
requested lock, for ANY assignment `cls` of lock instances to classes) cannot deadlock on locks. -/
theorem code_lock_order_no_deadlock (cls : LockId → Cls) (s : St)
    (hr : Reachable (fun l' l => edgeOk (cls l') (cls l) = true) s) : ¬ Deadlocked s :=
  acyclic_no_deadlock _ (fun l => (cls l).rank) (fun a b h => lock_edges_acyclic (cls a) (cls b) h) s hr

example : ∃ s, Reachable (fun l' l => edgeOk ((fun n => if n = 0 then Cls.shared else Cls.bucket) l')
    ((fun n => if n = 0 then Cls.shared else Cls.bucket) l) = true) s ∧ (s.held 7 0).isSome ∧ s.wait 7 = some (3, .W) := by
  let s1 := setHeld St.init 7 0 (some .R)
  refine ⟨setWait s1 7 (some (3, .W)),
    (Reachable.init.acquire (m := .R) rfl (by simp) ⟨nofun, fun _ _ => nofun⟩).step (.request s1 7 3 .W rfl ?_), rfl, rfl⟩
  intro l' h
  have : l' = 0 := by simpa [s1] using h
  subst this
  decide

/-- The code's order differs from the documented hierarchy shared → refresh → bucket → shard → fsm in
exactly these edges: the bucket lock is taken BEFORE the per-peer refresh lock, and fsm.lock is not
innermost (a shard read lock is taken under it, via isPrefixLimit → AdjRib.Count). -/
theorem documented_hierarchy_differs :
    againstDocumented = [((.bucket, .W), (.refresh, .R)), ((.bucket, .W), (.refresh, .W)), ((.fsm, .W), (.shard, .R))] := by
  decide +kernel

theorem mutual_exclusion (ok : LockId → LockId → Prop) (s : St) (hr : Reachable ok s)
    (t1 t2 : Tid) (l : LockId) (m1 m2 : Mode) (hne : t1 ≠ t2)
    (h1 : s.held t1 l = some m1) (h2 : s.held t2 l = some m2) : m1 = .R ∧ m2 = .R := by
  have alone := writerAlone_reachable hr
  cases m1 with
  | W => rw [alone t1 t2 l hne h1] at h2; cases h2
  | R =>
    cases m2 with
    | W => rw [alone t2 t1 l hne.symm h2] at h1; cases h1
    | R => exact ⟨rfl, rfl⟩

def HoldsAll (s : St) (t : Tid) (inst : Cls → LockId) (h : Held) : Prop :=
  ∀ c m, (c, m) ∈ h → s.held t (inst c) = some m

theorem has_iff {h : Held} {c : Cls} {m : Mode} : has h c m = true ↔ (c, m) ∈ h :=
  List.contains_iff_mem

theorem guard_conflict (g : Guard) (hg : g = .sentPaths ∨ g = .underFsm ∨ g = .underShardW)
    (h1 h2 : Held) (ok1 : guardOk g h1 = true) (ok2 : guardOk g h2 = true) :
    ∃ c m1 m2, (c, m1) ∈ h1 ∧ (c, m2) ∈ h2 ∧ (m1 = .W ∨ m2 = .W) := by
  rcases hg with rfl | rfl | rfl
  · simp only [guardOk, hasAny, Bool.or_eq_true, Bool.and_eq_true, has_iff] at ok1 ok2
    rcases ok1 with ⟨b1, r1⟩ | w1
    · rcases ok2 with ⟨b2, _⟩ | w2
      · exact ⟨.bucket, .W, .W, b1, b2, Or.inl rfl⟩
      · rcases r1 with r1 | r1
        · exact ⟨.refresh, .W, .W, r1, w2, Or.inl rfl⟩
        · exact ⟨.refresh, .R, .W, r1, w2, Or.inr rfl⟩
    · rcases ok2 with ⟨_, r2⟩ | w2
      · rcases r2 with r2 | r2
        · exact ⟨.refresh, .W, .W, w1, r2, Or.inl rfl⟩
        · exact ⟨.refresh, .W, .R, w1, r2, Or.inl rfl⟩
      · exact ⟨.refresh, .W, .W, w1, w2, Or.inl rfl⟩
  · exact ⟨.fsm, .W, .W, has_iff.1 ok1, has_iff.1 ok2, Or.inl rfl⟩
  · exact ⟨.shard, .W, .W, has_iff.1 ok1, has_iff.1 ok2, Or.inl rfl⟩

/-- (ii) For a datum whose lockset rule demands a write lock (`sentPaths`, `underFsm`, `underShardW`): two
threads are never simultaneously at access sites of it when both sites satisfy the rule — `inst` picks,
per class, the lock instance that belongs to the datum (the bucket of the prefix, the refresh lock /
fsm.lock of the peer, the shard of the destination). -/
theorem guarded_accesses_exclusive (ok : LockId → LockId → Prop) (s : St) (hr : Reachable ok s)
    (g : Guard) (hg : g = .sentPaths ∨ g = .underFsm ∨ g = .underShardW)
    (inst : Cls → LockId) (t1 t2 : Tid) (hne : t1 ≠ t2) (h1 h2 : Held)
    (ok1 : guardOk g h1 = true) (ok2 : guardOk g h2 = true)
    (hold1 : HoldsAll s t1 inst h1) (hold2 : HoldsAll s t2 inst h2) : False := by
  obtain ⟨c, m1, m2, in1, in2, hw⟩ := guard_conflict g hg h1 h2 ok1 ok2
  have := mutual_exclusion ok s hr t1 t2 (inst c) m1 m2 hne (hold1 c m1 in1) (hold2 c m2 in2)
  rcases hw with rfl | rfl
  · cases this.1
  · cases this.2

/-- The datum rule "what leaves a shard lock is a copy": live shard state (a *destination stored in a
shard map, a slice aliasing its knownPathList) handed to a caller that does not hold the shard lock is
acceptable under NO set of held locks — every such flow the extractor finds is a violation. -/
theorem escape_rule_unsatisfiable (h : Held) : guardOk .never h = false := rfl

example : guardOf "shardEscape" false = some .never := by rw [guardOf]

example : guardOk .sentPaths [(.shared, .R), (.bucket, .W), (.refresh, .R)] = true
    ∧ guardOk .sentPaths [(.shared, .W), (.refresh, .W)] = true
    ∧ guardOk .sentPaths [(.shared, .R), (.bucket, .W)] = false := by decide +kernel

/-- Without an order the machine does deadlock (so `Deadlocked` is not vacuous): AB / BA. -/
theorem deadlock_without_order : ∃ s, Reachable (fun _ _ => True) s ∧ Deadlocked s := by
  let ok : LockId → LockId → Prop := fun _ _ => True
  let s1 := setHeld St.init 0 0 (some .W)
  let s2 := setHeld s1 1 1 (some .W)
  let s3 := setWait s2 0 (some (1, .W))
  let s4 := setWait s3 1 (some (0, .W))
  have r1 : Reachable ok s1 := Reachable.init.acquire rfl (fun _ _ => trivial) (fun _ => rfl)
  have r2 : Reachable ok s2 := r1.acquire rfl (fun _ _ => trivial) (by simp [grantable, s1])
  have r3 : Reachable ok s3 := r2.step (.request s2 0 1 .W rfl (fun _ _ => trivial))
  have r4 : Reachable ok s4 := r3.step (.request s3 1 0 .W rfl (fun _ _ => trivial))
  exact ⟨s4, r4, 0, .cons (b := 1) ⟨1, .W, rfl, Or.inl rfl⟩ (.single ⟨0, .W, rfl, Or.inl rfl⟩)⟩

/-- A recursive read lock deadlocks as soon as a writer queues up in between (writer preference):
thread 0 holds lock 0 for reading, thread 1 calls Lock, thread 0 calls RLock again.  This is the shape
of the defect found in gobgp (TableManager.Update → handleMacMobility → GetPathListWithMac). -/
theorem recursive_rlock_deadlocks : ∃ s, Reachable (fun l' l => l' = l) s ∧ Deadlocked s := by
  let ok : LockId → LockId → Prop := fun l' l => l' = l
  let s1 := setHeld St.init 0 0 (some .R)
  let s2 := setWait s1 1 (some (0, .W))
  let s3 := setWait s2 0 (some (0, .R))
  have r1 : Reachable ok s1 := Reachable.init.acquire rfl (by simp) ⟨nofun, fun _ _ => nofun⟩
  have r2 : Reachable ok s2 := r1.step (.request s1 1 0 .W rfl (by simp [s1]))
  have r3 : Reachable ok s3 := r2.step (.request s2 0 0 .R rfl (by simp [s2, s1, ok]))
  exact ⟨s3, r3, 0, .cons (b := 1) ⟨0, .R, rfl, Or.inr ⟨rfl, rfl⟩⟩ (.single ⟨0, .W, rfl, Or.inl rfl⟩)⟩

/-! ### (iii) joined goroutines: one-shot producers on buffered channels -/

section
open Handoff

theorem handoff_step {c c' : Ch} (hs : Handoff.Step c c') :
    c'.cap = c.cap ∧ c'.buf + c'.toSend ≤ c.buf + c.toSend := by
  cases hs with
  | sendBuf _ _ => exact ⟨rfl, by dsimp only; omega⟩
  | sendDirect _ _ => exact ⟨rfl, Nat.add_le_add_left (Nat.sub_le _ _) _⟩
  | recv _ _ => exact ⟨rfl, Nat.add_le_add_right (Nat.sub_le _ _) _⟩
  | leave => exact ⟨rfl, Nat.le_refl _⟩

theorem handoff_reachable {c0 c : Ch} (hr : Handoff.Reachable c0 c) :
    c.cap = c0.cap ∧ c.buf + c.toSend ≤ c0.buf + c0.toSend := by
  induction hr with
  | init => exact ⟨rfl, Nat.le_refl _⟩
  | step _ hs ih =>
    obtain ⟨hcap, hle⟩ := handoff_step hs
    exact ⟨hcap.trans ih.1, Nat.le_trans hle ih.2⟩

theorem producer_never_blocks {c0 c : Ch} (h0 : c0.buf + c0.toSend ≤ c0.cap)
    (hr : Handoff.Reachable c0 c) : ¬ Blocked c := by
  obtain ⟨hcap, hle⟩ := handoff_reachable hr
  intro ⟨hpos, hns⟩
  refine hns (Or.inl ?_)
  calc c.buf < c.buf + c.toSend := Nat.lt_add_of_pos_right hpos
    _ ≤ c0.buf + c0.toSend := hle
    _ ≤ c0.cap := h0
    _ = c.cap := hcap.symm

theorem unbuffered_blocked {c : Ch} (hcap : c.cap = 0) :
    Blocked c ↔ 0 < c.toSend ∧ c.consumer = false := by
  simp only [Blocked, canSend, hcap, Nat.not_lt_zero, false_or, Bool.not_eq_true]

end

/-- A producer that makes at most `cap` sends on a channel of capacity `cap` is never blocked, whatever
the consumer does — in particular after the consumer has left to join it. -/
theorem buffered_producer_never_blocks (cap sends : Nat) (h : Handoff.handoffOk cap sends = true)
    (c : Handoff.Ch) (hr : Handoff.Reachable (Handoff.start cap sends) c) : ¬ Handoff.Blocked c :=
  producer_never_blocks (by simpa [Handoff.handoffOk, Handoff.start] using h) hr

example : Handoff.handoffOk 1 1 = true ∧ Handoff.handoffOk 3 2 = true ∧ Handoff.handoffOk 0 1 = false := by decide

/-- On an unbuffered channel the producer is blocked exactly when the consumer is gone … -/
theorem unbuffered_blocked_iff_consumer_left (c : Handoff.Ch) (hcap : c.cap = 0) (hpos : 0 < c.toSend) :
    Handoff.Blocked c ↔ c.consumer = false := by
  rw [unbuffered_blocked hcap]
  exact and_iff_right hpos

/-- … and then it stays blocked for ever (the spawner's wg.Wait() never returns): the state reached by
`make(chan *fsmMsg)` + one message read + the handler leaving through a returning branch. -/
theorem unbuffered_blocked_forever (c c' : Handoff.Ch) (hcap : c.cap = 0) (hb : Handoff.Blocked c)
    (hs : Handoff.Step c c') : Handoff.Blocked c' ∧ c'.cap = 0 := by
  obtain ⟨hpos, hcons⟩ := (unbuffered_blocked hcap).1 hb
  cases hs with
  | sendBuf _ h2 => omega
  | sendDirect _ h2 => rw [hcons] at h2; cases h2
  | recv h1 _ => rw [hcons] at h1; cases h1
  | leave => exact ⟨(unbuffered_blocked (c := { c with consumer := false }) hcap).2 ⟨hpos, rfl⟩, hcap⟩

/-- the blocked state is reachable with an unbuffered channel and a single message -/
theorem unbuffered_one_shot_can_block :
    ∃ c, Handoff.Reachable (Handoff.start 0 1) c ∧ Handoff.Blocked c :=
  ⟨_, .step .init (.leave _), (unbuffered_blocked rfl).2 ⟨by decide, rfl⟩⟩

end C20
