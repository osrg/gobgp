/-
  C08 — session parameters are negotiated as the intersection of both OPEN messages.

  The property theorems; lemmas about the model alone live in Lemmas/Negotiate.lean.  `Negotiate.stateChange`,
  `handleOpen`, `buildOpen`, `recvMaxLen` … mirror pkg/server/fsm.go (stateChange, open2Cap,
  capabilitiesFromConfig, buildopen, recvMessageWithError, sendMessageloop, keepaliveTicker),
  pkg/config/oc/util.go (CreateRfMap) and pkg/packet/bgp/validate.go (ValidateOpenMsg); they are
  tied to that code on every run by the correspondence check
  (go/overlay/pkg/server/zz_verif_c08_test.go, zz_verif_c08s_test.go).

  The statements are written against a specification given here in set style (`LocalHas`,
  `RemoteStar`, `Announces` …) that does not mention the model's folds and maps.
  Everything is for ALL configurations, ALL previous peer states and ALL received OPENs
  (any capability list: duplicates, unknown codes, no multiprotocol capability, any hold time/AS).
-/
import Lemmas.Negotiate
namespace C08
open Negotiate

/-- the decoder's invariant: a capability with a code the decoder knows is decoded as such
    (bgp.DecodeCapability switches on the code), so `other` never carries one of these codes -/
def Decoded (o : Open) : Prop :=
  ∀ k, Cap.other k ∈ o.caps → k ≠ 1 ∧ k ≠ 65 ∧ k ≠ 69 ∧ k ≠ 6 ∧ k ≠ 64 ∧ k ≠ 71 ∧ k ≠ 5

def LocalHas (c : LocalCfg) (f : Family) : Prop := ∃ a ∈ c.afs, a.family = f
/-- we are willing to send / receive several paths for `f` -/
def LocalSend (c : LocalCfg) (f : Family) : Prop := ∃ a ∈ c.afs, a.family = f ∧ a.apSendMax > 0
def LocalRecv (c : LocalCfg) (f : Family) : Prop := ∃ a ∈ c.afs, a.family = f ∧ a.apRecv = true
/-- no family is configured twice (what the configuration layer produces) -/
def NodupFamilies (c : LocalCfg) : Prop :=
  ∀ a ∈ c.afs, ∀ b ∈ c.afs, a.family = b.family → a = b

def RemoteMP (o : Open) (f : Family) : Prop := Cap.mp f ∈ o.caps
/-- RFC 4760's default: a peer that announces NO multiprotocol capability speaks IPv4 unicast -/
def RemoteStar (o : Open) (f : Family) : Prop :=
  RemoteMP o f ∨ ((∀ g, ¬ RemoteMP o g) ∧ f = ipv4uc)
def Announces (o : Open) (f : Family) (bit : Nat → Bool) : Prop :=
  ∃ m, (f, m) ∈ allApTuples o.caps ∧ bit m = true
def NoConflict (o : Open) (f : Family) : Prop :=
  ∀ m m', (f, m) ∈ allApTuples o.caps → (f, m') ∈ allApTuples o.caps →
    hasRecv m = hasRecv m' ∧ hasSend m = hasSend m'
def RemoteAs4 (o : Open) : Prop := ∃ v, Cap.as4 v ∈ o.caps
def RemoteExt (o : Open) : Prop := Cap.extMsg ∈ o.caps

def Negotiated (s : PeerState) (f : Family) : Prop := (fmLookup s.familyMap f).isSome = true
def NegSend (s : PeerState) (f : Family) : Prop := ∃ m, fmLookup s.familyMap f = some m ∧ hasSend m = true
def NegRecv (s : PeerState) (f : Family) : Prop := ∃ m, fmLookup s.familyMap f = some m ∧ hasRecv m = true

/-- hold time = min(local, remote) -/
theorem hold_is_min (c : LocalCfg) (s : PeerState) (o : Open) :
    (stateChange c s o).hold = min c.hold o.hold := by
  rw [stateChange_hold]
  by_cases h : o.hold > c.hold
  · rw [if_pos h, Nat.min_eq_left (Nat.le_of_lt h)]
  · rw [if_neg h, Nat.min_eq_right (Nat.not_lt.mp h)]

example : (stateChange { (default : LocalCfg) with hold := 90 } default { (default : Open) with hold := 30 }).hold = 30 := by
  decide

/-- what an accepted OPEN satisfies (the whole of ValidateOpenMsg) -/
theorem accepted_open (c : LocalCfg) (s s' : PeerState) (o : Open) (h : negotiate c s o = .ok s') :
    s' = stateChange c s o ∧ o.version = 4 ∧ o.id ≠ 0 ∧ (c.peerAs ≠ 0 → getASN o = c.peerAs) ∧
      ¬ (getASN o = c.localAs ∧ o.id = c.routerId) ∧ (o.hold = 0 ∨ 3 ≤ o.hold) := by
  unfold negotiate handleOpen at h
  cases hv : validateOpen o c.peerAs c.localAs c.routerId with
  | error e => rw [hv] at h; cases h
  | ok v => rw [hv] at h; exact ⟨(Except.ok.inj h).symm, validateOpen_ok hv⟩

/-- an OPEN with hold time 1 or 2 is refused, whatever else it carries -/
theorem hold_1_2_refused (c : LocalCfg) (s : PeerState) (o : Open) (h : o.hold = 1 ∨ o.hold = 2) :
    ∃ e, negotiate c s o = .error e := by
  cases hn : negotiate c s o with
  | error e => exact ⟨e, rfl⟩
  | ok s' => have := (accepted_open c s s' o hn).2.2.2.2.2; omega

example : ∃ e, negotiate default default { (default : Open) with version := 4, id := 7, hold := 2 } = .error e :=
  hold_1_2_refused _ _ _ (Or.inr rfl)

example : (negotiate default default { (default : Open) with version := 4, id := 7, hold := 0 }).toBool = true := by
  decide

/-- hold time 0 ⇔ no keepalive timer and no hold timer -/
theorem hold_zero_no_timers (c : LocalCfg) (s : PeerState) (o : Open) :
    let s' := stateChange c s o
    (tickerSecs s' = none ↔ min c.hold o.hold = 0) ∧ (holdTimerSecs s' = none ↔ min c.hold o.hold = 0) := by
  intro s'
  rw [← hold_is_min c s o]
  exact ⟨tickerSecs_eq_none s', holdTimerSecs_eq_none s'⟩

/-- keepalive: a third of the negotiated hold time when the peer lowered it, otherwise the
    configured interval (`ka3` is in thirds of a second) -/
theorem keepalive_rule (c : LocalCfg) (s : PeerState) (o : Open) :
    (stateChange c s o).ka3 = if min c.hold o.hold < c.hold then min c.hold o.hold else c.ka3 := by
  rw [stateChange_ka3, ← stateChange_hold c s o, hold_is_min]

/-- with the default configured interval (a third of the configured hold time) the keepalive is
    always a third of the negotiated hold time -/
theorem keepalive_third_default (c : LocalCfg) (s : PeerState) (o : Open) (hd : c.ka3 = c.hold) :
    (stateChange c s o).ka3 = (stateChange c s o).hold := by
  rw [keepalive_rule, hold_is_min]
  split
  · rfl
  · next h => rw [hd]; exact Nat.le_antisymm (Nat.not_lt.mp h) (Nat.min_le_left _ _)

/-- the keepalive ticker fires every ⌊keepalive⌋ seconds, at least every second -/
theorem ticker_period (c : LocalCfg) (s : PeerState) (o : Open) (h : min c.hold o.hold ≠ 0) :
    tickerSecs (stateChange c s o) = some (max 1 ((stateChange c s o).ka3 / 3)) :=
  tickerSecs_of_ne (by rw [hold_is_min]; exact h)

example : tickerSecs (stateChange { (default : LocalCfg) with hold := 90, ka3 := 90 } default
    { (default : Open) with hold := 10 }) = some 3 := by decide

theorem hasCap1_iff (o : Open) (hd : Decoded o) : hasCap 1 o.caps = true ↔ ∃ g, RemoteMP o g := by
  rw [hasCap_iff]
  constructor
  · rintro ⟨cp, hcp, hcode⟩
    cases cp with
    | mp g => exact ⟨g, hcp⟩
    | other k => exact absurd hcode (hd k hcp).1
    | _ => cases hcode
  · rintro ⟨g, hg⟩; exact ⟨_, hg, rfl⟩

theorem remoteStar_iff (o : Open) (hd : Decoded o) (f : Family) :
    Cap.mp f ∈ open2CapMap o.caps ↔ RemoteStar o f := by
  rw [mp_mem_open2CapMap, ← Bool.not_eq_true, hasCap1_iff o hd, not_exists]
  rfl

/-- **families = local ∩ remote\***: a family is active on the session iff it is configured and the
    peer announced it (a peer without any multiprotocol capability announces IPv4 unicast) -/
theorem families_are_intersection (c : LocalCfg) (s : PeerState) (o : Open) (hd : Decoded o) (f : Family) :
    Negotiated (stateChange c s o) f ↔ LocalHas c f ∧ RemoteStar o f := by
  unfold Negotiated LocalHas
  rw [stateChange_familyMap, fmLookup_familyMapOf, negMode_isSome, remoteStar_iff o hd]

example : Negotiated (stateChange { (default : LocalCfg) with afs := [⟨ipv4uc, false, 0, false, false, 0⟩] }
    default default) ipv4uc := by unfold Negotiated; decide

/-- `p` is a direction bit and `q` its complement (`hasSend`/`hasRecv` or the reverse).  Both sides go by
    the LAST entry for `f`: the last AfiSafi configured, the last tuple the peer sent. -/
theorem negotiated_bit_iff {p q : Nat → Bool} (hpq : ∀ l r, p (negBits l r) = (p l && q r))
    (c : LocalCfg) (s : PeerState) (o : Open) (hd : Decoded o) (f : Family) :
    (∃ m, fmLookup (stateChange c s o).familyMap f = some m ∧ p m = true) ↔
      (∃ l, localMode c.afs f = some l ∧ p l = true) ∧ RemoteStar o f ∧
        q (lastMode f (allApTuples o.caps)) = true := by
  simp only [stateChange_familyMap, fmLookup_familyMapOf, negMode_eq_some_iff, allApTuples_open2CapMap,
    remoteStar_iff o hd]
  constructor
  · rintro ⟨_, ⟨l, hl, hs, rfl⟩, hp⟩
    rw [hpq, Bool.and_eq_true] at hp
    exact ⟨⟨l, hl, hp.1⟩, hs, hp.2⟩
  · rintro ⟨⟨l, hl, hp⟩, hs, hq⟩
    exact ⟨_, ⟨l, hl, hs, rfl⟩, by rw [hpq, hp, hq]; rfl⟩

/-- `hq0`: no tuple at all reads as mode 0, which has no bit -/
theorem addpath_only_with_complement {p q : Nat → Bool} (hpq : ∀ l r, p (negBits l r) = (p l && q r))
    (hq0 : q 0 = false) (c : LocalCfg) (s : PeerState) (o : Open) (hd : Decoded o) (f : Family)
    (h : ∃ m, fmLookup (stateChange c s o).familyMap f = some m ∧ p m = true) :
    (∃ a ∈ c.afs, a.family = f ∧ p a.mode = true) ∧ RemoteStar o f ∧ Announces o f q := by
  obtain ⟨⟨l, hl, hp⟩, hs, hq⟩ := (negotiated_bit_iff hpq c s o hd f).mp h
  obtain ⟨a, ha, hf, rfl⟩ := localMode_some hl
  refine ⟨⟨a, ha, hf, hp⟩, hs, ?_⟩
  rcases lastMode_spec f (allApTuples o.caps) with ⟨_, h0⟩ | hmem
  · rw [h0, hq0] at hq; cases hq
  · exact ⟨_, hmem, hq⟩

theorem addpath_iff_of_agreement {p q : Nat → Bool} (hpq : ∀ l r, p (negBits l r) = (p l && q r))
    (hq0 : q 0 = false) (c : LocalCfg) (s : PeerState) (o : Open) (hd : Decoded o) (f : Family)
    (hl : ∀ a ∈ c.afs, ∀ b ∈ c.afs, a.family = f → b.family = f → p a.mode = p b.mode)
    (hr : ∀ m m', (f, m) ∈ allApTuples o.caps → (f, m') ∈ allApTuples o.caps → q m = q m') :
    (∃ m, fmLookup (stateChange c s o).familyMap f = some m ∧ p m = true) ↔
      (∃ a ∈ c.afs, a.family = f ∧ p a.mode = true) ∧ RemoteStar o f ∧ Announces o f q := by
  refine ⟨addpath_only_with_complement hpq hq0 c s o hd f, ?_⟩
  rintro ⟨⟨a, ha, hf, hp⟩, hs, m, hm, hq⟩
  obtain ⟨l, hlm, hpl⟩ := localMode_agree p ha hf fun b hb hbf => hl b hb a ha hbf hf
  exact (negotiated_bit_iff hpq c s o hd f).mpr ⟨⟨l, hlm, hpl.trans hp⟩, hs,
    (lastMode_agree f _ q m hm fun m' hm' => hr m' m hm' hm).trans hq⟩

theorem localSend_iff (c : LocalCfg) (f : Family) :
    LocalSend c f ↔ ∃ a ∈ c.afs, a.family = f ∧ hasSend a.mode = true := by
  simp only [LocalSend, mode_hasSend]

theorem localRecv_iff (c : LocalCfg) (f : Family) :
    LocalRecv c f ↔ ∃ a ∈ c.afs, a.family = f ∧ hasRecv a.mode = true := by
  simp only [LocalRecv, mode_hasRecv]

/-- **ADD-PATH send only with the complement** (full strength, any OPEN): we send several paths for
    `f` only if we are configured to, the family is active, and the peer announced that it can
    RECEIVE them in some ADD-PATH tuple. -/
theorem addpath_send_only_with_complement (c : LocalCfg) (s : PeerState) (o : Open) (hd : Decoded o)
    (f : Family) (h : NegSend (stateChange c s o) f) :
    LocalSend c f ∧ RemoteStar o f ∧ Announces o f hasRecv := by
  rw [localSend_iff]
  exact addpath_only_with_complement hasSend_negBits rfl c s o hd f h

/-- dually for receiving -/
theorem addpath_recv_only_with_complement (c : LocalCfg) (s : PeerState) (o : Open) (hd : Decoded o)
    (f : Family) (h : NegRecv (stateChange c s o) f) :
    LocalRecv c f ∧ RemoteStar o f ∧ Announces o f hasSend := by
  rw [localRecv_iff]
  exact addpath_only_with_complement hasRecv_negBits rfl c s o hd f h

/-
  The full "iff" claim
      NegSend (stateChange c s o) f ↔ LocalSend c f ∧ RemoteStar o f ∧ Announces o f hasRecv
  is FALSE of the code when the peer's ADD-PATH tuples for one family contradict each other: the
  inner loops of open2Cap keep the LAST tuple.  RFC 7911 does not say how to read such an OPEN and
  "the last one" is a defensible reading that errs on the side of NOT using ADD-PATH, so this is
  recorded as a decision of the code, not as a defect: counterexample + the `_partial` form.
-/
theorem addpath_send_iff_counterexample :
    let c : LocalCfg := { (default : LocalCfg) with afs := [⟨ipv4uc, false, 8, false, false, 0⟩] }
    let o : Open := { (default : Open) with params := [.caps [.mp ipv4uc, .addPath [(ipv4uc, 3), (ipv4uc, 0)]]] }
    (LocalSend c ipv4uc ∧ RemoteStar o ipv4uc ∧ Announces o ipv4uc hasRecv) ∧
      ¬ NegSend (stateChange c default o) ipv4uc := by
  refine ⟨⟨⟨_, List.mem_cons_self, rfl, by decide⟩, Or.inl (by unfold RemoteMP; decide), ⟨3, by decide, by decide⟩⟩, ?_⟩
  rintro ⟨m, hm, hs⟩
  cases hm.symm.trans (show _ = some 0 by decide)
  exact absurd hs (by decide)

/-- **ADD-PATH send, exactly** — for OPENs whose ADD-PATH tuples for `f` do not contradict each
    other and a configuration without repeated families -/
theorem addpath_send_iff_partial (c : LocalCfg) (s : PeerState) (o : Open) (hd : Decoded o) (f : Family)
    (hn : NodupFamilies c) (hc : NoConflict o f) :
    NegSend (stateChange c s o) f ↔ LocalSend c f ∧ RemoteStar o f ∧ Announces o f hasRecv := by
  rw [localSend_iff]
  exact addpath_iff_of_agreement hasSend_negBits rfl c s o hd f
    (fun a ha b hb hfa hfb => by rw [hn a ha b hb (hfa.trans hfb.symm)]) fun m m' h h' => (hc m m' h h').1

theorem addpath_recv_iff_partial (c : LocalCfg) (s : PeerState) (o : Open) (hd : Decoded o) (f : Family)
    (hn : NodupFamilies c) (hc : NoConflict o f) :
    NegRecv (stateChange c s o) f ↔ LocalRecv c f ∧ RemoteStar o f ∧ Announces o f hasSend := by
  rw [localRecv_iff]
  exact addpath_iff_of_agreement hasRecv_negBits rfl c s o hd f
    (fun a ha b hb hfa hfb => by rw [hn a ha b hb (hfa.trans hfb.symm)]) fun m m' h h' => (hc m m' h h').2

example : NegSend (stateChange { (default : LocalCfg) with afs := [⟨ipv4uc, false, 8, false, false, 0⟩] } default
    { (default : Open) with params := [.caps [.addPath [(ipv4uc, 1)]]] }) ipv4uc := ⟨2, by decide, by decide⟩

theorem local_announces_as4 (c : LocalCfg) : Cap.as4 c.localAs ∈ (buildOpen c).caps := by
  rw [buildOpen_caps, mem_capsFromConfig]
  exact .inr (.inr (.inr (.inr (.inr (.inl rfl)))))

theorem hasCap65_iff (o : Open) (hd : Decoded o) : hasCap 65 o.caps = true ↔ RemoteAs4 o := by
  rw [hasCap_iff]
  constructor
  · rintro ⟨cp, hcp, hcode⟩
    cases cp with
    | as4 v => exact ⟨v, hcp⟩
    | other k => exact absurd hcode (hd k hcp).2.1
    | _ => cases hcode
  · rintro ⟨v, hv⟩; exact ⟨_, hv, rfl⟩

theorem twoByteAs_iff (c : LocalCfg) (s : PeerState) (o : Open) (hd : Decoded o) :
    (stateChange c s o).twoByteAs = false ↔ RemoteAs4 o := by
  rw [stateChange_twoByteAs, hasCap_open2CapMap _ 65 (by decide) (by decide), localHasAs4_true, ← hasCap65_iff o hd]
  cases hasCap 65 o.caps <;> decide

/-- **4-octet AS_PATH encoding iff both announced it** (we always do: `local_announces_as4`) -/
theorem as4_iff_both (c : LocalCfg) (s : PeerState) (o : Open) (hd : Decoded o) :
    (stateChange c s o).twoByteAs = false ↔ RemoteAs4 o ∧ (∃ v, Cap.as4 v ∈ (buildOpen c).caps) :=
  (twoByteAs_iff c s o hd).trans (and_iff_left ⟨_, local_announces_as4 c⟩).symm

example : (stateChange default default { (default : Open) with params := [.caps [.as4 70000]] }).twoByteAs = false := by
  decide

theorem hasCap6_iff (o : Open) (hd : Decoded o) : hasCap 6 o.caps = true ↔ RemoteExt o := by
  rw [hasCap_iff]
  constructor
  · rintro ⟨cp, hcp, hcode⟩
    cases cp with
    | extMsg => exact hcp
    | other k => exact absurd hcode (hd k hcp).2.2.2.1
    | _ => cases hcode
  · intro h; exact ⟨_, h, rfl⟩

theorem local_announces_ext (c : LocalCfg) : Cap.extMsg ∈ (buildOpen c).caps := by
  rw [buildOpen_caps, mem_capsFromConfig]
  exact .inr (.inr (.inr (.inl rfl)))

theorem extMsg_iff (c : LocalCfg) (s : PeerState) (o : Open) (hd : Decoded o) :
    (stateChange c s o).extMsg = true ↔ RemoteExt o := by
  rw [stateChange_extMsg, hasCap_open2CapMap _ 6 (by decide) (by decide), hasCap6_iff o hd]

/-- **extended messages iff the peer announced the capability** (we always announce it) -/
theorem ext_iff_both (c : LocalCfg) (s : PeerState) (o : Open) (hd : Decoded o) :
    (stateChange c s o).extMsg = true ↔ RemoteExt o ∧ Cap.extMsg ∈ (buildOpen c).caps :=
  (extMsg_iff c s o hd).trans (and_iff_left (local_announces_ext c)).symm

/-- **message size**: what the receive gate accepts and what the serialiser emits is 65535 octets for
    UPDATE / NOTIFICATION / ROUTE-REFRESH when the peer announced Extended Message, 4096 octets in
    every other case; in particular never more than 4096 for OPEN and KEEPALIVE. -/
theorem max_len (c : LocalCfg) (s : PeerState) (o : Open) (hd : Decoded o) (t : MsgType) :
    let s' := stateChange c s o
    recvMaxLen s' t = sendMaxLen s' t ∧
    (RemoteExt o ∧ (t = .update ∨ t = .notification ∨ t = .routeRefresh) → recvMaxLen s' t = 65535) ∧
    (¬ (RemoteExt o ∧ (t = .update ∨ t = .notification ∨ t = .routeRefresh)) → recvMaxLen s' t = 4096) ∧
    recvMaxLen s' .open = 4096 ∧ recvMaxLen s' .keepalive = 4096 := by
  intro s'
  have he : s'.extMsg = true ↔ RemoteExt o := extMsg_iff c s o hd
  refine ⟨rfl, fun h => ?_, fun h => ?_, ?_, ?_⟩
  · rw [recvMaxLen_eq, if_pos ⟨he.mpr h.1, h.2⟩]
  · rw [recvMaxLen_eq, if_neg fun h' => h ⟨he.mp h'.1, h'.2⟩]
  · rw [recvMaxLen_eq, if_neg nofun]
  · rw [recvMaxLen_eq, if_neg nofun]

example : recvMaxLen (stateChange default default { (default : Open) with params := [.caps [.extMsg]] }) .update = 65535 := by
  decide

/-- **the limit is on the TOTAL length, header included, and it is inclusive**: a message whose
    serialisation (19-octet header + body) is `total` octets long is written by the sender iff
    `total` ≤ the session maximum of `max_len`, and that is exactly when the receive gate of the same
    session would let it through; one octet more is neither emitted nor accepted.  A NOTIFICATION sent
    by fsm.sendNotification is never longer than 4096 octets, extended message or not. -/
theorem emitted_total_bounded (c : LocalCfg) (s : PeerState) (o : Open) (t : MsgType) (total : Nat)
    (h : headerLen ≤ total) :
    let s' := stateChange c s o
    (sendWrites s' t total = total ↔ total ≤ sendMaxLen s' t) ∧
    (sendWrites s' t total = 0 ↔ sendMaxLen s' t < total) ∧
    (recvFits s' t total = true ↔ total ≤ recvMaxLen s' t) ∧
    sendWrites s' t total ≤ sendMaxLen s' t ∧
    (notifWrites total = total ↔ total ≤ 4096) ∧ notifWrites total ≤ 4096 := by
  intro s'
  have hw := all_or_nothing (m := sendMaxLen s' t) (Nat.lt_of_lt_of_le (by decide) h)
  have hn := all_or_nothing (m := 4096) (Nat.lt_of_lt_of_le (by decide) h)
  rw [sendWrites_eq s' t h, notifWrites_eq h]
  exact ⟨hw.1, hw.2.1, recvFits_iff s' t total, hw.2.2, hn.1, hn.2.2⟩

example : sendWrites (stateChange default default default) .update 4096 = 4096 ∧
    sendWrites (stateChange default default default) .update 4097 = 0 ∧
    sendWrites (stateChange default default default) .update 4115 = 0 ∧
    sendWrites (stateChange default default { (default : Open) with params := [.caps [.extMsg]] }) .update 65535 = 65535 ∧
    sendWrites (stateChange default default { (default : Open) with params := [.caps [.extMsg]] }) .update 65536 = 0 ∧
    sendWrites (stateChange default default { (default : Open) with params := [.caps [.extMsg]] }) .keepalive 4097 = 0 := by
  decide

/-- **messages are parsed and emitted under exactly the negotiated options** -/
theorem codec_options (c : LocalCfg) (s : PeerState) (o : Open) :
    let s' := stateChange c s o
    recvOpts s' = sendOpts s' ∧ (recvOpts s').addPath = s'.familyMap ∧
      (recvOpts s').use2ByteAs = s'.twoByteAs ∧ (recvOpts s').extended = s'.extMsg := by
  intro s'
  -- true of any state by definition; forgetting which one keeps `rfl` from unfolding `stateChange`
  clear_value s'
  exact ⟨rfl, rfl, rfl, rfl⟩

/-- **the negotiated ADD-PATH mode is consumed bit by bit**: under the options the receive path hands
    to the parsers, NLRI of family `f` are expected to carry path identifiers iff RECEIVE was negotiated
    for `f`; under the options of the send path they are written iff SEND was negotiated — for every
    negotiated mode (none / receive / send / both) and for families that are not negotiated at all. -/
theorem addpath_consumed (c : LocalCfg) (s : PeerState) (o : Open) (f : Family) :
    let s' := stateChange c s o
    (expectsPathId (recvOpts s') true f = true ↔ NegRecv s' f) ∧
    (expectsPathId (sendOpts s') false f = true ↔ NegSend s' f) := by
  intro s'
  clear_value s' -- as in `codec_options`
  exact ⟨expectsPathId_iff (recvOpts s') true f, expectsPathId_iff (sendOpts s') false f⟩

example : expectsPathId (recvOpts (stateChange { (default : LocalCfg) with afs := [⟨ipv4uc, false, 8, false, false, 0⟩] } default
    { (default : Open) with params := [.caps [.addPath [(ipv4uc, 3)]]] })) true ipv4uc = false ∧
  expectsPathId (sendOpts (stateChange { (default : LocalCfg) with afs := [⟨ipv4uc, false, 8, false, false, 0⟩] } default
    { (default : Open) with params := [.caps [.addPath [(ipv4uc, 3)]]] })) false ipv4uc = true := by decide

/-- **the real remote AS**: the value of the (last) 4-octet-AS capability, else the 2-octet field;
    so a peer sending AS_TRANS + the capability is known by its 4-octet AS. -/
theorem real_as (o : Open) :
    getASN o = ((o.caps.filterMap as4Val).getLast?).getD o.myAs := foldl_as4Step _ _

/-- **peer type and AS from the real remote AS** (for a configuration whose PeerType was derived
    from the configured AS numbers, as oc.SetDefaultNeighborConfigValues does) -/
theorem peer_type_from_real_as (c : LocalCfg) (s s' : PeerState) (o : Open)
    (hc : c.cfgInternal = (c.peerAs == c.localAs)) (h : negotiate c s o = .ok s') :
    s'.stPeerAs = getASN o ∧ (s'.stInternal = true ↔ getASN o = c.localAs) ∧
      (s'.isEBGP = true ↔ getASN o ≠ c.localAs) ∧ (s'.isConfed = true ↔ getASN o ∈ c.confedMembers) := by
  obtain ⟨rfl, _, _, hp, _, _⟩ := accepted_open c s s' o h
  refine ⟨stateChange_stPeerAs c s o, ?_, ?_, ?_⟩
  · rw [stateChange_stInternal]
    by_cases h0 : c.peerAs = 0
    · rw [if_pos h0]; exact beq_iff_eq.trans eq_comm
    · rw [if_neg h0, hc, hp h0]; exact beq_iff_eq
  · rw [stateChange_isEBGP]; exact bne_iff_ne
  · rw [stateChange_isConfed]; exact List.contains_iff_mem

example : (stateChange { (default : LocalCfg) with localAs := 70000 } default
    { (default : Open) with myAs := 23456, params := [.caps [.as4 70000]] }).stInternal = true := by decide

/-- **the session's AS and peer type come from the NEIGHBOUR's effective configuration and the OPEN**,
    however the configuration is given (peer-as configured or 0 = learnt from the OPEN; local-as
    = the global AS, a per-neighbour override, or the confederation identifier): with the
    configuration layer's defaults applied, the AS our OPEN announces is the neighbour's effective
    local AS, the session is internal iff the AS in the peer's OPEN EQUALS THE AS OUR OPEN ANNOUNCED —
    the global AS plays no role beyond the defaults — and isEBGP is its negation. -/
theorem session_as_from_neighbor_config (g : GlobalCfg) (cfgLocalAs : Nat) (c : LocalCfg) (s s' : PeerState) (o : Open)
    (h : negotiate (applyDefaults g cfgLocalAs c) s o = .ok s') :
    let c' := applyDefaults g cfgLocalAs c
    getASN (buildOpen c') = (if cfgLocalAs = 0 then getLocalAsForPeer g c.peerAs else cfgLocalAs) ∧
    s'.stPeerAs = getASN o ∧
    (s'.stInternal = true ↔ getASN o = getASN (buildOpen c')) ∧
    (s'.isEBGP = true ↔ getASN o ≠ getASN (buildOpen c')) ∧
    (s'.isConfed = true ↔ getASN o ∈ g.members) := by
  intro c'
  rw [getASN_buildOpen]
  exact ⟨rfl, peer_type_from_real_as c' s s' o rfl h⟩

example : (stateChange (applyDefaults ⟨65000, false, 0, []⟩ 65100 default) default
      { (default : Open) with myAs := 65100 }).stInternal = true ∧
    (stateChange (applyDefaults ⟨65000, false, 0, []⟩ 65100 default) default
      { (default : Open) with myAs := 65000 }).isEBGP = true ∧
    (applyDefaults ⟨65000, true, 64999, [65001]⟩ 0 { (default : LocalCfg) with peerAs := 70000 }).localAs = 64999 ∧
    (applyDefaults ⟨65000, true, 64999, [65001]⟩ 0 { (default : LocalCfg) with peerAs := 65001 }).localAs = 65000 := by
  decide

/-- **nothing of an earlier session survives**: every negotiated parameter of this property (and the
    session-wide GR / LLGR flags) is a function of the configuration and of THIS OPEN only, whatever
    state earlier sessions left on the peer.  (The per-family GR flags are reset too — compared by
    the harness against a fresh fsm — but have no theorem here.) -/
theorem session_independent_of_history (c : LocalCfg) (s₁ s₂ : PeerState) (o : Open) :
    let a := stateChange c s₁ o
    let b := stateChange c s₂ o
    a.capMap = b.capMap ∧ a.familyMap = b.familyMap ∧ a.extMsg = b.extMsg ∧ a.twoByteAs = b.twoByteAs ∧
    a.hold = b.hold ∧ a.ka3 = b.ka3 ∧ a.stInternal = b.stInternal ∧ a.stPeerAs = b.stPeerAs ∧
    a.isEBGP = b.isEBGP ∧ a.isConfed = b.isConfed ∧ a.grEnabled = b.grEnabled ∧
    a.peerRestartTime = b.peerRestartTime ∧ a.notifEnabled = b.notifEnabled ∧ a.llgrEnabled = b.llgrEnabled := by
  intro a b
  have hg := stateChange_grScalars c s₁ s₂ o
  simp only [grScalars, Prod.mk.injEq] at hg
  simp only [a, b, stateChange_capMap, stateChange_familyMap, stateChange_extMsg, stateChange_twoByteAs,
    stateChange_hold, stateChange_ka3, stateChange_stInternal, stateChange_stPeerAs, stateChange_isEBGP,
    stateChange_isConfed, true_and]
  exact hg

example : (stateChange { (default : LocalCfg) with grEnabled := true }
    (stateChange { (default : LocalCfg) with grEnabled := true } default
      { (default : Open) with params := [.caps [.gr 4 120 []]] })
    default).grEnabled = false := by decide

/-- fixed fields; AS_TRANS exactly for a 4-octet local AS; the real AS is always recoverable -/
theorem open_fixed_fields (c : LocalCfg) (hh : c.hold < 65536) :
    (buildOpen c).version = 4 ∧ (buildOpen c).hold = c.hold ∧ (buildOpen c).id = c.routerId ∧
    (buildOpen c).myAs = (if c.localAs ≤ 65535 then c.localAs else asTrans) ∧
    getASN (buildOpen c) = c.localAs := by
  refine ⟨rfl, Nat.mod_eq_of_lt hh, rfl, ?_, getASN_buildOpen c⟩
  simp only [buildOpen, GT.gt, ← Nat.not_le, ite_not]

/-- the multiprotocol capabilities are exactly the configured families -/
theorem open_families (c : LocalCfg) (f : Family) : Cap.mp f ∈ (buildOpen c).caps ↔ LocalHas c f := by
  rw [buildOpen_caps, mem_capsFromConfig]
  unfold LocalHas
  constructor
  · rintro (h | h | h | h | h | h | h | h | h)
    · cases h
    · cases h
    · cases swCaps_code c _ h
    · cases h
    · obtain ⟨a, ha, he⟩ := List.mem_map.mp h
      exact ⟨a, ha, by injection he⟩
    · cases h
    · rcases grCaps_code c _ h with h | h <;> cases h
    · cases extNhCaps_code c _ h
    · cases capAddPath_code c _ h
  · rintro ⟨a, ha, rfl⟩
    exact Or.inr (Or.inr (Or.inr (Or.inr (Or.inl (List.mem_map.mpr ⟨a, ha, rfl⟩)))))

/-- the ADD-PATH tuples announce exactly the configured directions -/
theorem open_addpath (c : LocalCfg) (f : Family) (m : Nat) :
    (f, m) ∈ allApTuples (buildOpen c).caps ↔ ∃ a ∈ c.afs, a.family = f ∧ a.mode = m ∧ m > 0 := by
  rw [buildOpen_caps, allApTuples_capsFromConfig, List.mem_filterMap]
  constructor
  · rintro ⟨a, ha, h⟩
    by_cases hm : a.mode > 0
    · rw [if_pos hm] at h
      injection h with h; injection h with h1 h2
      exact ⟨a, ha, h1, h2, h2 ▸ hm⟩
    · rw [if_neg hm] at h; cases h
  · rintro ⟨a, ha, rfl, rfl, hm⟩
    exact ⟨a, ha, by rw [if_pos hm]⟩

example : (buildOpen { (default : LocalCfg) with localAs := 4200000000 }).myAs = 23456 := by decide

end C08
