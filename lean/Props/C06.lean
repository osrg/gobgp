import Lemmas.ErrSession
/-
  C06 — malformed UPDATEs are contained: never installed, answered per RFC 7606 / 4271.

  All theorems are about the ABSTRACT layer Model/ErrHandling.lean (`AMsg` = what the byte decoder
  observed of an UPDATE: attribute observations in wire order, how the attribute loop stopped, NLRI
  result).  The byte layer Model/UpdateWire.lean (bytes → AMsg) carries no theorem: it is tied to
  gobgp only by the correspondence run (real DecodeFromBytes / ValidateUpdateMsg / recvMessageloop
  vs. the model on generated UPDATE bytes), as is the abstract layer itself.  The per-type class
  table and the flag-validity table are compared with the real functions over their WHOLE domain
  (256 types, 256 x 256 type/flag pairs) on every run.
  The model mirrors gobgp WITH the two fix commits 843bb66 and b4564fc of /repo (see props/C06.json).
-/
namespace C06
open ErrH

/-- AS4_AGGREGATOR without AGGREGATOR (RFC 6793; gobgp: NOTIFICATION 3/1) -/
def aggFault (attrs : List AttrObs) : List MErr :=
  if hasT attrs 18 && !hasT attrs 7 then [MErr.fatal 3 1] else []

/-- ALL faults present in an UPDATE whose length fields and NLRI are sound: decode faults of every
    attribute, framing faults of the attribute field, and the semantic faults (duplicates, bad
    ORIGIN / NEXT_HOP / AS_PATH-vs-peer-type values, unrecognised well-known, family not negotiated,
    missing mandatory, lone AS4_AGGREGATOR) of the attributes that decoded. -/
def allFaults (c : Cfg) (m : AMsg) : List MErr :=
  decodeFaults m ++ (semAll c (good m.items) m.wd m.nlri ++ aggFault (good m.items))

/-- the session's view of a class when RFC 7606 handling is on: AFI/SAFI-disable is not implemented
    and becomes a session reset (`handlingError`) -/
def effR (r : Nat) : Nat := if r = 3 then 4 else r

/-- `BGPUpdate.DecodeFromBytes`: the class returned is the maximum over the decode faults of all
    attributes and of the framing, wherever they sit. -/
theorem C06_decode_strongest (m : AMsg) (hp : m.pre = none) (hn : m.nlriErr = none) :
    rk (decode m).err = maxRk (decodeFaults m) := decode_rk m hp hn

/-- `ValidateUpdateMsg`: the class returned is the maximum over all semantic faults, despite the
    early returns. -/
theorem C06_validate_strongest (c : Cfg) (attrs : List AttrObs) (wd nlri : Nat) :
    rk (validate c attrs wd nlri).1 = maxRk (semAll c attrs wd nlri) := validate_rk c attrs wd nlri

example : ∃ m : AMsg, m.pre = none ∧ m.nlriErr = none ∧ maxRk (decodeFaults m) = 2 :=
  ⟨{ items := [{ typ := 6, flags := 0x40, derr := some (3, 5) }, { typ := 1, flags := 0x40, derr := some (3, 1) }] },
   rfl, rfl, by decide⟩

/-- weakest class RFC 7606 (section 7) / RFC 6793 allow for a malformed attribute of each type
    (1 discard, 2 treat-as-withdraw, 3 AFI/SAFI disable or reset); 0 = RFC silent -/
def rfcClass (t : Nat) : Nat :=
  match t with
  | 1 => 2 | 2 => 2 | 3 => 2 | 4 => 2 | 5 => 2 | 6 => 1 | 7 => 1 | 8 => 2 | 9 => 2 | 10 => 2
  | 14 => 3 | 15 => 3 | 16 => 2 | 17 => 1 | 18 => 1 | 25 => 2 | 32 => 2
  | _ => 0

/-- the class table of gobgp is never weaker than the RFCs, equal on the RFC 7606 section 7 list
    (types 1-10, 14-16), and never `none` -/
theorem rfc7606_table :
    (∀ t, t < 256 → rfcClass t ≤ (attrClass t).rank) ∧
    (∀ t, t < 256 → (t ≤ 10 ∨ (14 ≤ t ∧ t ≤ 16)) → 0 < t → rfcClass t = (attrClass t).rank) ∧
    (∀ t, t < 256 → 1 ≤ (attrClass t).rank) := by
  refine ⟨fun t _ => ?_, fun t _ h7 hpos => ?_, fun t _ => attrClass_pos t⟩
  · -- `rfcClass` is 0 outside the 17 types it lists
    unfold rfcClass
    split <;> first | decide | exact Nat.zero_le _
  · have h17 : ∀ t, t < 17 → (t ≤ 10 ∨ (14 ≤ t ∧ t ≤ 16)) → 0 < t →
        rfcClass t = (attrClass t).rank := by decide
    exact h17 t (by omega) h7 hpos

/- C06_strongest, the full statement (FALSE for gobgp, see the counterexample):
     ∀ c m, c.revised → m.pre = none → m.nlriErr = none →
       (sessionAction c m).rank = effR (maxRk (allFaults c m))
   recvMessageloop does not validate after a treat-as-withdraw class decode error, so a
   session-reset class semantic fault in the same UPDATE is not seen.  (known finding) -/

theorem C06_strongest_counterexample :
    ∃ (c : Cfg) (m : AMsg), c.revised = true ∧ m.pre = none ∧ m.nlriErr = none ∧
      (sessionAction c m).rank = 2 ∧ effR (maxRk (allFaults c m)) = 4 :=
  ⟨⟨true, true, false, false, true, true⟩,
   { items := [{ typ := 1, flags := 0x40 }, { typ := 2, flags := 0x40, segs := [2] },
               { typ := 3, flags := 0x40, derr := some (3, 5) }, { typ := 99, flags := 0x40 }],
     nlri := 1 },
   rfl, rfl, rfl, by decide, by decide⟩

theorem effR_of_ge {r : Nat} (h3 : 3 ≤ r) (h4 : r ≤ 4) : effR r = 4 := by
  unfold effR
  split <;> omega

theorem effR_of_le {r : Nat} (h : r ≤ 2) : effR r = r :=
  if_neg (by omega)

theorem maxRk_allFaults (c : Cfg) (m : AMsg) :
    maxRk (allFaults c m) = max (maxRk (decodeFaults m))
      (max (maxRk (semAll c (good m.items) m.wd m.nlri))
        (if hasT (good m.items) 18 && !hasT (good m.items) 7 then 4 else 0)) := by
  unfold allFaults aggFault
  rw [maxRk_append, maxRk_append]
  split <;> rfl

/-- The rank of the session's reaction in full: the strongest class among all faults present —
    except after a treat-as-withdraw class decode fault, where validation is skipped and only a lone
    AS4_AGGREGATOR can still raise it. -/
theorem session_rank (c : Cfg) (m : AMsg) (hr : c.revised = true)
    (hp : m.pre = none) (hn : m.nlriErr = none) :
    (sessionAction c m).rank =
      if maxRk (decodeFaults m) = 2 then (if aggErr (m.items.filter kept) then 4 else 2)
      else effR (maxRk (allFaults c m)) := by
  have hA := maxRk_allFaults c m
  have hA4 := maxRk_le_four (allFaults c m)
  rcases sessionAction_sound c hr m hp hn with
    ⟨h3, h4⟩ | ⟨h2, ha⟩ | ⟨h1, hV, h4⟩ | ⟨h1, hV, h, hh, ha⟩
  · have hge : 3 ≤ maxRk (allFaults c m) := hA ▸ Nat.le_trans h3 (Nat.le_max_left _ _)
    rw [h4, if_neg (by omega), effR_of_ge hge hA4]
  · rw [if_pos h2, ha, finish_rank]
    rfl
  · have hge : 3 ≤ maxRk (allFaults c m) :=
      hA ▸ Nat.le_trans hV (Nat.le_trans (Nat.le_max_left _ _) (Nat.le_max_right _ _))
    rw [h4, if_neg (by omega), effR_of_ge hge hA4]
  · rw [if_neg (by omega), ha, finish_rank, aggErr_firsts _ (good_derr m.items)]
    cases hb : hasT (good m.items) 18 && !hasT (good m.items) 7
    · have h2 : h.rank ≤ 2 := hh ▸ Nat.max_le.mpr ⟨Nat.le_trans h1 (Nat.le_succ 1), hV⟩
      simp only [hb, Bool.false_eq_true, ↓reduceIte, Nat.max_zero] at hA ⊢
      rw [hA, ← hh, effR_of_le h2, Nat.min_eq_left h2]
    · have hge : 3 ≤ maxRk (allFaults c m) := by
        simp only [hb, ↓reduceIte] at hA
        exact hA ▸ Nat.le_trans (Nat.le_succ 3)
          (Nat.le_trans (Nat.le_max_right _ 4) (Nat.le_max_right _ _))
      rw [if_pos rfl, effR_of_ge hge hA4]

/-- With RFC 7606 handling enabled, sound length fields and NLRI, and a decode class other than
    treat-as-withdraw: the session's reaction is EXACTLY the strongest class among all faults
    present in the UPDATE (install = 0, attribute discard = 1, treat-as-withdraw = 2, reset = 4). -/
theorem C06_strongest_partial (c : Cfg) (m : AMsg) (hr : c.revised = true)
    (hp : m.pre = none) (hn : m.nlriErr = none) (hmask : maxRk (decodeFaults m) ≠ 2) :
    (sessionAction c m).rank = effR (maxRk (allFaults c m)) := by
  rw [session_rank c m hr hp hn, if_neg hmask]

example : ∃ (c : Cfg) (m : AMsg), c.revised = true ∧ m.pre = none ∧ m.nlriErr = none ∧
    maxRk (decodeFaults m) ≠ 2 ∧ maxRk (allFaults c m) = 2 :=
  ⟨⟨true, true, false, false, true, true⟩,
   { items := [{ typ := 6, flags := 0x40, derr := some (3, 5) }, { typ := 2, flags := 0x40, segs := [2] },
               { typ := 3, flags := 0x40, nh := [10, 0, 0, 1] }], nlri := 1 },
   rfl, rfl, rfl, by decide, by decide⟩

/-- In the remaining case (a treat-as-withdraw class decode fault and nothing stronger in the
    decoder) the reaction is never weaker than treat-as-withdraw: the UPDATE is contained even
    where `C06_strongest` fails. -/
theorem C06_withdraw_floor (c : Cfg) (m : AMsg) (hr : c.revised = true)
    (hp : m.pre = none) (hn : m.nlriErr = none) (h2 : maxRk (decodeFaults m) = 2) :
    (sessionAction c m).rank = 2 ∨ (sessionAction c m).rank = 4 := by
  rw [session_rank c m hr hp hn, if_pos h2]
  split
  · exact .inr rfl
  · exact .inl rfl

/-- Whenever routes are created from an UPDATE (actions `install` / `discardAttrs`), every
    attribute they carry arrived well-formed (its decoder reported nothing, ValidateAttribute
    reports nothing), no attribute type occurs twice, and when the UPDATE has NLRI the mandatory
    ORIGIN, AS_PATH and NEXT_HOP are among them; the length fields and the NLRI were sound. -/
theorem C06_never_install_malformed (c : Cfg) (m : AMsg) (hr : c.revised = true) (l : List AttrObs)
    (h : sessionAction c m = .install l ∨ sessionAction c m = .discardAttrs l) :
    m.pre = none ∧ m.nlriErr = none ∧
    (∀ a ∈ l, a ∈ m.items ∧ a.derr = none ∧ validateAttr c a = none) ∧
    (l.map (·.typ)).Nodup ∧
    (m.nlri > 0 → hasT l 1 = true ∧ hasT l 2 = true ∧ hasT l 3 = true) := by
  have hrank : (sessionAction c m).rank ≤ 1 := by
    rcases h with h | h <;> rw [h]
    · exact Nat.zero_le 1
    · exact Nat.le_refl 1
  have ⟨hp, hn⟩ : m.pre = none ∧ m.nlriErr = none := Classical.byContradiction fun hc => by
    obtain ⟨x, y, hx⟩ := sessionAction_fatal c m hc
    rw [hx] at hrank
    exact absurd hrank (by decide : ¬ 4 ≤ 1)
  rcases sessionAction_sound c hr m hp hn with
    ⟨_, h4⟩ | ⟨_, ha⟩ | ⟨_, _, h4⟩ | ⟨hD, hV, hh, hhr, ha⟩
  · omega
  · simp only [ha, finish_rank, Handling.rank] at hrank
    split at hrank <;> omega
  · omega
  -- validation ran and did not reset: `l` is what it left
  rw [ha, finish_rank] at hrank
  have hS : maxRk (semAll c (good m.items) m.wd m.nlri) ≤ 1 := by split at hrank <;> omega
  obtain rfl := finish_list hh _ l (ha ▸ h)
  unfold semAll at hS
  simp only [maxRk_append, Nat.max_le] at hS
  refine ⟨hp, hn, fun a ha => ?_, firsts_nodup _ _, fun hpos => ?_⟩
  · have hg := (firsts_mem _ _ a ha).1
    refine ⟨(List.mem_filter.mp hg).1, good_derr m.items a hg, ?_⟩
    have hle : rk (validateAttr c a) ≤ 1 := Nat.le_trans (semFaults_of_firsts c _ _ a ha) hS.2.1
    cases hv : validateAttr c a with
    | none => rfl
    | some e =>
      rw [hv] at hle
      exact absurd (Nat.le_trans (validateAttr_rank c a e hv) hle) (by decide)
  · simp only [hasT_firsts, List.contains_nil, Bool.not_false, Bool.and_true]
    exact missingFault_le (good m.items) m.nlri hS.2.2 hpos

example : sessionAction ⟨true, true, false, false, true, true⟩
    { items := [{ typ := 6, flags := 0x40, derr := some (3, 5) }, { typ := 1, flags := 0x40 },
                { typ := 2, flags := 0x40, segs := [2] }, { typ := 3, flags := 0x40, nh := [10, 0, 0, 1] }],
      nlri := 1 }
    = .discardAttrs [{ typ := 1, flags := 0x40 }, { typ := 2, flags := 0x40, segs := [2] },
                     { typ := 3, flags := 0x40, nh := [10, 0, 0, 1] }] := by decide

/-- An UPDATE without any fault is installed exactly as received, whatever the configuration. -/
theorem C06_wellformed_unpenalised (c : Cfg) (m : AMsg) (hp : m.pre = none) (hn : m.nlriErr = none)
    (hf : allFaults c m = []) : sessionAction c m = .install m.items := by
  unfold allFaults at hf
  obtain ⟨hd, hf⟩ := List.append_eq_nil_iff.mp hf
  obtain ⟨hs, ha⟩ := List.append_eq_nil_iff.mp hf
  have hg := good_eq_self m.items (List.append_eq_nil_iff.mp hd).1
  rw [hg] at hs ha
  have hdec : decode m = ⟨none, m.items, m.wd, m.nlri⟩ := by
    rw [decode_good m hp hn (by rw [hd]; exact Nat.zero_le 1), hd, hg]
    rfl
  have hagg : aggErr m.items = false := by
    rw [aggErr_eq m.items fun a ha' => good_derr m.items a (hg.symm ▸ ha')]
    unfold aggFault at ha
    split at ha
    · nomatch ha
    · exact Bool.eq_false_iff.mpr ‹_›
  unfold sessionAction
  simp only [hdec, validate_clean c m.items m.wd m.nlri hs, finish, hagg]
  rfl

example : ∃ (c : Cfg) (m : AMsg), m.pre = none ∧ m.nlriErr = none ∧ allFaults c m = [] ∧ m.items.length = 4 :=
  ⟨⟨true, true, false, false, true, true⟩,
   { items := [{ typ := 1, flags := 0x40 }, { typ := 2, flags := 0x40, segs := [2] },
               { typ := 3, flags := 0x40, nh := [10, 0, 0, 1] }, { typ := 99, flags := 0xc0 }], nlri := 2 },
   rfl, rfl, by decide, rfl⟩

/-- With revised error handling switched off there is no attribute discard and no
    treat-as-withdraw: the UPDATE is installed whole — and then neither the decoder nor the
    validator reported anything — or the session is reset with the error's code/subcode. -/
theorem C06_disabled_resets (c : Cfg) (hr : c.revised = false) (m : AMsg) :
    (∃ l, sessionAction c m = .install l ∧ (decode m).err = none ∧
        (validate c (decode m).attrs (decode m).wd (decode m).nlri).1 = none) ∨
      (∃ code sub, sessionAction c m = .reset code sub) := by
  unfold sessionAction
  generalize decode m = d
  obtain ⟨err, attrs, wd, nlri⟩ := d
  simp only
  generalize validate c attrs wd nlri = v
  obtain ⟨ve, l'⟩ := v
  cases err with
  | none =>
    cases ve with
    | none =>
      simp only [finish]
      by_cases ha : aggErr l' = true
      · right; exact ⟨3, 1, by simp [ha]⟩
      · left; exact ⟨l', by simp [ha]⟩
    | some e => right; exact ⟨e.code, e.sub, by simp [handlingError, hr]⟩
  | some e => right; exact ⟨e.code, e.sub, by simp [handlingError, hr]⟩

/-- ... and any decode fault at all is reported by the decoder (so it resets the session) -/
theorem C06_disabled_resets_decode (c : Cfg) (hr : c.revised = false) (m : AMsg)
    (hp : m.pre = none) (hn : m.nlriErr = none) (hf : decodeFaults m ≠ []) :
    ∃ code sub, sessionAction c m = .reset code sub := by
  cases C06_disabled_resets c hr m with
  | inr h => exact h
  | inl h =>
    obtain ⟨l, _, herr, _⟩ := h
    rw [decode_eq m hp hn] at herr
    exact absurd ((foldl_keep_eq_none _).mp herr) hf

example : ∃ m : AMsg, m.pre = none ∧ m.nlriErr = none ∧ decodeFaults m ≠ [] :=
  ⟨{ items := [{ typ := 6, flags := 0x40, derr := some (3, 5) }] }, rfl, rfl, by decide⟩

/-- The class the decoder reports does not depend on the order in which the attributes (and hence
    the malformed ones) appear in the UPDATE. -/
theorem C06_position_independent (m1 m2 : AMsg) (hperm : m1.items.Perm m2.items)
    (hstop : m1.stop = m2.stop) (hp1 : m1.pre = none) (hp2 : m2.pre = none)
    (hn1 : m1.nlriErr = none) (hn2 : m2.nlriErr = none) :
    rk (decode m1).err = rk (decode m2).err := by
  rw [decode_rk m1 hp1 hn1, decode_rk m2 hp2 hn2]
  unfold decodeFaults
  rw [maxRk_append, maxRk_append, hstop, maxRk_perm (itemFaults_perm hperm)]

example : ∃ m1 m2 : AMsg, m1.items.Perm m2.items ∧ m1.items ≠ m2.items ∧ rk (decode m1).err = 2 :=
  ⟨{ items := [{ typ := 6, flags := 0x40, derr := some (3, 5) }, { typ := 1, flags := 0x40, derr := some (3, 1) }] },
   { items := [{ typ := 1, flags := 0x40, derr := some (3, 1) }, { typ := 6, flags := 0x40, derr := some (3, 5) }] },
   List.Perm.swap _ _ _, by decide, by decide⟩

/-- Whatever is delivered to the RIB (`effect` = peer.handleUpdate → table.ProcessMessage), unless it
    is an End-of-RIB marker:
    * accepted (install / attribute discard): its NLRI and MP_REACH prefixes are announced, and the
      prefixes it withdraws explicitly (WITHDRAWN ROUTES field, MP_UNREACH_NLRI) are withdrawn;
    * treat-as-withdraw: nothing is announced and EVERY prefix it names — NLRI, MP_REACH, WITHDRAWN
      ROUTES, MP_UNREACH — is withdrawn.
    A session reset delivers nothing (`effect = none`, second theorem). -/
theorem C06_withdrawals_executed (c : Cfg) (m : AMsg) (e : Effect) (h : effect c m = some e) :
    (∃ l, (sessionAction c m = .install l ∨ sessionAction c m = .discardAttrs l) ∧
        (isEOR l (decode m).wd (decode m).nlri = true ∨
          (e.announced = (decode m).nlri + lastNpfx l 14 ∧
           e.withdrawn = (decode m).wd + lastNpfx l 15))) ∨
    (∃ l, sessionAction c m = .withdrawAll l ∧
        (isEOR l (decode m).wd (decode m).nlri = true ∨
          (e.announced = 0 ∧
           e.withdrawn = (decode m).nlri + lastNpfx l 14 + ((decode m).wd + lastNpfx l 15)))) := by
  unfold effect at h
  cases hs : sessionAction c m <;> rw [hs] at h <;> cases h
  · exact .inl ⟨_, .inl rfl, processMessage_cases false _ _ _⟩
  · exact .inl ⟨_, .inr rfl, processMessage_cases false _ _ _⟩
  · exact .inr ⟨_, rfl, processMessage_cases true _ _ _⟩

theorem C06_reset_delivers_nothing (c : Cfg) (m : AMsg) :
    effect c m = none ↔ ∃ code sub, sessionAction c m = .reset code sub := by
  unfold effect
  cases hs : sessionAction c m <;> simp

example : effect ⟨true, true, false, false, true, true⟩
    { wd := 2, nlri := 1,
      items := [{ typ := 1, flags := 0x40, origin := 7 }, { typ := 2, flags := 0x40, segs := [2] },
                { typ := 3, flags := 0x40, nh := [10, 0, 0, 1] },
                { typ := 15, flags := 0x80, afi := 2, safi := 1, npfx := 3 }] }
    = some ⟨0, 6⟩ := by decide

/-- The handling of an UPDATE is a function of that UPDATE and of the session's negotiated
    parameters only: after ANY history of UPDATEs that did not reset the session, the next UPDATE is
    handled exactly as if it were the first one of a fresh session with the same parameters.
    (The model of recvMessageloop has no per-session memory; that the real loop has none either is
    what the sequence part of the session harness checks: every message of generated UPDATE
    sequences is compared with the model and with its own delivery on a fresh session.) -/
theorem C06_handling_independent_of_history (c : Cfg) (history : List AMsg) (m : AMsg)
    (h : ∀ x ∈ history, (sessionAction c x).isReset = false) :
    sessionRun c (history ++ [m]) = history.map (sessionAction c) ++ sessionRun c [m] ∧
    sessionRun c [m] = [sessionAction c m] := by
  refine ⟨sessionRun_append c history [m] h, ?_⟩
  simp only [sessionRun]
  split <;> rfl

example : ∃ (c : Cfg) (history : List AMsg), history.length = 2 ∧
    ∀ x ∈ history, (sessionAction c x).isReset = false :=
  ⟨⟨true, true, false, false, true, true⟩,
   [{ items := [{ typ := 1, flags := 0x40 }, { typ := 2, flags := 0x40, segs := [2] }], wd := 1 },
    { items := [{ typ := 1, flags := 0x40 }, { typ := 2, flags := 0x40, segs := [2] }], nlri := 1 }],
   rfl, by decide⟩

/-- Under treat-as-withdraw every path handed to the RIBs is a withdrawal, and it carries the path
    identifier of the NLRI it stands for — for the NLRI field, MP_REACH_NLRI, WITHDRAWN ROUTES and
    MP_UNREACH_NLRI alike (with ADD-PATH the RIBs match a withdrawal on prefix AND path identifier;
    without it every identifier is 0). -/
theorem C06_withdrawals_carry_path_ids (c : Cfg) (m : AMsg) (l : List AttrObs)
    (h : sessionAction c m = .withdrawAll l)
    (hne : isEOR l m.wdIds.length m.nlriIds.length = false) :
    effectPaths c m = some (((m.nlriIds ++ lastIds l 14) ++ (m.wdIds ++ lastIds l 15)).map (fun i => (true, i))) := by
  unfold effectPaths
  rw [h]
  simp [processPaths, hne, List.map_append]

example : effectPaths ⟨true, true, false, false, true, true⟩
    { wd := 1, wdIds := [9], nlri := 1, nlriIds := [7],
      items := [{ typ := 1, flags := 0x40, origin := 7 }, { typ := 2, flags := 0x40, segs := [2] },
                { typ := 3, flags := 0x40, nh := [10, 0, 0, 1] },
                { typ := 14, flags := 0x80, afi := 2, safi := 1, npfx := 2, ids := [5, 6] }] }
    = some [(true, 7), (true, 5), (true, 6), (true, 9)] := by decide

end C06
